import FlytModel.Proofs.Path
import FlytModel.Spec.FlowRetry
import FlytModel.Proofs.L.LeafFacts
/-!
# Helper lemmas for the bridge theorem of `Spec.c02Flow` (`Props/C02Flow.lean`)

The attempts of `Run` on a flow with a retry budget are counted from outside as prep events of the flow's start node
`s` (`Spec.startPreps`). This file shows that the count is exact for the model:

* a leaf with a prep callback, run on a live context, emits exactly one prep event (`runLeaf_live_startPreps`);
* a run that stays inside a set of nodes `Safe` that does not contain `s` and is closed under "start node of" and
  "target of a connection of" emits no prep event of `s` (`noPrep_run`, fuel induction: also for runs cut by `fuel`);
* hence every attempt of `Flow.Exec` from `s` shows as exactly one prep event of `s` (`flowLoop_start_startPreps`) and
  `startPreps s (events) = attempts` for the whole retry loop (`retryLoop_startPreps`);
* the attempt count of `retryLoop` in terms of its outcome alone (`retryLoop_ok_pos`, `retryLoop_nonctx_exhausts`: an
  outcome other than an action or the context's error is only ever returned when the budget is used up — no hypothesis
  on cancellation is needed), and `retryLoop_not_both`, `retryLoop_lowfuel`.
-/
namespace Flyt.Proofs
open Flyt

def isPrepOf (s : NodeId) : Ev → Bool
  | .prep n _ _ => n == s
  | _ => false

theorem startPreps_eq (s : NodeId) (tr : List Ev) :
    Spec.startPreps s tr = (tr.filter (isPrepOf s)).length := by
  unfold Spec.startPreps
  congr 2

theorem startPreps_nil (s : NodeId) : Spec.startPreps s [] = 0 := rfl

theorem startPreps_append (s : NodeId) (a b : List Ev) :
    Spec.startPreps s (a ++ b) = Spec.startPreps s a + Spec.startPreps s b := by
  simp [startPreps_eq]

theorem startPreps_zero {s : NodeId} {tr : List Ev} (h : ∀ e ∈ tr, isPrepOf s e = false) :
    Spec.startPreps s tr = 0 := by
  rw [startPreps_eq, List.length_eq_zero_iff, List.filter_eq_nil_iff]
  intro e he
  simp [h e he]

/-- wait events are not prep events: the driver's filtering of the trace does not change the count -/
theorem startPreps_noWaits (s : NodeId) (tr : List Ev) :
    Spec.startPreps s (Spec.noWaits tr) = Spec.startPreps s tr := by
  rw [startPreps_eq, startPreps_eq, Spec.noWaits, List.filter_filter]
  congr 1
  apply List.filter_congr
  intro e _
  cases e <;> simp [isPrepOf, Ev.isWait]

theorem isPrepOf_of_not_prep (s : NodeId) {e : Ev} (h : Spec.isPrepEv e = false) : isPrepOf s e = false := by
  cases e <;> simp_all [isPrepOf, Spec.isPrepEv]

theorem LeafEv.notPrepOf {n v sid e s} (h : LeafEv n v sid e) (hne : n ≠ s) : isPrepOf s e = false := by
  cases e <;> simp_all [LeafEv, isPrepOf]

theorem BatchEv.notPrepOf {n v sid e} (s : NodeId) (h : BatchEv n v sid e) : isPrepOf s e = false := by
  cases e <;> simp_all [BatchEv, ItemEv, isPrepOf]

theorem runLeaf_live_startPreps {kind n v sid cfg scr} (hp : cfg.prepS ≠ .absent) :
    Spec.startPreps n (runLeaf kind n v sid cfg scr .live).1 = 1 := by
  obtain ⟨rest, h1, h2⟩ := (Leaf.runLeaf_live_spec kind n v sid cfg scr).prep_first
  rw [h1, startPreps_append, startPreps_zero fun e he => isPrepOf_of_not_prep n (h2 e he)]
  simp [Leaf.preEvs, hp, startPreps_eq, isPrepOf]

/-- every (non-nil) target the table can yield is in `Safe` -/
def TblSafe (Safe : NodeId → Prop) (tbl : Table) : Prop :=
  ∀ n a d, tableLookup tbl n a = some (some d) → Safe d

/-- `Safe` is closed under what a run can reach from a flow node: its start node and the targets of its connections -/
structure Closed (env : Env) (Safe : NodeId → Prop) : Prop where
  start : ∀ id t ops, Safe id → env.arena id = .flow (some t) ops → Safe t
  conn : ∀ id st ops, Safe id → env.arena id = .flow st ops → ∀ c ∈ ops, ∀ d, c.dst = some d → Safe d

theorem next_mem {ops : List ConnOp} {n : NodeId} {a : Action} {d : Option NodeId} (h : next ops n a = some d) :
    ∃ c ∈ ops, c.dst = d := by
  unfold next at h
  rw [Option.map_eq_some_iff] at h
  obtain ⟨c, hc, rfl⟩ := h
  exact ⟨c, by simpa using List.mem_of_find?_eq_some hc, rfl⟩

theorem tblSafe_buildTable {Safe : NodeId → Prop} {ops : List ConnOp}
    (h : ∀ c ∈ ops, ∀ d, c.dst = some d → Safe d) : TblSafe Safe (buildTable ops) := by
  intro n a d hl
  rw [Table.tableLookup_buildTable] at hl
  obtain ⟨c, hc, hd⟩ := next_mem hl
  exact h c hc d hd

theorem noPrep_run (env : Env) (s : NodeId) (Safe : NodeId → Prop) (hs : ¬ Safe s) (hcl : Closed env Safe)
    (sid : StoreId) (f : Nat) :
    (∀ id st, Safe id → ∀ e ∈ (runNode env f id sid st).1, isPrepOf s e = false) ∧
    (∀ tbl cur st, TblSafe Safe tbl → Safe cur → ∀ e ∈ (flowLoop env f tbl cur sid st).1, isPrepOf s e = false) := by
  induction f with
  | zero =>
    constructor
    · intro id st _ e he; simp [runNode] at he
    · intro tbl cur st _ _ e he; simp [flowLoop] at he
  | succ f ih =>
    obtain ⟨ihN, ihL⟩ := ih
    constructor
    · intro id st hid e he
      have hne : id ≠ s := fun h => hs (h ▸ hid)
      cases hA : env.arena id with
      | leaf cfg =>
        rw [runNode_leaf hA] at he
        simp only [leafStep] at he
        exact (runLeaf_mem (evs := (runLeaf _ _ _ _ _ _ _).1) (c := (runLeaf _ _ _ _ _ _ _).2.1)
          (out := (runLeaf _ _ _ _ _ _ _).2.2) rfl e he).notPrepOf hne
      | batch cfg =>
        rw [runNode_batch hA] at he
        simp only [batchStep] at he
        exact (runBatch_mem (evs := (runBatch _ _ _ _ _ _ _).1) (c := (runBatch _ _ _ _ _ _ _).2.1)
          (out := (runBatch _ _ _ _ _ _ _).2.2) rfl e he).notPrepOf s
      | flow start ops =>
        simp only [runNode, hA] at he
        cases hc : st.ctx with
        | done k => simp [hc] at he
        | live =>
          simp only [hc] at he
          cases start with
          | none => simp at he
          | some t =>
            simp only at he
            have hmem := ihL (buildTable ops) t st (tblSafe_buildTable (hcl.conn id _ ops hid hA))
              (hcl.start id t ops hid hA)
            rcases hl : flowLoop env f (buildTable ops) t sid st with ⟨evs, st', out⟩
            rw [hl] at he hmem
            cases out <;> exact hmem e (by simpa using he)
    · intro tbl cur st htbl hcur e he
      rw [flowLoop] at he
      cases hc : st.ctx with
      | done k => simp [hc] at he
      | live =>
        simp only [hc] at he
        have h1 := ihN cur st hcur
        rcases hn : runNode env f cur sid st with ⟨evs1, st1, r1⟩
        rw [hn] at he h1
        cases r1 with
        | ok a =>
          simp only at he
          cases hx : tableLookup tbl cur a with
          | none => simp only [hx] at he; exact h1 e he
          | some t =>
            cases t with
            | none => simp only [hx] at he; exact h1 e he
            | some nxt =>
              simp only [hx] at he
              have h2 := ihL tbl nxt st1 htbl (htbl cur a nxt hx)
              rcases hl : flowLoop env f tbl nxt sid st1 with ⟨evs2, st2, r2⟩
              rw [hl] at he h2
              simp only [List.mem_append] at he
              rcases he with he | he
              · exact h1 e he
              · exact h2 e he
        | err x => exact h1 e he
        | both a x => exact h1 e he
        | fuel => exact h1 e he

/-- the shape the driver accepts, abstractly: `s` is a leaf with a prep callback, outside a closed set `Safe` that holds
    every target of the root flow's table -/
structure Shape (env : Env) (s : NodeId) (Safe : NodeId → Prop) (tbl : Table) : Prop where
  leaf : ∃ cfg, env.arena s = .leaf cfg ∧ cfg.prepS ≠ .absent
  notSafe : ¬ Safe s
  closed : Closed env Safe
  tbl : TblSafe Safe tbl

theorem flowLoop_start_startPreps {env : Env} {s : NodeId} {Safe : NodeId → Prop} {tbl : Table}
    (sh : Shape env s Safe tbl) (sid : StoreId) (f : Nat) (st : RunSt) (hlive : st.ctx = .live) :
    Spec.startPreps s (flowLoop env (f + 2) tbl s sid st).1 = 1 := by
  obtain ⟨cfg, hA, hp⟩ := sh.leaf
  rw [flowLoop]
  simp only [hlive]
  rw [runNode_leaf hA]
  have key : Spec.startPreps s (leafStep env s sid cfg st).1 = 1 := by
    simp only [leafStep, hlive]
    exact runLeaf_live_startPreps hp
  rcases hn : leafStep env s sid cfg st with ⟨evs1, st1, r1⟩
  rw [hn] at key
  cases r1 with
  | ok a =>
    simp only
    cases hx : tableLookup tbl s a with
    | none => exact key
    | some t =>
      cases t with
      | none => exact key
      | some nxt =>
        simp only
        have h2 := (noPrep_run env s Safe sh.notSafe sh.closed sid (f + 1)).2 tbl nxt st1 sh.tbl (sh.tbl s a nxt hx)
        rcases hl : flowLoop env (f + 1) tbl nxt sid st1 with ⟨evs2, st2, r2⟩
        rw [hl] at h2
        simp only
        rw [startPreps_append, key, startPreps_zero h2]
  | err x => exact key
  | both a x => exact key
  | fuel => exact key

theorem flowLoop_lowfuel {env : Env} {fuel : Nat} (hf : fuel < 2) (tbl : Table) (s : NodeId) (sid : StoreId)
    (st : RunSt) (hlive : st.ctx = .live) : flowLoop env fuel tbl s sid st = ([], st, .fuel) := by
  match fuel, hf with
  | 0, _ => simp [flowLoop]
  | 1, _ => simp [flowLoop, hlive, runNode]

/-- **the key lemma**: the number of attempts is the number of prep events of the start node -/
theorem retryLoop_startPreps {env : Env} {s : NodeId} {Safe : NodeId → Prop} {tbl : Table}
    (sh : Shape env s Safe tbl) (sid : StoreId) (fuel : Nat) (hf : 2 ≤ fuel) (k : Nat) (last : Outcome) (st : RunSt) :
    Spec.startPreps s (retryLoop env fuel tbl s sid k last st).1 = (retryLoop env fuel tbl s sid k last st).2.2.2 := by
  obtain ⟨f, rfl⟩ : ∃ f, fuel = f + 2 := ⟨fuel - 2, by omega⟩
  fun_induction retryLoop env (f + 2) tbl s sid k last st with
  | case1 | case2 => rfl
  | case3 _ _ st hc _ _ _ hl =>
    have h1 := flowLoop_start_startPreps sh sid f st hc
    rwa [hl] at h1
  | case4 _ _ st hc _ _ _ _ hl r ih =>
    have h1 := flowLoop_start_startPreps sh sid f st hc
    rw [hl] at h1
    have ih : Spec.startPreps s r.1 = r.2.2.2 := ih
    simp only [startPreps_append, h1, ih]; omega

theorem retryLoop_ok_pos (env : Env) (fuel : Nat) (tbl : Table) (s : NodeId) (sid : StoreId)
    (k : Nat) (last : Outcome) (st : RunSt) (a : Action)
    (h : (retryLoop env fuel tbl s sid (k + 1) last st).2.2.1 = .ok a) :
    1 ≤ (retryLoop env fuel tbl s sid (k + 1) last st).2.2.2 := by
  unfold retryLoop at h ⊢
  cases hc : st.ctx with
  | done c => simp [hc] at h
  | live =>
    simp only
    rcases hl : flowLoop env fuel tbl s sid st with ⟨evs, st', out⟩
    cases out <;> simp

/-- an outcome that is neither an action nor the context's error is only returned when the budget is used up:
    the loop leaves early only by success (`break`) or by the context check between attempts -/
theorem retryLoop_nonctx_exhausts (env : Env) (fuel : Nat) (tbl : Table) (s : NodeId) (sid : StoreId)
    (k : Nat) (last : Outcome) (st : RunSt)
    (hok : ∀ a, (retryLoop env fuel tbl s sid k last st).2.2.1 ≠ .ok a)
    (hctx : ∀ c, (retryLoop env fuel tbl s sid k last st).2.2.1 ≠ .err (.ctx c)) :
    (retryLoop env fuel tbl s sid k last st).2.2.2 = k := by
  fun_induction retryLoop env fuel tbl s sid k last st with
  | case1 => rfl
  | case2 _ _ _ c => exact absurd rfl (hctx c)
  | case3 _ _ _ _ _ _ a => exact absurd rfl (hok a)
  | case4 _ _ _ _ _ _ _ _ _ _ ih => exact congrArg (· + 1) (ih hok hctx)

theorem flowLoop_not_both {env : Env} {f : Nat} {ops : List ConnOp} {cur : NodeId} {sid : StoreId} {st st' : RunSt}
    {evs : List Ev} {a : Action} {e : ErrRoot} :
    flowLoop env f (buildTable ops) cur sid st ≠ (evs, st', .both a e) := by
  intro h
  exact big_proper (big_of_flowLoop h (by simp))

theorem retryLoop_not_both (env : Env) (fuel : Nat) (ops : List ConnOp) (s : NodeId) (sid : StoreId)
    (k : Nat) (last : Outcome) (st : RunSt) (hlast : ∀ a e, last ≠ .both a e) :
    ∀ a e, (retryLoop env fuel (buildTable ops) s sid k last st).2.2.1 ≠ .both a e := by
  fun_induction retryLoop env fuel (buildTable ops) s sid k last st with
  | case1 => exact hlast
  | case2 | case3 => nofun
  | case4 _ _ _ _ _ _ _ _ hl _ ih => exact ih fun a e h => flowLoop_not_both (h ▸ hl)

theorem retryLoop_lowfuel {env : Env} {fuel : Nat} (hf : fuel < 2) (tbl : Table) (s : NodeId) (sid : StoreId) :
    ∀ (k : Nat) (last : Outcome) (st : RunSt), st.ctx = .live → (k = 0 → last = .fuel) →
      (retryLoop env fuel tbl s sid k last st).2.2.1 = .fuel
  | 0, _, _ => by intro _ h; simp [retryLoop, h]
  | k + 1, last, st => by
    intro hc _
    unfold retryLoop
    simp only [hc, flowLoop_lowfuel hf tbl s sid st hc]
    exact retryLoop_lowfuel hf tbl s sid k .fuel st hc (fun _ => rfl)

end Flyt.Proofs
