import FlytModel.Proofs.StoreSpec
/-!
# The abstraction `abs : heap state → (Key → Option Val)` and what each operation does to it
-/
namespace Flyt.Store
open Flyt Flyt.Spec.Store

/-- **the abstraction function**: the map the store's `data` pointer currently denotes -/
def abs (s : St) : Key → Option Val := fun k => lookup k s.cur

/-- `g` laid over `f`: where `g` has an entry it wins -/
def overlay (g f : Key → Option Val) : Key → Option Val :=
  fun x => (g x).or (f x)

/-- what an operation does to a plain map `f` (the heap state `s` is consulted only to find out
    which map a `Merge` argument handle currently denotes) -/
def absStep (s : St) (f : Key → Option Val) : Op → (Key → Option Val)
  | .set k v => fun x => if x = k then some v else f x
  | .delete k => fun x => if x = k then none else f x
  | .clear => fun _ => none
  | .mergeLit l => overlay (fun x => lookup x l) f
  | .mergeSnap j =>
    match s.snaps[j]? with
    | some r => overlay (fun x => lookup x (s.deref r)) f
    | none => f
  | _ => f

/-- operations that only touch objects the caller holds, or only read -/
def Op.leavesStoreAlone : Op → Bool
  | .set .. | .delete _ | .clear | .mergeLit _ | .mergeSnap _ => false
  | _ => true

def Reachable (s : St) : Prop := ∃ ops, s = exec St.init ops

theorem Reachable.iso {s : St} (h : Reachable s) : Iso s := by
  obtain ⟨ops, rfl⟩ := h; exact iso_exec iso_init ops

theorem Reachable.step {s : St} (h : Reachable s) (op : Op) : Reachable (step s op).1 := by
  obtain ⟨ops, rfl⟩ := h
  refine ⟨ops ++ [op], ?_⟩
  generalize St.init = s0
  induction ops generalizing s0 with
  | nil => rfl
  | cons o t ih => exact ih (Store.step s0 o).1

theorem Reachable.simV {s : St} (h : Reachable s) : ∃ fs ks, SimV s.view fs ks := by
  obtain ⟨ops, rfl⟩ := h
  rw [exec_view iso_init, view_init]
  obtain ⟨ks, hk⟩ := sim_vexec simV_init ops
  exact ⟨_, ks, hk⟩

theorem Reachable.nodupKeys {s : St} (h : Reachable s) : NodupKeys s.cur := by
  obtain ⟨fs, ks, hs⟩ := h.simV
  exact hs.cur.nd

theorem lookup_mergeInto_nil (l : KV) (k : Key) : lookup k (mergeInto [] l) = lookup k l := by
  rw [lookup_mergeInto]; cases lookup k l <;> rfl

/-- **abs commutes with every operation** on an isolated state -/
theorem abs_step {s : St} (h : Iso s) (op : Op) : abs (step s op).1 = absStep s (abs s) op := by
  funext k
  have hv : (step s op).1.cur = (vstep s.view op).1.m := congrArg VSt.m (step_view h op).2
  simp only [abs, hv]
  cases op with
  | set k' v => exact lookup_put _ _ _ _
  | delete k' => exact lookup_erase _ _ _
  | mergeLit l => simp only [vstep]; rw [lookup_mergeInto, lookup_mergeInto_nil]; rfl
  | mergeSnap j =>
    simp only [vstep, absStep, view_snaps_getElem?]
    cases s.snaps[j]? with
    | none => rfl
    | some r => exact lookup_mergeInto _ _ _
  | snapSet j _ _ | snapDel j _ | keysRepl j _ _ | readSnap j | readKeys j => simp only [vstep]; split <;> rfl
  | clear | get _ | getAll | mergeNil | has _ | keys | len => rfl

/-- how one step changes the content of the caller-held map with handle `j` (value machine) -/
def snapAfter (a : KV) (j : Nat) : Op → KV
  | .snapSet j' k v => if j' = j then put a k v else a
  | .snapDel j' k => if j' = j then erase k a else a
  | _ => a

/-- how one step changes the content of the caller-held keys slice with handle `j` -/
def ksnapAfter (l : List Key) (j : Nat) : Op → List Key
  | .keysRepl j' old new => if j' = j then l.map (replKey old new) else l
  | _ => l

theorem vstep_snap (vs : VSt) (op : Op) (j : Nat) (a : KV) (ha : vs.snaps[j]? = some a) :
    (vstep vs op).1.snaps[j]? = some (snapAfter a j op) := by
  have hj : j < vs.snaps.length := (List.getElem?_eq_some_iff.mp ha).1
  cases op with
  | getAll | mergeLit _ => exact (List.getElem?_append_left hj).trans ha
  | snapSet j' _ _ | snapDel j' _ =>
    simp only [vstep, snapAfter]
    by_cases e : j' = j
    · subst e; rw [ha, if_pos rfl]; exact List.getElem?_set_self hj
    · rw [if_neg e]
      split
      · exact ha
      · exact (List.getElem?_set_ne e).trans ha
  | mergeSnap _ | keysRepl _ _ _ | readSnap _ | readKeys _ => simp only [vstep]; split <;> exact ha
  | get _ | set _ _ | mergeNil | has _ | delete _ | clear | keys | len => exact ha

theorem vstep_ksnap (vs : VSt) (op : Op) (j : Nat) (l : List Key) (hl : vs.ksnaps[j]? = some l) :
    (vstep vs op).1.ksnaps[j]? = some (ksnapAfter l j op) := by
  have hj : j < vs.ksnaps.length := (List.getElem?_eq_some_iff.mp hl).1
  cases op with
  | keys => exact (List.getElem?_append_left hj).trans hl
  | keysRepl j' _ _ =>
    simp only [vstep, ksnapAfter]
    by_cases e : j' = j
    · subst e; rw [hl, if_pos rfl]; exact List.getElem?_set_self hj
    · rw [if_neg e]
      split
      · exact hl
      · exact (List.getElem?_set_ne e).trans hl
  | mergeSnap _ | snapSet _ _ _ | snapDel _ _ | readSnap _ | readKeys _ => simp only [vstep]; split <;> exact hl
  | get _ | set _ _ | getAll | mergeNil | mergeLit _ | has _ | delete _ | clear | len => exact hl

end Flyt.Store
