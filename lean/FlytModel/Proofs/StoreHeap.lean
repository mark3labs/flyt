import FlytModel.Proofs.StoreKV
/-!
# The heap machine never shares an object: isolation invariant and refinement to the value machine
-/
namespace Flyt.Store
open Flyt

theorem getD_set_ne {α} (l : List α) (i j : Nat) (x d : α) (h : i ≠ j) :
    (l.set i x).getD j d = l.getD j d := by
  simp only [List.getD_eq_getElem?_getD, List.getElem?_set_ne h]
theorem getD_set_eq {α} (l : List α) (i : Nat) (x d : α) (h : i < l.length) :
    (l.set i x).getD i d = x := by
  simp only [List.getD_eq_getElem?_getD, List.getElem?_set_self h, Option.getD_some]
theorem getD_append_lt {α} (l l' : List α) (j : Nat) (d : α) (h : j < l.length) :
    (l ++ l').getD j d = l.getD j d := by
  simp only [List.getD_eq_getElem?_getD, List.getElem?_append_left h]
theorem getD_append_len {α} (l : List α) (x d : α) : (l ++ [x]).getD l.length d = x := by
  simp only [List.getD_eq_getElem?_getD, List.getElem?_concat_length, Option.getD_some]

theorem handle_mem {l : List Nat} {j r : Nat} (h : l[j]? = some r) : r ∈ l := List.mem_of_getElem? h

theorem map_set_other {α} (objs : List α) (l : List Nat) (r : Nat) (x d : α) (h : ∀ q ∈ l, q ≠ r) :
    l.map (fun q => (objs.set r x).getD q d) = l.map (fun q => objs.getD q d) :=
  List.map_congr_left fun q hq => getD_set_ne objs r q x d fun e => h q hq e.symm

theorem map_set_handle {α} (objs : List α) (l : List Nat) (j r : Nat) (x d : α)
    (hj : l[j]? = some r) (hn : l.Nodup) (hr : r < objs.length) :
    l.map (fun q => (objs.set r x).getD q d) = (l.map (fun q => objs.getD q d)).set j x := by
  induction l generalizing j with
  | nil => cases hj
  | cons q t ih =>
    obtain ⟨hq, ht⟩ := List.nodup_cons.mp hn
    cases j with
    | zero =>
      obtain rfl : q = r := by simpa using hj
      simp only [List.map_cons, List.set_cons_zero]
      rw [getD_set_eq _ _ _ _ hr, map_set_other _ _ _ _ _ fun a ha (e : a = q) => hq (e ▸ ha)]
    | succ j =>
      simp only [List.map_cons, List.set_cons_succ]
      rw [getD_set_ne _ _ _ _ _ fun (e : r = q) => hq (e ▸ handle_mem hj), ih j hj ht]

theorem map_append_alloc {α} (objs : List α) (l : List Nat) (x d : α) (h : ∀ q ∈ l, q < objs.length) :
    l.map (fun q => (objs ++ [x]).getD q d) = l.map (fun q => objs.getD q d) :=
  List.map_congr_left fun q hq => getD_append_lt objs [x] q d (h q hq)

theorem nodup_append_fresh (l : List Nat) (n : Nat) (h : ∀ r ∈ l, r < n) (hn : l.Nodup) : (l ++ [n]).Nodup := by
  rw [List.nodup_append]
  refine ⟨hn, by simp, fun a ha b hb => ?_⟩
  cases List.mem_singleton.mp hb
  exact Nat.ne_of_lt (h a ha)

theorem lt_succ_of_mem_append_fresh {l : List Nat} {n : Nat} (h : ∀ r ∈ l, r < n) : ∀ r ∈ l ++ [n], r < n + 1 := by
  intro r hr
  rcases List.mem_append.mp hr with hr | hr
  · exact Nat.lt_succ_of_lt (h r hr)
  · cases List.mem_singleton.mp hr; exact Nat.lt_succ_self n

/-- **Isolation invariant**: the store's map object exists and is distinct from every caller-held map
    object; caller-held maps are pairwise distinct objects; caller-held keys slices are pairwise
    distinct objects (the store has no slice object at all). -/
structure Iso (s : St) : Prop where
  data_lt : s.data < s.maps.length
  snaps_lt : ∀ r ∈ s.snaps, r < s.maps.length
  snaps_ne : ∀ r ∈ s.snaps, r ≠ s.data
  snaps_nodup : s.snaps.Nodup
  ksnaps_lt : ∀ r ∈ s.ksnaps, r < s.slices.length
  ksnaps_nodup : s.ksnaps.Nodup

theorem iso_init : Iso St.init := by
  constructor <;> simp [St.init]

theorem VSt.eq_of {a b : VSt} (h1 : a.m = b.m) (h2 : a.snaps = b.snaps) (h3 : a.ksnaps = b.ksnaps) : a = b := by
  cases a; cases b; simp_all

/-! What the operations do to the heap, piece by piece: overwrite a map object in place, allocate a map
or a keys slice and hand it to the caller. Each keeps isolation and has a simple effect on the value view. -/

theorem Iso.write {s : St} (h : Iso s) (r : Nat) (m : KV) : Iso (s.write r m) :=
  ⟨by simpa [St.write] using h.data_lt, by simpa [St.write] using h.snaps_lt, h.snaps_ne, h.snaps_nodup,
    h.ksnaps_lt, h.ksnaps_nodup⟩

theorem Iso.allocMap {s : St} (h : Iso s) (c : KV) :
    Iso { s with maps := s.maps ++ [c], snaps := s.snaps ++ [s.maps.length] } := by
  refine ⟨?_, ?_, ?_, nodup_append_fresh _ _ h.snaps_lt h.snaps_nodup, h.ksnaps_lt, h.ksnaps_nodup⟩
  · simp only [List.length_append, List.length_singleton]; exact Nat.lt_succ_of_lt h.data_lt
  · simp only [List.length_append, List.length_singleton]; exact lt_succ_of_mem_append_fresh h.snaps_lt
  · intro r hr
    rcases List.mem_append.mp hr with hr | hr
    · exact h.snaps_ne r hr
    · cases List.mem_singleton.mp hr; exact Nat.ne_of_gt h.data_lt

theorem Iso.allocSlice {s : St} (h : Iso s) (l : List Key) :
    Iso { s with slices := s.slices ++ [l], ksnaps := s.ksnaps ++ [s.slices.length] } := by
  refine ⟨h.data_lt, h.snaps_lt, h.snaps_ne, h.snaps_nodup, ?_, nodup_append_fresh _ _ h.ksnaps_lt h.ksnaps_nodup⟩
  simp only [List.length_append, List.length_singleton]; exact lt_succ_of_mem_append_fresh h.ksnaps_lt

theorem iso_step {s : St} (h : Iso s) (op : Op) : Iso (step s op).1 := by
  cases op with
  | get _ | mergeNil | has _ | len => exact h
  | set _ _ | delete _ => exact h.write _ _
  | getAll => exact h.allocMap _
  | mergeLit l => exact (h.allocMap _).write _ _
  | keys => exact h.allocSlice _
  | clear =>
    refine ⟨?_, fun r hr => ?_, fun r hr => Nat.ne_of_lt (h.snaps_lt r hr), h.snaps_nodup, h.ksnaps_lt, h.ksnaps_nodup⟩
    all_goals simp only [step, List.length_append, List.length_singleton]
    · exact Nat.lt_succ_self _
    · exact Nat.lt_succ_of_lt (h.snaps_lt r hr)
  | mergeSnap _ | snapSet _ _ _ | snapDel _ _ =>
    simp only [step]
    split
    · exact h
    · exact h.write _ _
  | keysRepl j old new =>
    simp only [step]
    split
    · exact h
    · exact ⟨h.data_lt, h.snaps_lt, h.snaps_ne, h.snaps_nodup, by simpa using h.ksnaps_lt, h.ksnaps_nodup⟩
  | readSnap _ | readKeys _ => simp only [step]; split <;> exact h

theorem iso_exec {s : St} (h : Iso s) (ops : List Op) : Iso (exec s ops) := by
  induction ops generalizing s with
  | nil => exact h
  | cons op t ih => exact ih (iso_step h op)

theorem deref_fun (s : St) : s.deref = fun r => s.maps.getD r [] := rfl
theorem derefSlice_fun (s : St) : s.derefSlice = fun r => s.slices.getD r [] := rfl

theorem view_snaps_getElem? (s : St) (j : Nat) : s.view.snaps[j]? = (s.snaps[j]?).map s.deref := by
  simp [St.view]

theorem view_ksnaps_getElem? (s : St) (j : Nat) : s.view.ksnaps[j]? = (s.ksnaps[j]?).map s.derefSlice := by
  simp [St.view]

theorem St.view_write_data {s : St} (h : Iso s) (m : KV) : (s.write s.data m).view = { s.view with m := m } := by
  refine VSt.eq_of ?_ ?_ rfl <;> simp only [St.view, St.cur, deref_fun, St.write]
  · exact getD_set_eq _ _ _ _ h.data_lt
  · exact map_set_other _ _ _ _ _ h.snaps_ne

theorem St.view_write_snap {s : St} (h : Iso s) {j r : Nat} (hj : s.snaps[j]? = some r) (m : KV) :
    (s.write r m).view = { s.view with snaps := s.view.snaps.set j m } := by
  have hr := handle_mem hj
  refine VSt.eq_of ?_ ?_ rfl <;> simp only [St.view, St.cur, deref_fun, St.write]
  · exact getD_set_ne _ _ _ _ _ (h.snaps_ne r hr)
  · exact map_set_handle _ _ _ _ _ _ hj h.snaps_nodup (h.snaps_lt r hr)

theorem St.view_allocMap {s : St} (h : Iso s) (c : KV) :
    ({ s with maps := s.maps ++ [c], snaps := s.snaps ++ [s.maps.length] } : St).view =
      { s.view with snaps := s.view.snaps ++ [c] } := by
  refine VSt.eq_of ?_ ?_ rfl
  · exact getD_append_lt _ _ _ _ h.data_lt
  · simp only [St.view, deref_fun, List.map_append, List.map_cons, List.map_nil]
    rw [map_append_alloc _ _ _ _ h.snaps_lt, getD_append_len]

theorem St.view_allocSlice {s : St} (h : Iso s) (l : List Key) :
    ({ s with slices := s.slices ++ [l], ksnaps := s.ksnaps ++ [s.slices.length] } : St).view =
      { s.view with ksnaps := s.view.ksnaps ++ [l] } := by
  refine VSt.eq_of rfl rfl ?_
  simp only [St.view, derefSlice_fun, List.map_append, List.map_cons, List.map_nil]
  rw [map_append_alloc _ _ _ _ h.ksnaps_lt, getD_append_len]

/-- On an isolated state one step of the heap machine answers what the value machine answers and
    leads to the state whose value view is the value machine's next state. -/
theorem step_view {s : St} (h : Iso s) (op : Op) :
    (step s op).2 = (vstep s.view op).2 ∧ (step s op).1.view = (vstep s.view op).1 := by
  cases op with
  | get _ | has _ | len | mergeNil => exact ⟨rfl, rfl⟩
  | set _ _ | delete _ => exact ⟨rfl, St.view_write_data h _⟩
  | getAll => exact ⟨rfl, St.view_allocMap h _⟩
  | keys => exact ⟨rfl, St.view_allocSlice h _⟩
  | clear =>
    refine ⟨rfl, VSt.eq_of ?_ ?_ rfl⟩
    · exact getD_append_len _ _ _
    · exact map_append_alloc _ _ _ _ h.snaps_lt
  | mergeLit l =>
    -- allocate the literal, then merge that object into the store's
    have hv := St.view_allocMap h (mergeInto [] l)
    have hc : St.cur { s with maps := s.maps ++ [mergeInto [] l], snaps := s.snaps ++ [s.maps.length] } = s.cur :=
      congrArg VSt.m hv
    refine ⟨rfl, ?_⟩
    simp only [step, vstep]
    rw [St.view_write_data (h.allocMap _), hv, hc]
    simp only [St.deref, getD_append_len]
    rfl
  | mergeSnap j =>
    simp only [step, vstep, view_snaps_getElem?]
    cases s.snaps[j]? with
    | none => exact ⟨rfl, rfl⟩
    | some r => exact ⟨rfl, St.view_write_data h _⟩
  | snapSet j _ _ | snapDel j _ =>
    simp only [step, vstep, view_snaps_getElem?]
    cases hj : s.snaps[j]? with
    | none => exact ⟨rfl, rfl⟩
    | some r => exact ⟨rfl, St.view_write_snap h hj _⟩
  | keysRepl j old new =>
    simp only [step, vstep, view_ksnaps_getElem?]
    cases hj : s.ksnaps[j]? with
    | none => exact ⟨rfl, rfl⟩
    | some r =>
      refine ⟨rfl, VSt.eq_of rfl rfl ?_⟩
      simp only [Option.map_some, St.view, derefSlice_fun]
      exact map_set_handle _ _ _ _ _ _ hj h.ksnaps_nodup (h.ksnaps_lt r (handle_mem hj))
  | readSnap j =>
    simp only [step, vstep, view_snaps_getElem?]
    cases s.snaps[j]? <;> exact ⟨rfl, rfl⟩
  | readKeys j =>
    simp only [step, vstep, view_ksnaps_getElem?]
    cases s.ksnaps[j]? <;> exact ⟨rfl, rfl⟩

theorem run_view {s : St} (h : Iso s) (ops : List Op) : run s ops = vrun s.view ops := by
  induction ops generalizing s with
  | nil => rfl
  | cons op t ih =>
    simp only [run, vrun]
    rw [(step_view h op).1, ih (iso_step h op), (step_view h op).2]

theorem exec_view {s : St} (h : Iso s) (ops : List Op) : (exec s ops).view = vexec s.view ops := by
  induction ops generalizing s with
  | nil => rfl
  | cons op t ih =>
    simp only [exec, vexec]
    rw [ih (iso_step h op), (step_view h op).2]

theorem view_init : St.init.view = VSt.init := rfl

end Flyt.Store
