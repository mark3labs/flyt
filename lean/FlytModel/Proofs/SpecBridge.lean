import FlytModel.Proofs.Cleared
import FlytModel.Proofs.Path
/-!
# Bridges to the executable predicates of `Spec/Flow.lean` (what the driver evaluates on observations)
-/
namespace Flyt.Proofs
open Flyt

theorem noWaits_append (l1 l2 : List Ev) : Spec.noWaits (l1 ++ l2) = Spec.noWaits l1 ++ Spec.noWaits l2 := by
  simp [Spec.noWaits]

theorem noWaits_idem (l : List Ev) : Spec.noWaits (Spec.noWaits l) = Spec.noWaits l := by
  simp [Spec.noWaits]

theorem mem_noWaits {l : List Ev} {e : Ev} : e ∈ Spec.noWaits l ↔ e ∈ l ∧ e.isWait = false := by
  simp [Spec.noWaits]

theorem fatal_not_wait {env : Env} {e : Ev} {u} (h : Spec.scriptFatal env e = some u) : e.isWait = false := by
  cases e <;> simp_all [Spec.scriptFatal, Ev.isWait]

theorem findIdx?_snoc_last {α} {p : α → Bool} {l : List α} {e : α} (hl : ∀ a ∈ l, p a = false) (he : p e = true) :
    (l ++ [e]).findIdx? p = some l.length := by
  rw [List.findIdx?_append, List.findIdx?_eq_none_iff.mpr (fun x hx => hl x hx)]
  simp [List.findIdx?_cons, he]

/-- **C04 as the driver evaluates it** (`Spec.c04`, scenarios without cancellation) on the model's own observation. -/
theorem spec_c04_of_big {env : Env} {sid task st evs st' out} (hb : Big env sid task st evs st' out)
    (hlive : st.ctx = .live) (hnc : ∀ e ∈ evs, cancelsAt env e = false) (store : List Nat) :
    Spec.c04 env ⟨Spec.noWaits evs, out, store⟩ = true := by
  have fs := big_failstop hb
  unfold Spec.c04
  simp only [noWaits_idem]
  by_cases hex : ∃ e ∈ evs, ∃ u, Spec.scriptFatal env e = some u
  · obtain ⟨e, he, u, hu⟩ := hex
    have hout := fs.fatalErr e he u hu
    subst hout
    obtain ⟨e', hl, hf⟩ := fs.userErr u rfl
    obtain ⟨pre, rfl⟩ := List.getLast?_eq_some_iff.mp hl
    have hpre : ∀ a ∈ pre, Spec.scriptFatal env a = none := by
      have := fs.noneAfter
      rw [List.pairwise_append] at this
      intro a ha
      exact this.2.2 a ha e' (by simp)
    have hnw : Spec.noWaits (pre ++ [e']) = Spec.noWaits pre ++ [e'] := by
      rw [noWaits_append]
      simp [Spec.noWaits, fatal_not_wait hf]
    rw [hnw, findIdx?_snoc_last (p := fun e => (Spec.scriptFatal env e).isSome)
      (fun a ha => by simp [hpre a (mem_noWaits.mp ha).1]) (by simp [hf])]
    simp [hf]
  · have hnf : ∀ e ∈ evs, Spec.scriptFatal env e = none := by
      intro e he
      cases hf : Spec.scriptFatal env e with
      | none => rfl
      | some u => exact absurd ⟨e, he, u, hf⟩ hex
    rw [List.findIdx?_eq_none_iff.mpr (fun x hx => by simp [hnf x (mem_noWaits.mp hx).1])]
    have hp := big_proper hb
    cases out with
    | ok a => rfl
    | err r =>
      cases r with
      | user u =>
        obtain ⟨e, hl, hf⟩ := fs.userErr u rfl
        rw [hnf e (List.mem_of_getLast? hl)] at hf; cases hf
      | ctx k =>
        obtain ⟨_, e, he, hz⟩ := big_ctxErr_live hb hlive rfl
        rw [hnc e he] at hz; cases hz
      | fw t => cases t <;> simp_all [Outcome.Proper]
    | both a e => simp [Outcome.Proper] at hp
    | fuel => simp [Outcome.Proper] at hp

theorem pairwise_mem_cases {α} {R : α → α → Prop} {l : List α} (h : l.Pairwise R) {a b : α} (ha : a ∈ l)
    (hb : b ∈ l) : a = b ∨ R a b ∨ R b a :=
  List.Pairwise.forall_of_forall_of_flip (R := fun a b => a = b ∨ R a b ∨ R b a) (fun _ _ => .inl rfl)
    (h.imp fun h => .inr (.inl h)) (h.imp fun h => .inr (.inr h)) ha hb

theorem nodeEv_same_kind {env : Env} {sid : StoreId} {e1 e2 : Ev} (h1 : NodeEv env sid e1) (h2 : NodeEv env sid e2)
    (hk : Spec.evKey e1 = Spec.evKey e2) : Spec.isBatchEv e1 = Spec.isBatchEv e2 := by
  obtain ⟨n1, v1, h1⟩ := h1
  obtain ⟨n2, v2, h2⟩ := h2
  rcases h1 with ⟨c1, a1, l1⟩ | ⟨c1, a1, b1⟩ <;> rcases h2 with ⟨c2, a2, l2⟩ | ⟨c2, a2, b2⟩
  · rw [l1.notBatch, l2.notBatch]
  · rw [l1.key, b2.key] at hk; cases hk; rw [a1] at a2; cases a2
  · rw [b1.key, l2.key] at hk; cases hk; rw [a1] at a2; cases a2
  · rw [b1.isBatch, b2.isBatch]

theorem big_noStart_live {env : Env} {sid task st evs st' r} (h : Big env sid task st evs st' r) :
    r = .err (.fw .noStart) → st.ctx = .live → st'.ctx = .live := by
  refine h.flat (P := fun st _ st' r => r = .err (.fw .noStart) → st.ctx = .live → st'.ctx = .live)
    (fun _ h hr => by
      subst hr
      rcases runLeaf_err (leafStep_ctx h) with ⟨_, hu⟩ | ⟨_, hk, _⟩
      · cases hu
      · cases hk)
    (fun _ h hr => by subst hr; exact (runBatch_err (batchStep_ctx h)).elim fun _ hu => nomatch hu)
    (fun _ hr => nomatch hr) (fun _ _ hc => hc) (fun _ hr => nomatch hr)
    fun {_ _ _ _ _ st' _ _ _ _} _ _ h2 _ ih2 hr _ => ?_
  cases hctx : st'.ctx with
  | live => exact ih2 hr hctx
  | done k => rw [hr] at h2; exact nomatch (big_done h2 hctx (by intro id cfg ht; cases ht)).2.2

/-- the trace (without waits) at its first cancelling callback `c`: `c` cancels, and whatever follows it is in
    `TailRel` to it -/
theorem first_cancel_tail {env : Env} {sid task st evs st' out} (hb : Big env sid task st evs st' out) {j : Nat}
    (hfi : (Spec.noWaits evs).findIdx? (Spec.scriptCancels env) = some j) :
    (Spec.noWaits evs).getD j default ∈ evs ∧ cancelsAt env ((Spec.noWaits evs).getD j default) = true ∧
    ∀ e ∈ (Spec.noWaits evs).drop (j + 1), TailRel ((Spec.noWaits evs).getD j default) e := by
  obtain ⟨hj, hp, _⟩ := List.findIdx?_eq_some_iff_getElem.mp hfi
  have htail : (Spec.noWaits evs).Pairwise _ := (big_cancelTail hb).sublist List.filter_sublist
  rw [← List.take_append_drop j (Spec.noWaits evs), ← List.getElem_cons_drop hj, List.pairwise_append,
    List.pairwise_cons] at htail
  have hcz : cancelsAt env (Spec.noWaits evs)[j] = true := by simp [cancelsAt, hp]
  rw [← List.getElem_eq_getD (h := hj)]
  exact ⟨(mem_noWaits.mp (List.getElem_mem hj)).1, hcz, fun e he => htail.2.1.1 e he hcz⟩

/-- the observation the driver builds from a result; `storeOf` is any function of the event list
    (the driver uses the list of nodes whose prep received the store) -/
def obsWith (storeOf : List Ev → List Nat) (r : List Ev × RunSt × Outcome) : Spec.RunObs :=
  { trace := Spec.noWaits r.1, out := r.2.2, store := storeOf r.1 }

/-- **C05 as the driver evaluates it** (`Spec.c05`) on the model's own observation, for a root that is not a
    batch node; `ref` is the run of the same scenario without cancellation, from the same visit counters. -/
theorem spec_c05_of_big {env : Env} {sid root st evs st' out} (hb : Big env sid (.node root) st evs st' out)
    (hnb : ∀ cfg, env.arena root ≠ .batch cfg)
    {evs₀ st₀ out₀} (hb₀ : Big (clearEnv env) sid (.node root) (relive st) evs₀ st₀ out₀)
    (storeOf : List Ev → List Nat) :
    Spec.c05 env st.ctx (obsWith storeOf (evs, st', out)) (obsWith storeOf (evs₀, st₀, out₀)) = true := by
  unfold Spec.c05 obsWith
  simp only [noWaits_idem]
  cases hc : st.ctx with
  | done k =>
    obtain ⟨rfl, _, rfl⟩ := big_done hb hc (by intro id cfg ht; cases ht; exact hnb cfg)
    simp [Spec.noWaits]
  | live =>
    simp only
    cases hfi : (Spec.noWaits evs).findIdx? (Spec.scriptCancels env) with
    | none => rfl
    | some j =>
      simp only
      obtain ⟨hcm, hczA, hpost⟩ := first_cancel_tail hb hfi
      generalize (Spec.noWaits evs).getD j default = c at hcm hczA hpost ⊢
      have hdone : st'.ctx = .done env.kind := (big_track hb).hit hc c hcm hczA
      rw [Bool.and_eq_true]
      constructor
      · rw [List.all_eq_true]
        intro e he
        obtain ⟨hk, hl⟩ := hpost e he
        simp only [lateEv] at hl
        simp [hk, hl]
      · have hp := big_proper hb
        cases out with
        | ok a =>
          simp only
          by_cases hcb : Spec.isBatchEv c = true
          · simp [hcb]
          · have hcb' : Spec.isBatchEv c = false := by simpa using hcb
            have hev := big_events hb
            have hbatch : ∀ e ∈ evs, Spec.isBatchEv e = true → cancelsAt env e = false := by
              intro e he heb
              cases hze : cancelsAt env e with
              | false => rfl
              | true =>
                exfalso
                rcases pairwise_mem_cases (big_cancelTail hb) he hcm with rfl | h1 | h1
                · rw [heb] at hcb'; cases hcb'
                · have := nodeEv_same_kind (hev e he) (hev c hcm) (h1 hze).1.symm
                  rw [heb, hcb'] at this; cases this
                · have := nodeEv_same_kind (hev c hcm) (hev e he) (h1 hczA).1.symm
                  rw [heb, hcb'] at this; cases this
            have hcl := big_cleared hb hc hbatch (.inr ⟨a, rfl⟩)
            rw [relive_of_live hc] at hb₀
            have := hcl.det hb₀
            simp only [Prod.mk.injEq] at this
            obtain ⟨rfl, _, rfl⟩ := this
            simp
        | err r =>
          cases r with
          | user u =>
            obtain ⟨e, hl, hf⟩ := (big_failstop hb).userErr u rfl
            obtain ⟨pre', rfl⟩ := List.getLast?_eq_some_iff.mp hl
            have hnw : Spec.noWaits (pre' ++ [e]) = Spec.noWaits pre' ++ [e] := by
              rw [noWaits_append]
              simp [Spec.noWaits, fatal_not_wait hf]
            simp [hnw, hf]
          | ctx k =>
            have := (big_ctxErr_live hb hc rfl).1
            simp [this]
          | fw t =>
            cases t <;> simp [Outcome.Proper] at hp
            have := big_noStart_live hb rfl hc
            rw [this] at hdone; cases hdone
        | both a e => simp [Outcome.Proper] at hp
        | fuel => simp [Outcome.Proper] at hp

/-- **C11 for a batch node inside a flow, as the driver evaluates it** (`Spec.c11Flow`) on the model's own
    observation — any root (leaf, batch node, flow nested to any depth), any context at the start, any pattern of
    cancellation: everything that follows the first cancelling callback belongs to the very same visit of the very
    same node (for ANY cancelling callback, not only one of a batch node). -/
theorem spec_c11Flow_of_big {env : Env} {sid task st evs st' out} (hb : Big env sid task st evs st' out)
    (storeOf : List Ev → List Nat) :
    Spec.c11Flow env st.ctx (obsWith storeOf (evs, st', out)) = true := by
  unfold Spec.c11Flow obsWith
  simp only [noWaits_idem]
  cases hc : st.ctx with
  | done k => rfl
  | live =>
    simp only
    cases hfi : (Spec.noWaits evs).findIdx? (Spec.scriptCancels env) with
    | none => rfl
    | some j =>
      simp only
      rw [Bool.or_eq_true]
      right
      rw [List.all_eq_true]
      intro e he
      simpa using ((first_cancel_tail hb hfi).2.2 e he).1

end Flyt.Proofs
