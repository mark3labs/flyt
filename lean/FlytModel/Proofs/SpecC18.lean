import FlytModel.Proofs.SpecC03
/-!
# Bridge to `Spec.c18Followed` (C18's last clause on flat root flows: a connection on the default action is followed)

`FollowedKeys env ops ks`: along the visit sequence `ks`, EVERY visit that returns an action `a` (not only the
default action) for which the table has a successor is followed by a visit of that successor.
`specPath_followed`: the reference path `Spec.specPath` has this property whenever its fuel did not run out;
`flat_run_keys`: the visit sequence of a run of the model on a flat flow is that reference path, for every fuel
that suffices (read off `flat_run_visits`, which also carries the bound on the length).
-/
namespace Flyt.Proofs
open Flyt

/-- every connection is followed along a visit sequence: a visit `(n, v)` that returns action `a`, with `(n, a)`
    connected to `d`, is not the last one and the next visit is of `d` -/
def FollowedKeys (env : Env) (ops : List ConnOp) (ks : List (NodeId × Nat)) : Prop :=
  ∀ i, i < ks.length → ∀ a d, Spec.visitAction env (ks.getD i (0, 0)).1 (ks.getD i (0, 0)).2 = some a →
    next ops (ks.getD i (0, 0)).1 a = some (some d) → i + 1 < ks.length ∧ (ks.getD (i + 1) (0, 0)).1 = d

theorem followedKeys_single {env : Env} {ops : List ConnOp} {n : NodeId} {v : Nat}
    (h : ∀ a d, Spec.visitAction env n v = some a → next ops n a ≠ some (some d)) :
    FollowedKeys env ops [(n, v)] := by
  intro i hi a d ha hx
  have hi0 : i = 0 := by simpa using hi
  subst hi0
  exact absurd hx (h a d ha)

theorem followedKeys_cons {env : Env} {ops : List ConnOp} {n : NodeId} {v : Nat} {a : Action} {nxt : NodeId} {w : Nat}
    {t : List (NodeId × Nat)} (ha : Spec.visitAction env n v = some a) (hx : next ops n a = some (some nxt))
    (ht : FollowedKeys env ops ((nxt, w) :: t)) : FollowedKeys env ops ((n, v) :: (nxt, w) :: t) := by
  intro i hi a' d ha' hx'
  cases i with
  | zero =>
    simp only [List.getD_cons_zero] at ha' hx'
    rw [ha] at ha'; cases ha'
    rw [hx] at hx'; cases hx'
    exact ⟨by simp, rfl⟩
  | succ j =>
    simp only [List.getD_cons_succ] at ha' hx'
    have hj : j < ((nxt, w) :: t).length := by simpa using hi
    obtain ⟨h1, h2⟩ := ht j hj a' d ha' hx'
    refine ⟨by simpa using h1, ?_⟩
    simpa only [List.getD_cons_succ] using h2

theorem specPath_succ (env : Env) (ops : List ConnOp) (F : Nat) (cur : NodeId) (vis : NodeId → Nat) :
    (∃ a nxt, Spec.visitAction env cur (vis cur) = some a ∧ next ops cur a = some (some nxt) ∧
      (Spec.specPath env ops (F + 1) cur vis).1 =
        (cur, vis cur) :: (Spec.specPath env ops F nxt (fun m => if m = cur then vis m + 1 else vis m)).1) ∨
    ((Spec.specPath env ops (F + 1) cur vis).1 = [(cur, vis cur)] ∧
      ∀ a d, Spec.visitAction env cur (vis cur) = some a → next ops cur a ≠ some (some d)) := by
  simp only [Spec.specPath]
  split
  · next hact => exact .inr ⟨rfl, fun a d ha => by rw [hact] at ha; cases ha⟩
  · next a hact =>
    split
    · next nxt hx => exact .inl ⟨a, nxt, hact, hx, rfl⟩
    · next hx => exact .inr ⟨rfl, fun a' d ha => by rw [hact] at ha; cases ha; exact hx d⟩

theorem specPath_followed (env : Env) (ops : List ConnOp) : ∀ (F : Nat) (cur : NodeId) (vis : NodeId → Nat),
    (Spec.specPath env ops F cur vis).1.length < F → FollowedKeys env ops (Spec.specPath env ops F cur vis).1
  | 0, _, _, h => by simp at h
  | F + 1, cur, vis, h => by
    rcases specPath_succ env ops F cur vis with ⟨a, nxt, hact, hx, hp⟩ | ⟨hp, hstop⟩
    · rw [hp] at h ⊢
      have hlen : (Spec.specPath env ops F nxt (fun m => if m = cur then vis m + 1 else vis m)).1.length < F := by
        simpa using h
      have ih := specPath_followed env ops F nxt _ hlen
      cases F with
      | zero => simp at hlen
      | succ F' =>
        -- the rest of the path starts with `nxt`
        obtain ⟨t, ht⟩ : ∃ t, (Spec.specPath env ops (F' + 1) nxt (fun m => if m = cur then vis m + 1 else vis m)).1 =
            (nxt, (fun m => if m = cur then vis m + 1 else vis m) nxt) :: t := by
          rcases specPath_succ env ops F' nxt (fun m => if m = cur then vis m + 1 else vis m) with
            ⟨_, _, _, _, h'⟩ | ⟨h', _⟩ <;> exact ⟨_, h'⟩
        rw [ht] at ih ⊢
        exact followedKeys_cons hact hx ih
    · rw [hp]
      exact followedKeys_single hstop

theorem flat_run_keys (env : Env) (fuel : Nat) (root : NodeId) (st : RunSt) {evs st' out s ops}
    (hprep : ∀ n cfg, env.arena n = .leaf cfg → cfg.prepS ≠ .absent)
    (hlive : st.ctx = .live) (h : runNode env fuel root 0 st = (evs, st', out)) (hfuel : out ≠ .fuel)
    (hnc : ∀ e ∈ evs, cancelsAt env e = false)
    (hA : env.arena root = .flow (some s) ops) (hflat : Spec.isFlatFlow env ops s = true) :
    (Spec.visitSeq (Spec.noWaits evs)).length < fuel ∧
    ∀ F, (Spec.visitSeq (Spec.noWaits evs)).length ≤ F →
      (Spec.specPath env ops F s st.visits).1 = Spec.visitSeq (Spec.noWaits evs) := by
  obtain ⟨vs, r, hlen, _, hpath, hseq, _⟩ := flat_run_visits hprep hlive h hfuel hnc hA hflat
  rw [visitSeq_noWaits, hseq, List.length_map]
  exact ⟨hlen, fun F hF => by rw [hpath F hF]⟩

theorem c18Followed_of_keys {env : Env} {root : NodeId} {s : NodeId} {ops : List ConnOp} {o : Spec.RunObs}
    (hA : env.arena root = .flow (some s) ops) (hk : FollowedKeys env ops (Spec.visitSeq o.trace)) :
    Spec.c18Followed env root o = true := by
  unfold Spec.c18Followed
  simp only [hA]
  split
  · rw [List.all_eq_true]
    intro i hi
    have hi' : i < (Spec.visitSeq o.trace).length := by simpa using hi
    have hki := hk i hi'
    generalize (Spec.visitSeq o.trace).getD i (0, 0) = kv at hki
    obtain ⟨n, v⟩ := kv
    simp only
    cases hact : Spec.visitAction env n v with
    | none => rfl
    | some a =>
      simp only
      split
      · cases hx : next ops n a with
        | none => rfl
        | some x =>
          cases x with
          | none => rfl
          | some d =>
            obtain ⟨h1, h2⟩ := hki a d hact hx
            rw [← List.getElem_eq_getD (h := h1)] at h2
            simp [h1, h2]
      · rfl
  · rfl

/-- **C18's last clause as the driver evaluates it** (`Spec.c18Followed`: flat flow, no cancellation, store 0) on
    the model's own observation; `store` is whatever the driver records there. -/
theorem spec_c18Followed_of_run (env : Env) (fuel : Nat) (root : NodeId) (st : RunSt) {evs st' out}
    (hprep : ∀ n cfg, env.arena n = .leaf cfg → cfg.prepS ≠ .absent)
    (hlive : st.ctx = .live) (h : runNode env fuel root 0 st = (evs, st', out)) (hfuel : out ≠ .fuel)
    (hnc : ∀ e ∈ evs, cancelsAt env e = false) (store : List Nat) :
    Spec.c18Followed env root ⟨Spec.noWaits evs, out, store⟩ = true := by
  cases hA : env.arena root with
  | leaf cfg => simp [Spec.c18Followed, hA]
  | batch cfg => simp [Spec.c18Followed, hA]
  | flow start ops =>
    cases start with
    | none => simp [Spec.c18Followed, hA]
    | some s =>
      by_cases hflat : Spec.isFlatFlow env ops s = true
      · apply c18Followed_of_keys hA
        obtain ⟨hlt, hF⟩ := flat_run_keys env fuel root st hprep hlive h hfuel hnc hA hflat
        show FollowedKeys env ops (Spec.visitSeq (Spec.noWaits evs))
        have := specPath_followed env ops ((Spec.visitSeq (Spec.noWaits evs)).length + 1) s st.visits
          (by rw [hF _ (Nat.le_succ _)]; exact Nat.lt_succ_self _)
        rwa [hF _ (Nat.le_succ _)] at this
      · simp [Spec.c18Followed, hA, hflat]

end Flyt.Proofs
