import FlytModel.Model.Flat
/-!
# The literal two-level `Connect` table is a last-write-wins map (helper lemmas for C03 / C10)

`tableLookup (buildTable ops) n a = next ops n a`: what `Flow.Exec` reads from
`transitions[from][action]` after any sequence of `Connect` calls is the target of the most recent
call for exactly that `(from, action)` pair (nil targets preserved, no prefix / default matching).
-/
namespace Flyt.Proofs.Table
open Flyt

theorem assocGet_assocSet {κ α : Type} [DecidableEq κ] (l : List (κ × α)) (k k' : κ) (v : α) :
    assocGet (assocSet l k v) k' = if k = k' then some v else assocGet l k' := by
  induction l with
  | nil =>
    simp only [assocSet, assocGet]
  | cons h t ih =>
    obtain ⟨kh, vh⟩ := h
    simp only [assocSet]
    by_cases h1 : kh = k
    · subst h1
      simp only [if_true, assocGet]
      split <;> rfl
    · simp only [if_neg h1, assocGet, ih]
      by_cases h2 : kh = k'
      · subst h2
        have : ¬ k = kh := fun h => h1 h.symm
        simp only [if_true, if_neg this]
      · simp only [if_neg h2]

theorem tableLookup_connect (t : Table) (op : ConnOp) (n : NodeId) (a : Action) :
    tableLookup (connect t op) n a =
      if op.src = n ∧ op.action = a then some op.dst else tableLookup t n a := by
  unfold tableLookup connect
  simp only [assocGet_assocSet]
  by_cases h1 : op.src = n
  · subst h1
    simp only [if_true, true_and, assocGet_assocSet]
    by_cases h2 : op.action = a
    · simp only [if_pos h2]
    · simp only [if_neg h2]
      cases assocGet t op.src <;> simp [assocGet]
  · simp [h1]

theorem next_nil (n : NodeId) (a : Action) : next [] n a = none := rfl

theorem next_append_singleton (ops : List ConnOp) (op : ConnOp) (n : NodeId) (a : Action) :
    next (ops ++ [op]) n a = if op.src = n ∧ op.action = a then some op.dst else next ops n a := by
  unfold next
  simp only [List.reverse_append, List.reverse_cons, List.reverse_nil, List.nil_append,
    List.cons_append, List.find?_cons]
  by_cases h : op.src = n ∧ op.action = a
  · simp [h]
  · simp [h]

theorem next_cons (op : ConnOp) (ops : List ConnOp) (n : NodeId) (a : Action) :
    next (op :: ops) n a =
      match next ops n a with
      | some r => some r
      | none => if op.src = n ∧ op.action = a then some op.dst else none := by
  unfold next
  simp only [List.reverse_cons, List.find?_append]
  cases h : List.find? (fun o => decide (o.src = n ∧ o.action = a)) ops.reverse with
  | some o => simp
  | none =>
    by_cases h2 : op.src = n ∧ op.action = a
    · simp [h2]
    · simp [h2]

theorem tableLookup_foldl (ops : List ConnOp) (t : Table) (n : NodeId) (a : Action) :
    tableLookup (ops.foldl connect t) n a =
      match next ops n a with
      | some r => some r
      | none => tableLookup t n a := by
  induction ops generalizing t with
  | nil => simp [next_nil]
  | cons op ops ih =>
    simp only [List.foldl_cons, ih, next_cons, tableLookup_connect]
    cases next ops n a <;> simp
    split <;> simp_all

/-- **C03 (i)** the bridge between the literal table and the last-write-wins reading. -/
theorem tableLookup_buildTable (ops : List ConnOp) (n : NodeId) (a : Action) :
    tableLookup (buildTable ops) n a = next ops n a := by
  unfold buildTable
  rw [tableLookup_foldl]
  cases next ops n a <;> simp [tableLookup, assocGet]

end Flyt.Proofs.Table
