import FlytModel.Proofs.L.Leaf
import FlytModel.Proofs.Leaf
/-!
# Helper lemmas about `runNode` / `flowLoop` (C01 "inside a flow", C18)
-/
namespace Flyt.Proofs.Flow
open Flyt Flyt.Spec Flyt.Proofs.Attempts Flyt.Proofs.Leaf

/-- what a caller of `Run` may see: a non-empty action, or an error — never `("", nil)`, never an
    action together with an error (`fuel` is the model's own "recursion budget exhausted" marker) -/
def Good : Outcome → Prop
  | .ok a => a ≠ ""
  | .err _ => True
  | .both _ _ => False
  | .fuel => True

theorem good_iff_c18 (o : Outcome) (tr : List Ev) (st : List Nat) : Good o ↔ c18 ⟨tr, o, st⟩ = true := by
  cases o <;> simp [Good, c18]

theorem good_of_proper {o : Outcome} (hp : Outcome.Proper o) (hn : ∀ a, o = .ok a → norm a = a) : Good o := by
  cases o with
  | ok a => intro h; subst h; exact absurd (hn _ rfl) (by decide)
  | both => exact hp
  | _ => trivial

/-- **C18, the induction**: neither `Run` on any node of any arena nor the loop of `Flow.Exec`
    ever yields `ok ""` (or an action together with an error), for every fuel (nesting depth / path length). -/
theorem run_good (env : Env) : ∀ fuel : Nat,
    (∀ id sid st, Good (runNode env fuel id sid st).2.2) ∧
    (∀ tbl cur sid st, Good (flowLoop env fuel tbl cur sid st).2.2) := by
  intro fuel
  induction fuel with
  | zero => constructor <;> intros <;> simp [runNode, flowLoop, Good]
  | succ fuel ih =>
    constructor
    · intro id sid st
      unfold runNode
      split
      · exact good_of_proper (runLeaf_proper ..) fun _ h => runLeaf_ok_norm h
      · exact good_of_proper (runBatch_proper ..) fun _ h => runBatch_ok_norm h
      · split
        · trivial
        · split
          · trivial
          · split
            · exact norm_ne_empty _
            · exact ih.2 _ _ _ _
    · intro tbl cur sid st
      unfold flowLoop
      split
      · trivial
      · split
        · rename_i evs st' a' hrun
          have hne : Good (Outcome.ok a') := by
            have := ih.1 cur sid st
            rwa [hrun] at this
          split
          · exact ih.2 _ _ _ _
          · exact hne
        · exact ih.1 _ _ _

/-- `Run` on a plain / function-style node of the arena — standalone or as a step of a flow — *is*
    `runLeaf` with the node's next script and the current context -/
theorem runNode_leaf (env : Env) (fuel : Nat) (id : NodeId) (sid : StoreId) (st : RunSt) (cfg : LeafCfg)
    (h : env.arena id = .leaf cfg) :
    runNode env (fuel + 1) id sid st =
      ((runLeaf env.kind id (st.visits id) sid cfg (env.leafBeh id (st.visits id)) st.ctx).1,
       { (st.bumpIf (!(runLeaf env.kind id (st.visits id) sid cfg (env.leafBeh id (st.visits id)) st.ctx).1.isEmpty) id)
           with ctx := (runLeaf env.kind id (st.visits id) sid cfg (env.leafBeh id (st.visits id)) st.ctx).2.1 },
       (runLeaf env.kind id (st.visits id) sid cfg (env.leafBeh id (st.visits id)) st.ctx).2.2) :=
  Proofs.runNode_leaf h fuel sid st

theorem runNode_batch (env : Env) (fuel : Nat) (id : NodeId) (sid : StoreId) (st : RunSt) (cfg : BatchCfg)
    (h : env.arena id = .batch cfg) :
    runNode env (fuel + 1) id sid st =
      ((runBatch env.kind id (st.visits id) sid cfg (env.batchBeh id (st.visits id)) st.ctx).1,
       { (st.bumpIf (!(runBatch env.kind id (st.visits id) sid cfg (env.batchBeh id (st.visits id)) st.ctx).1.isEmpty) id)
           with ctx := (runBatch env.kind id (st.visits id) sid cfg (env.batchBeh id (st.visits id)) st.ctx).2.1 },
       (runBatch env.kind id (st.visits id) sid cfg (env.batchBeh id (st.visits id)) st.ctx).2.2) :=
  Proofs.runNode_batch h fuel sid st

end Flyt.Proofs.Flow
