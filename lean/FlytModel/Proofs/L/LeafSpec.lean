import FlytModel.Proofs.L.Leaf
/-!
# From the closed form of a leaf run to the executable predicates of `Spec/Flow.lean`

`split_of_parts` computes `Spec.split` on a segment of the shape prep* exec* fb* post* (wait events
anywhere); the `c01Visit_…`, `c01Outcome_…`, `c02Visit_…`, `c02Bounds_…` lemmas evaluate the driver's
predicates on a `LeafRun` (`c17Visit_of_leafRun` is in `L/Payload.lean`).
-/
namespace Flyt.Proofs.LeafSpec
open Flyt Flyt.Spec Flyt.Proofs.Attempts Flyt.Proofs.Leaf

theorem takeWhile_dropWhile_append {α : Type} (p : α → Bool) :
    ∀ (A B : List α), (∀ a ∈ A, p a = true) → (∀ b ∈ B, p b = false) →
      (A ++ B).takeWhile p = A ∧ (A ++ B).dropWhile p = B
  | [], [], _, _ => by simp
  | [], b :: B, _, hB => by simp [hB b (by simp)]
  | a :: A, B, hA, hB => by
    have ih := takeWhile_dropWhile_append p A B (fun x hx => hA x (by simp [hx])) hB
    have ha := hA a (by simp)
    simp [ha, ih.1, ih.2]

/-- `Spec.split` on a segment whose non-wait events are: prep events, exec events, fallback events,
    post events, in this order. -/
theorem split_of_parts {seg P E F Q : List Ev} (h : noWaits seg = P ++ E ++ F ++ Q)
    (hP : ∀ e ∈ P, isPrepEv e = true)
    (hE : ∀ e ∈ E, isExecEv e = true ∧ isPrepEv e = false)
    (hF : ∀ e ∈ F, isFbEv e = true ∧ isExecEv e = false ∧ isPrepEv e = false)
    (hQ : ∀ e ∈ Q, isPostEv e = true ∧ isFbEv e = false ∧ isExecEv e = false ∧ isPrepEv e = false) :
    split seg = { preps := P, execs := E, fbs := F, posts := Q, rest := [] } := by
  have h1 := takeWhile_dropWhile_append isPrepEv P (E ++ F ++ Q) hP (by
    intro b hb
    simp only [List.mem_append] at hb
    rcases hb with (hb | hb) | hb
    · exact (hE b hb).2
    · exact (hF b hb).2.2
    · exact (hQ b hb).2.2.2)
  have h2 := takeWhile_dropWhile_append isExecEv E (F ++ Q) (fun e he => (hE e he).1) (by
    intro b hb
    simp only [List.mem_append] at hb
    rcases hb with hb | hb
    · exact (hF b hb).2.1
    · exact (hQ b hb).2.2.1)
  have h3 := takeWhile_dropWhile_append isFbEv F Q (fun e he => (hF e he).1) (fun b hb => (hQ b hb).2.1)
  have h4 := takeWhile_dropWhile_append isPostEv Q [] (fun e he => (hQ e he).1) (by simp)
  simp only [List.append_nil] at h4
  unfold split
  simp only [h]
  have e1 : P ++ E ++ F ++ Q = P ++ (E ++ F ++ Q) := by simp [List.append_assoc]
  rw [e1, h1.1, h1.2]
  have e2 : E ++ F ++ Q = E ++ (F ++ Q) := by simp [List.append_assoc]
  rw [e2, h2.1, h2.2, h3.1, h3.2, h4.1, h4.2]

theorem split_noWaits (l : List Ev) : split (noWaits l) = split l := by
  unfold split
  have : noWaits (noWaits l) = noWaits l := by unfold noWaits; rw [List.filter_filter]; simp
  simp only [this]

theorem c01Visit_noWaits (cfg : LeafCfg) (scr : LeafScript) (n v : Nat) (l : List Ev) :
    c01Visit cfg scr n v (noWaits l) = c01Visit cfg scr n v l := by
  unfold c01Visit; rw [split_noWaits]
theorem c01Outcome_noWaits (cfg : LeafCfg) (scr : LeafScript) (l : List Ev) (o : Outcome) :
    c01Outcome cfg scr (noWaits l) o = c01Outcome cfg scr l o := by
  unfold c01Outcome; rw [split_noWaits]
theorem c02Visit_noWaits (cfg : LeafCfg) (scr : LeafScript) (l : List Ev) :
    c02Visit cfg scr (noWaits l) = c02Visit cfg scr l := by
  unfold c02Visit; rw [split_noWaits]
theorem c17Visit_noWaits (cfg : LeafCfg) (scr : LeafScript) (l : List Ev) :
    c17Visit cfg scr (noWaits l) = c17Visit cfg scr l := by
  unfold c17Visit; rw [split_noWaits]
theorem c02Bounds_noWaits (cfg : LeafCfg) (scr : LeafScript) (l : List Ev) :
    c02Bounds cfg scr (noWaits l) = c02Bounds cfg scr l := by
  unfold c02Bounds; rw [split_noWaits]

section
variable {kind : CtxKind} {n v : Nat} {cfg : LeafCfg} {scr : LeafScript}

theorem split_ran {sid : Nat} {pv : Val} {loop fbs posts : List Ev} {m : Nat} {res : Except ErrRoot Val} {out : Outcome}
    (hl : noWaits loop = (List.range m).map (leafExec n v (execArg cfg.execS pv)))
    (he : PhaseEnd (leafFb n v pv) scr.exec cfg.execS cfg.effBudget cfg.fb scr.fb m fbs res)
    (hp : PostEnd n v sid cfg scr pv res posts out) :
    split (preEvs n v sid cfg ++ loop ++ fbs ++ posts) =
      { preps := preEvs n v sid cfg, execs := (List.range m).map (leafExec n v (execArg cfg.execS pv)),
        fbs := fbs, posts := posts, rest := [] } := by
  apply split_of_parts
  · have hpre : noWaits (preEvs n v sid cfg) = preEvs n v sid cfg := by
      unfold preEvs; split <;> simp [noWaits, Ev.isWait]
    have hf : noWaits fbs = fbs := by
      rcases phaseEnd_fbs he with h | ⟨e, h⟩ <;> simp [h, noWaits, Ev.isWait]
    have hq : noWaits posts = posts := by
      rcases postEnd_posts hp with h | ⟨a, b, h⟩ <;> simp [h, noWaits, Ev.isWait]
    simp only [noWaits_append, hpre, hl, hf, hq]
  · intro e he'
    unfold preEvs at he'
    split at he' <;> simp at he'
    subst he'; rfl
  · intro e he'
    simp only [List.mem_map] at he'
    obtain ⟨j, _, rfl⟩ := he'
    exact ⟨rfl, rfl⟩
  · intro e he'
    rcases phaseEnd_fbs he with h | ⟨e0, h⟩ <;> simp [h] at he'
    subst he'; exact ⟨rfl, rfl, rfl⟩
  · intro e he'
    rcases postEnd_posts hp with h | ⟨a, b, h⟩ <;> simp [h] at he'
    subst he'; exact ⟨rfl, rfl, rfl, rfl⟩

/-- the spec's reading of "the exec phase produced a result" agrees with the exec phase's result -/
theorem produced_of_end {pv : Val} {fbs P Q R : List Ev} {m : Nat} {res : Except ErrRoot Val}
    (he : PhaseEnd (leafFb n v pv) scr.exec cfg.execS cfg.effBudget cfg.fb scr.fb m fbs res) :
    produced cfg scr { preps := P, execs := (List.range m).map (leafExec n v (execArg cfg.execS pv)),
                       fbs := fbs, posts := Q, rest := R } =
      (match res with | .ok x => some x | .error _ => none) := by
  cases he with
  | noExec h => simp [produced, h]
  | @success j y hj hS hy => simp [produced, okVal, hy]
  | @cancelled m kd hm hS hl =>
    cases m with
    | zero =>
      have : ¬ (cfg.execS = .absent ∨ cfg.effBudget = 0) := by
        intro h; rcases h with h | h
        · exact hS h
        · omega
      simp [produced, this]
    | succ j =>
      obtain ⟨e, he⟩ := hl j rfl
      simp [produced, okVal, he]
  | @exhausted j e hj he hne => simp [produced, okVal, he]
  | @fbOk j e x hj he hc hx => simp [produced, okVal, hx]
  | @fbErr j e e' hj he hc hx => simp [produced, okVal, hx]

/-- what the spec predicates can tell from the events alone: when prep itself cancels the context the
    run stops after prep; `Spec.produced` reads "no exec event" as "exec phase skipped, result nil"
    for nodes without an exec phase, so such nodes are outside the predicates' domain. -/
def PrepCancelVisible (cfg : LeafCfg) (scr : LeafScript) : Prop :=
  cfg.prepS ≠ .absent → scr.prep.cancels = true → (okVal scr.prep).isSome → cfg.execS ≠ .absent ∧ cfg.effBudget ≠ 0

theorem split_prepOnly (sid : Nat) :
    split [Ev.prep n v sid] = { preps := [Ev.prep n v sid], execs := [], fbs := [], posts := [], rest := [] } := by
  exact split_of_parts (P := [Ev.prep n v sid]) (E := []) (F := []) (Q := []) (by simp [noWaits, Ev.isWait])
    (by intro e he; simp at he; subst he; rfl) (by simp) (by simp) (by simp)

/-- **C01 bridge**: the driver's per-visit predicate holds on every `LeafRun` on store 0 whose scenario is `PrepCancelVisible` -/
theorem c01Visit_of_leafRun {evs : List Ev} {out : Outcome} (h : LeafRun kind n v 0 cfg scr evs out)
    (hA : PrepCancelVisible cfg scr) : c01Visit cfg scr n v evs = true := by
  cases h with
  | @prepFailed e hp hr =>
    simp [c01Visit, split_prepOnly, prepValue, hp, okVal, hr]
  | @prepCancelled x hp hr hc =>
    obtain ⟨h1, h2⟩ := hA hp hc (by simp [okVal, hr])
    simp [c01Visit, split_prepOnly, prepValue, hp, okVal, hr, produced, h1, h2]
  | @ran pv loop fbs posts m res out hpv hc hl hk hle hfb he hpost =>
    unfold c01Visit
    rw [split_ran hl he hpost]
    simp only [hpv, produced_of_end he]
    have hpre : (preEvs n v 0 cfg == if cfg.prepS = .absent then [] else [Ev.prep n v 0]) = true := by
      simp [preEvs]
    simp only [hpre, List.isEmpty_nil, List.length_map, List.length_range, Bool.true_and, beq_self_eq_true]
    rcases phaseEnd_fbs he with rfl | ⟨e, rfl⟩
    all_goals
      cases hpost with
      | failed => simp
      | noPost hps | postErr hps | postOk hps => simp [hps]

/-- **C01 bridge, last sentence**: action xor error, as the driver judges it -/
theorem c01Outcome_of_leafRun {evs : List Ev} {out : Outcome} (h : LeafRun kind n v 0 cfg scr evs out)
    (hA : PrepCancelVisible cfg scr) : c01Outcome cfg scr evs out = true := by
  cases h with
  | @prepFailed e hp hr =>
    simp [c01Outcome, split_prepOnly, prepValue, hp, okVal, hr]
  | @prepCancelled x hp hr hc =>
    obtain ⟨h1, h2⟩ := hA hp hc (by simp [okVal, hr])
    simp [c01Outcome, split_prepOnly, prepValue, hp, okVal, hr, produced, h1, h2]
  | @ran pv loop fbs posts m res out hpv hc hl hk hle hfb he hpost =>
    unfold c01Outcome
    rw [split_ran hl he hpost]
    simp only [hpv, produced_of_end he]
    cases hpost with
    | failed => simp
    | noPost hps => simp [hps, defaultAction]
    | postErr hps hr => simp [hps, okVal, hr]
    | postOk hps hr => simp [hps, okVal, hr, norm_ne_empty]

theorem find_firstOk {exec : Nat → Out Val} {N k : Nat} (hk : FirstOk exec k) (hlt : k < N) :
    (List.range N).find? (fun k => (okVal (exec k)).isSome) = some k := by
  rw [List.find?_range_eq_some]
  obtain ⟨⟨y, hy⟩, hb⟩ := hk
  refine ⟨by simp [okVal, hy], by simpa using hlt, ?_⟩
  intro j hj
  obtain ⟨e, he⟩ := hb j hj
  simp [okVal, he]

theorem find_allFail {exec : Nat → Out Val} {N : Nat} (h : AllFail exec N) :
    (List.range N).find? (fun k => (okVal (exec k)).isSome) = none := by
  rw [List.find?_range_eq_none]
  intro j hj
  obtain ⟨e, he⟩ := h j hj
  simp [okVal, he]

theorem headD_execs (m : Nat) (hm : 0 < m) (f : Nat → Ev) (d : Ev) : ((List.range m).map f).headD d = f 0 := by
  cases m with
  | zero => omega
  | succ j => simp [List.range_succ_eq_map]

/-- **C02 bridge**: the driver's per-visit predicate holds on every run that was not cut short by
    cancellation -/
theorem c02Visit_of_leafRun {sid : Nat} {evs : List Ev} {out : Outcome} (h : LeafRun kind n v sid cfg scr evs out)
    (hnc : ∀ kd, out ≠ .err (.ctx kd)) : c02Visit cfg scr evs = true := by
  cases h with
  | @prepFailed e hp hr =>
    simp [c02Visit, split_prepOnly, prepValue, hp, okVal, hr]
  | @prepCancelled x hp hr hc => exact absurd rfl (hnc kind)
  | @ran pv loop fbs posts m res out hpv hc hl hk hle hfb he hpost =>
    unfold c02Visit
    rw [split_ran hl he hpost]
    simp only [hpv]
    by_cases h0 : cfg.effBudget = 0 ∨ cfg.execS = .absent
    · simp [h0]
    · rw [if_neg h0]
      have hS : cfg.execS ≠ .absent := fun h => h0 (Or.inr h)
      have hN : 0 < cfg.effBudget := by
        rcases Nat.eq_zero_or_pos cfg.effBudget with h | h
        · exact absurd (Or.inl h) h0
        · exact h
      have hncr : ∀ kd, res ≠ .error (.ctx kd) := by
        intro kd hres
        exact hnc kd (hres ▸ hpost).err.1
      have spec : LeafPhase n v cfg scr pv loop fbs m res := ⟨rfl, hl, hk, hle, hfb, he⟩
      -- not cut short, so the phase ended in one of three ways: first success at `k`, all attempts failed without /
      -- with a user fallback; the predicate is evaluated on each
      rcases spec.complete hS hN hncr with ⟨k, y, hkN, hk1, hy, rfl, rfl, rfl⟩ |
        ⟨hall, rfl, e, he', ⟨hne, rfl, rfl⟩ | ⟨hcu, rfl, hres⟩⟩
      · simp only [find_firstOk hk1 hkN, List.length_map, List.length_range, beq_self_eq_true, Bool.true_and,
          Option.isNone_some, Bool.false_eq_true, false_and, if_false]
        cases hpost with
        | noPost => simp
        | postErr | postOk => simp [okVal, hy]
      · cases hpost
        simp [find_allFail hall, hne]
      · have hh : (List.range cfg.effBudget).head? = some 0 := by
          rw [List.head?_range, if_neg (by omega)]
        simp only [find_allFail hall, List.length_map, List.length_range, beq_self_eq_true, Bool.true_and,
          Option.isNone_none, true_and]
        cases hx : scr.fb.res with
        | error e' =>
          rw [hx] at hres; subst hres
          cases hpost
          simp [hcu, errOf, he', hh, evKey]
        | ok x =>
          rw [hx] at hres; subst hres
          cases hpost with
          | noPost => simp [hcu, errOf, he', hh, evKey]
          | postErr | postOk => simp [hcu, errOf, he', hh, evKey, okVal, hx]

/-- `Spec.c02Bounds` evaluated on the parts of a segment: at most `N` exec events, every attempt but the last
    failed, and the fallback events are none or one call justified by `N` failed attempts -/
theorem c02Bounds_of_parts {seg P E F Q R : List Ev}
    (hs : split seg = { preps := P, execs := E, fbs := F, posts := Q, rest := R })
    (hle : E.length ≤ cfg.effBudget)
    (hfail : ∀ j, j + 1 < E.length → ∃ e, (scr.exec j).res = .error e)
    (hF : F = [] ∨ (cfg.fb = .custom ∧ E.length = cfg.effBudget ∧ AllFail scr.exec cfg.effBudget ∧
      ∃ j e pv, cfg.effBudget = j + 1 ∧ (scr.exec j).res = .error e ∧ prepValue cfg scr = some pv ∧
        F = [Ev.fb n v pv (.user e)])) :
    c02Bounds cfg scr seg = true := by
  have hall : ∀ M, (∀ j, j < M → ∃ e, (scr.exec j).res = .error e) →
      (List.range M).all (fun k => (okVal (scr.exec k)).isNone) = true := by
    intro M hM
    rw [List.all_eq_true]
    intro k hk
    obtain ⟨e, he⟩ := hM k (by simpa using hk)
    simp [okVal, he]
  have h2 := hall (E.length - 1) (fun j hj => hfail j (by omega))
  unfold c02Bounds
  simp only [hs]
  rcases hF with rfl | ⟨hc, hm, haf, j, e, pv, hj, he, hpv, rfl⟩
  · simp [hle, h2]
  · have h3 := hall cfg.effBudget haf
    have hlast : (scr.exec (cfg.effBudget - 1)).res = .error e := by rw [hj]; exact he
    have h1 : 1 ≤ cfg.effBudget := by omega
    rw [hm] at h2
    simp [hm, h2, h3, hc, h1, hpv, errOf, hlast]

/-- **C02 bridge, cancellation-proof clauses**: `Spec.c02Bounds` holds on EVERY run of a leaf node on a live
    context — whatever cancels the context when (no hypothesis on the script or the configuration) -/
theorem c02Bounds_of_leafRun {sid : Nat} {evs : List Ev} {out : Outcome} (h : LeafRun kind n v sid cfg scr evs out) :
    c02Bounds cfg scr evs = true := by
  cases h with
  | @prepFailed e hp hr =>
    exact c02Bounds_of_parts (n := n) (v := v) (split_prepOnly sid) (by simp) (by simp) (Or.inl rfl)
  | @prepCancelled x hp hr hc =>
    exact c02Bounds_of_parts (n := n) (v := v) (split_prepOnly sid) (by simp) (by simp) (Or.inl rfl)
  | @ran pv loop fbs posts m res out hpv hc hl hk hle hfb he hpost =>
    have spec : LeafPhase n v cfg scr pv loop fbs m res := ⟨rfl, hl, hk, hle, hfb, he⟩
    refine c02Bounds_of_parts (n := n) (v := v) (split_ran hl he hpost) (by simpa using hle) (by simpa using hfb) ?_
    rcases spec.fb_only_if with h0 | ⟨h1, h2, h3, j, e, h4, h5, h6⟩
    · exact Or.inl h0
    · exact Or.inr ⟨h1, by simpa using h2, h3, j, e, pv, h4, h5, hpv, h6⟩

end

end Flyt.Proofs.LeafSpec
