import FlytModel.Proofs.L.Payload
import FlytModel.Proofs.L.Item
/-!
# Any mix of Result-style / Any-style functions observes the same payloads (helper lemmas for C17)

A *base script* says which payloads the user functions return (`LeafScript` read with every style
`.direct`).  `encScript cfg b` is the same behaviour written in the styles of `cfg` (a Result-style
function returns `NewResult(x)` where the base script says `x`); `decEv cfg` reads the payload a user
function observes out of its argument (`Value()` for Result-style).  `run_flat`: the run of any style
mix, decoded, IS the run of the plain method-style node (`flatCfg`) on the base script — same events,
same payloads at every callback, same context, same outcome.
-/
namespace Flyt.Proofs.Styles
open Flyt Flyt.Spec Flyt.Proofs.Attempts Flyt.Proofs.Leaf Flyt.Proofs.Payload

/-- how a function of style `s` returns the payload `x` -/
def enc (s : Style) (x : Val) : Val := match s with | .res => (newResult x).box | _ => x
/-- the payload a function of style `s` observes in its argument `a` -/
def dec (s : Style) (a : Val) : Val := match s with | .res => (toResult a).valueOf | _ => a

def encOut (s : Style) (o : Out Val) : Out Val := { res := o.res.map (enc s), cancels := o.cancels, junk := o.junk }

def encScript (cfg : LeafCfg) (b : LeafScript) : LeafScript :=
  { prep := encOut cfg.prepS b.prep, exec := fun k => encOut cfg.execS (b.exec k), waitCancel := b.waitCancel,
    fb := b.fb, post := b.post }

def decEv (cfg : LeafCfg) : Ev → Ev
  | .exec n v k a => .exec n v k (dec cfg.execS a)
  | .post n v s a b => .post n v s (dec cfg.postS a) (dec cfg.postS b)
  | e => e

/-- the method-style counterpart of a style: provided ↦ `.direct`, not provided stays not provided -/
def flat (s : Style) : Style := match s with | .absent => .absent | _ => .direct
def flatCfg (cfg : LeafCfg) : LeafCfg :=
  { cfg with prepS := flat cfg.prepS, execS := flat cfg.execS, postS := flat cfg.postS }

/-- the payloads of a base script are not themselves `flyt.Result`s -/
structure PlainScript (b : LeafScript) : Prop where
  prep : ∀ x, b.prep.res = .ok x → Plain x
  exec : ∀ k x, (b.exec k).res = .ok x → Plain x
  fb : ∀ x, b.fb.res = .ok x → Plain x

theorem flat_absent (s : Style) : flat s = .absent ↔ s = .absent := by cases s <;> simp [flat]

theorem prepRet_enc (s : Style) (x : Val) : prepRet s (enc s x) = x := by
  cases s <;> simp [prepRet, enc, toResult_box, valueOf_newResult]
theorem prepRet_flat (s : Style) (x : Val) : prepRet (flat s) x = x := by cases s <;> rfl
theorem execRet_enc (s : Style) (x : Val) : execRet s (enc s x) = x := by
  cases s <;> simp [execRet, enc, toResult_box, valueOf_newResult, isError_newResult]
theorem execRet_flat (s : Style) (x : Val) : execRet (flat s) x = x := by cases s <;> rfl
theorem execArg_flat (s : Style) (p : Val) : execArg (flat s) p = p := by cases s <;> rfl
theorem dec_execArg (s : Style) {p : Val} (h : Plain p) : dec s (execArg s p) = p := by
  rw [execArg_plain h]
  cases s <;> simp [dec, toResult_box, valueOf_newResult]
theorem postArgs_flat (s : Style) (pv ev : Val) : postArgs (flat s) pv ev = (pv, ev) := by cases s <;> rfl
theorem dec_postArgs (s : Style) (pv : Val) {ev : Val} (h : Plain ev) :
    dec s (postArgs s pv ev).1 = pv ∧ dec s (postArgs s pv ev).2 = ev := by
  cases s <;> simp [dec, postArgs, wrap_plain h, toResult_box, valueOf_newResult]

/-- two retry loops whose scripts agree after the exec adapter do the same thing, event for event -/
theorem attempts_map (kind : CtxKind) (g : Ev → Ev) {mkExec mkExec' : Nat → Ev} {mkWait : Nat → Bool → Ev}
    (hE : ∀ k, g (mkExec k) = mkExec' k) (hW : ∀ k f, g (mkWait k f) = mkWait k f)
    {exec exec' : Nat → Out Val} {s s' : Style} (hS : s = .absent ↔ s' = .absent)
    (hc : ∀ k, (exec k).cancels = (exec' k).cancels)
    (hr : ∀ k, (exec k).res.map (execRet s) = (exec' k).res.map (execRet s'))
    (wc : Nat → Bool) (wait : Nat) :
    ∀ (rem k : Nat) (last : Option Nat) (ctx : Ctx),
      (attempts kind mkExec mkWait exec wc s wait k rem last ctx).1.map g =
        (attempts kind mkExec' mkWait exec' wc s' wait k rem last ctx).1 ∧
      (attempts kind mkExec mkWait exec wc s wait k rem last ctx).2 =
        (attempts kind mkExec' mkWait exec' wc s' wait k rem last ctx).2 := by
  intro rem
  induction rem with
  | zero => intro k last ctx; simp [attempts]
  | succ rem ih =>
    intro k last ctx
    cases ctx with
    | done kd => simp [attempts]
    | live =>
      have hwev : (wev mkWait wait k).map g = wev mkWait wait k := by
        unfold wev; split <;> simp [hW]
      by_cases hs : s = .absent
      · have hs' := hS.mp hs
        subst hs hs'
        by_cases hcond : k > 0 ∧ wait > 0 ∧ wc k = true
        · simp [attempts, hcond, hW]
        · unfold wev at hwev
          simp [attempts, hcond, hwev]
      · have hs' : s' ≠ .absent := fun h => hs (hS.mpr h)
        rw [attempts_live_succ kind mkExec mkWait exec wc s wait hs,
          attempts_live_succ kind mkExec' mkWait exec' wc s' wait hs']
        by_cases hcond : k > 0 ∧ wait > 0 ∧ wc k = true
        · rw [if_pos hcond, if_pos hcond]; simp [hW]
        · rw [if_neg hcond, if_neg hcond]
          have hrk := hr k
          cases h1 : (exec k).res with
          | ok x =>
            cases h2 : (exec' k).res with
            | ok x' =>
              rw [h1, h2] at hrk
              simp only [Except.map, Except.ok.injEq] at hrk
              simp [hwev, hE, hc k, hrk]
            | error e' => rw [h1, h2] at hrk; simp [Except.map] at hrk
          | error e =>
            cases h2 : (exec' k).res with
            | ok x' => rw [h1, h2] at hrk; simp [Except.map] at hrk
            | error e' =>
              rw [h1, h2] at hrk
              simp only [Except.map, Except.error.injEq] at hrk
              subst hrk
              obtain ⟨ih1, ih2⟩ := ih (k + 1) (some e) (Ctx.live.after kind (exec' k).cancels)
              simp only [hc k]
              refine ⟨?_, ?_⟩
              · simp only [List.map_append, hwev, List.map_cons, List.map_nil, hE, ih1]
              · exact ih2

theorem execPhase_map (kind : CtxKind) (g : Ev → Ev) {mkExec mkExec' : Nat → Ev} {mkWait : Nat → Bool → Ev}
    {mkFb : Nat → Ev} (hE : ∀ k, g (mkExec k) = mkExec' k) (hW : ∀ k f, g (mkWait k f) = mkWait k f)
    (hF : ∀ e, g (mkFb e) = mkFb e) {exec exec' : Nat → Out Val} {s s' : Style} (hS : s = .absent ↔ s' = .absent)
    (hc : ∀ k, (exec k).cancels = (exec' k).cancels)
    (hr : ∀ k, (exec k).res.map (execRet s) = (exec' k).res.map (execRet s'))
    (wc : Nat → Bool) (wait budget : Nat) (fb : FbKind) (fbOut : Out Val) (ctx : Ctx) :
    (execPhase kind mkExec mkWait mkFb exec wc s wait budget fb fbOut ctx).1.map g =
      (execPhase kind mkExec' mkWait mkFb exec' wc s' wait budget fb fbOut ctx).1 ∧
    (execPhase kind mkExec mkWait mkFb exec wc s wait budget fb fbOut ctx).2 =
      (execPhase kind mkExec' mkWait mkFb exec' wc s' wait budget fb fbOut ctx).2 := by
  obtain ⟨h1, h2⟩ := attempts_map kind g hE hW hS hc hr wc wait budget 0 none ctx
  have hfb : ∀ c r, (fallbackPhase kind fb mkFb fbOut c r).1.map g = (fallbackPhase kind fb mkFb fbOut c r).1 := by
    intro c r
    cases r <;> cases fb <;> cases hfr : fbOut.res <;> simp [fallbackPhase, hfr, hF]
  unfold execPhase
  simp only [List.map_append, h1, h2, hfb, and_self]

section run
variable (kind : CtxKind) (n v sid : Nat) (cfg : LeafCfg) (b : LeafScript)

theorem decEv_prep : (decEv cfg) (.prep n v sid) = .prep n v sid := rfl

theorem flat_phase_plain (hb : PlainScript b) (pv : Val) (ev : Val)
    (h : (execPhase kind (leafExec n v (execArg (flat cfg.execS) pv)) (leafWait n v cfg.effWait) (leafFb n v pv)
      b.exec b.waitCancel (flat cfg.execS) cfg.effWait cfg.effBudget cfg.fb b.fb .live).2.2 = .ok ev) : Plain ev := by
  obtain ⟨loop, fbs, m, spec⟩ := execPhase_spec kind (leafExec n v (execArg (flat cfg.execS) pv))
    (leafWait n v cfg.effWait) (leafFb n v pv) b.exec b.waitCancel (flat cfg.execS) cfg.effWait cfg.effBudget
    cfg.fb b.fb (leaf_mk _ _ _ _)
  have hend := spec.ending
  rw [h] at hend
  rcases hend.ok_cases with ⟨_, _, rfl, _⟩ | ⟨j, y, _, _, hy, rfl⟩ | ⟨e, _, hx⟩
  · rfl
  · rw [execRet_flat]; exact hb.exec j y hy
  · exact hb.fb _ hx

/-- the post phase, decoded: `decEv` undoes what `postArgs` did to the prep value and to the (plain) result of the
    exec phase -/
theorem leafFinish_flat {P P' : List Ev × Ctx × Except ErrRoot Val} (h1 : P.1.map (decEv cfg) = P'.1) (h2 : P.2 = P'.2)
    (hplain : ∀ ev, P'.2.2 = .ok ev → Plain ev) (pev : List Ev) (hpev : pev.map (decEv cfg) = pev) (pv : Val) :
    (leafFinish kind n v sid cfg (encScript cfg b) (pev ++ P.1) pv P.2.1 P.2.2).1.map (decEv cfg) =
      (leafFinish kind n v sid (flatCfg cfg) b (pev ++ P'.1) pv P'.2.1 P'.2.2).1 ∧
    (leafFinish kind n v sid cfg (encScript cfg b) (pev ++ P.1) pv P.2.1 P.2.2).2 =
      (leafFinish kind n v sid (flatCfg cfg) b (pev ++ P'.1) pv P'.2.1 P'.2.2).2 := by
  obtain ⟨evs, c, eres⟩ := P'
  rw [h2, ← h1]
  unfold leafFinish
  cases eres with
  | error e => simp [hpev]
  | ok ev =>
    have hd := dec_postArgs cfg.postS pv (hplain ev rfl)
    have hps : (flatCfg cfg).postS = flat cfg.postS := rfl
    have hpost : (encScript cfg b).post = b.post := rfl
    simp only [hps, hpost]
    cases hs : cfg.postS
    case absent => simp [flat, hpev]
    all_goals
      rw [hs] at hd
      cases b.post.res <;> simp [flat, hpev, decEv, hs, hd.1, hd.2] <;> simp [postArgs]

theorem afterPrep_flat (hb : PlainScript b) (pev : List Ev) (hpev : pev.map (decEv cfg) = pev) (pv : Val) (hpv : Plain pv) :
    (afterPrep kind n v sid cfg (encScript cfg b) pev pv).1.map (decEv cfg) =
      (afterPrep kind n v sid (flatCfg cfg) b pev pv).1 ∧
    (afterPrep kind n v sid cfg (encScript cfg b) pev pv).2 = (afterPrep kind n v sid (flatCfg cfg) b pev pv).2 := by
  obtain ⟨hp1, hp2⟩ := execPhase_map kind (decEv cfg)
    (mkExec := leafExec n v (execArg cfg.execS pv)) (mkExec' := leafExec n v (execArg (flat cfg.execS) pv))
    (mkWait := leafWait n v cfg.effWait) (mkFb := leafFb n v pv)
    (exec := (encScript cfg b).exec) (exec' := b.exec) (s := cfg.execS) (s' := flat cfg.execS)
    (by intro k; simp only [leafExec, decEv, dec_execArg _ hpv, execArg_flat])
    (fun _ _ => rfl) (fun _ => rfl) (flat_absent cfg.execS).symm (fun _ => rfl)
    (by
      intro k
      simp only [encScript, encOut]
      cases (b.exec k).res with
      | error e => rfl
      | ok x => simp [Except.map, execRet_enc, execRet_flat])
    b.waitCancel cfg.effWait cfg.effBudget cfg.fb b.fb .live
  exact leafFinish_flat kind n v sid cfg b hp1 hp2 (flat_phase_plain kind n v cfg b hb pv) pev hpev pv

/-- **Every style mix, decoded, is the method-style node**: same events with the same payloads at every
    callback, same context afterwards, same outcome — for every configuration, base script with plain
    payloads, and context. -/
theorem run_flat (hb : PlainScript b) (ctx : Ctx) :
    (runLeaf kind n v sid cfg (encScript cfg b) ctx).1.map (decEv cfg) = (runLeaf kind n v sid (flatCfg cfg) b ctx).1 ∧
    (runLeaf kind n v sid cfg (encScript cfg b) ctx).2 = (runLeaf kind n v sid (flatCfg cfg) b ctx).2 := by
  cases ctx with
  | done k => simp [runLeaf]
  | live =>
    rw [runLeaf_live_eq, runLeaf_live_eq]
    have hp : (flatCfg cfg).prepS = flat cfg.prepS := rfl
    by_cases hpa : cfg.prepS = .absent
    · have hpa' : flat cfg.prepS = .absent := (flat_absent _).mpr hpa
      rw [if_pos hpa, hp, if_pos hpa']
      exact afterPrep_flat kind n v sid cfg b hb [] rfl Val.nil rfl
    · have hpa' : ¬ flat cfg.prepS = .absent := fun h => hpa ((flat_absent _).mp h)
      rw [if_neg hpa, hp, if_neg hpa']
      have hres : (encScript cfg b).prep.res = b.prep.res.map (enc cfg.prepS) := rfl
      have hcan : (encScript cfg b).prep.cancels = b.prep.cancels := rfl
      rw [hres, hcan]
      cases hr : b.prep.res with
      | error e => simp [Except.map, decEv]
      | ok x =>
        simp only [Except.map, prepRet_enc, prepRet_flat]
        cases b.prep.cancels with
        | true => simp [decEv]
        | false =>
          simp only [Bool.false_eq_true, if_false]
          exact afterPrep_flat kind n v sid cfg b hb [.prep n v sid] rfl x (hb.prep x hr)

end run

section item
open Flyt.Proofs.Item

def encItem (s : Style) (b : ItemScript) : ItemScript :=
  { exec := fun k => encOut s (b.exec k), waitCancel := b.waitCancel, fb := b.fb }

/-- the payload the exec function of a batch item observes, read out of its argument -/
def decB (s : Style) : Ev → Ev
  | .bexec n v i k a => .bexec n v i k (dec s a)
  | e => e

theorem dec_item (s : Style) (hs : s = .res ∨ s = .any) (item : Result) : dec s (execArg s item.box) = item.valueOf := by
  rcases hs with rfl | rfl <;> simp [dec, execArg, Result.box, Val.asResult?, toResult]

/-- **a Result-style and an Any-style exec function of a batch node are interchangeable**: the run of
    item `i` with a function of style `s` (returning `NewResult(x)` where the base script says `x`),
    decoded, is the run with the Any-style function — same calls, same item payload, same slot / error. -/
theorem item_flat (kind : CtxKind) (n v : Nat) (cfg : BatchCfg) (i : Nat) (item : Result) (b : ItemScript) (ctx : Ctx)
    (hs : cfg.execS = .res ∨ cfg.execS = .any) :
    (runItem kind n v cfg i item (encItem cfg.execS b) ctx).1.map (decB cfg.execS) =
      (runItem kind n v { cfg with execS := .any } i item b ctx).1 ∧
    (runItem kind n v cfg i item (encItem cfg.execS b) ctx).2 = (runItem kind n v { cfg with execS := .any } i item b ctx).2 := by
  rw [runItem_eq, runItem_eq]
  obtain ⟨h1, h2⟩ := execPhase_map kind (decB cfg.execS)
    (mkExec := itemExec n v i (execArg cfg.execS item.box)) (mkExec' := itemExec n v i (execArg .any item.box))
    (mkWait := itemWait n v i cfg.wait) (mkFb := itemFb n v i item.box)
    (exec := (encItem cfg.execS b).exec) (exec' := b.exec) (s := cfg.execS) (s' := .any)
    (by
      intro k
      simp only [itemExec, decB, dec_item _ hs]
      simp [execArg, Result.box, Val.asResult?])
    (fun _ _ => rfl) (fun _ => rfl) (by rcases hs with h | h <;> simp [h]) (fun _ => rfl)
    (by
      intro k
      simp only [encItem, encOut]
      cases (b.exec k).res with
      | error e => rfl
      | ok x => simp [Except.map, execRet_enc]; rfl)
    b.waitCancel cfg.wait cfg.budget cfg.fb b.fb ctx
  exact ⟨h1, congrArg (fun p => (p.1, itemResOf p.2)) h2⟩

end item

end Flyt.Proofs.Styles
