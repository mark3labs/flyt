import FlytModel.Proofs.L.Attempts
/-!
# `runLeaf` (= `flyt.Run` on a plain / function-style node) in closed form

`LeafRun` lists the ways a run on a live context can go: stopped by prep (error / cancellation inside
prep), or prep value `pv` → exec phase (`PhaseEnd`) → post phase (`PostEnd`).  `runLeaf_live_spec`
shows `runLeaf` does nothing else, for every configuration, script and budget.
-/
namespace Flyt.Proofs

/-- what `Run` does once the exec phase has produced `eres` (post, normalisation) -/
def leafFinish (kind : CtxKind) (n : NodeId) (v : Nat) (sid : StoreId) (cfg : LeafCfg) (scr : LeafScript)
    (pre : List Ev) (pv : Val) (c3 : Ctx) : Except ErrRoot Val → List Ev × Ctx × Outcome
  | .error e => (pre, c3, .err e)
  | .ok ev =>
    match cfg.postS with
    | .absent => (pre, c3, .ok defaultAction)
    | s =>
      match scr.post.res with
      | .error e => (pre ++ [.post n v sid (postArgs s pv ev).1 (postArgs s pv ev).2],
          c3.after kind scr.post.cancels, .err (.user e))
      | .ok a => (pre ++ [.post n v sid (postArgs s pv ev).1 (postArgs s pv ev).2],
          c3.after kind scr.post.cancels, .ok (norm a))

end Flyt.Proofs

namespace Flyt.Proofs.Leaf
open Flyt Flyt.Spec Flyt.Proofs.Attempts

/-- event constructors of a plain node's run -/
abbrev leafExec (n v : Nat) (arg : Val) : Nat → Ev := fun k => .exec n v k arg
abbrev leafWait (n v w : Nat) : Nat → Bool → Ev := fun k f => .wait n v k w f
abbrev leafFb (n v : Nat) (pv : Val) : Nat → Ev := fun e => .fb n v pv (.user e)

theorem leaf_mk (n v w : Nat) (arg : Val) : Mk (leafExec n v arg) (leafWait n v w) :=
  ⟨fun _ => rfl, fun _ _ => rfl⟩

/-- the prep event of a visit (none for a node without prep callback) -/
def preEvs (n v sid : Nat) (cfg : LeafCfg) : List Ev := if cfg.prepS = .absent then [] else [.prep n v sid]

/-- How the post phase ends, given the exec phase's result.
    Indices: exec-phase result, post events, outcome of the run. -/
inductive PostEnd (n v sid : Nat) (cfg : LeafCfg) (scr : LeafScript) (pv : Val) :
    Except ErrRoot Val → List Ev → Outcome → Prop
  /-- the exec phase failed: post does not run, the run returns that error -/
  | failed {er} : PostEnd n v sid cfg scr pv (.error er) [] (.err er)
  /-- `BaseNode.Post`: no user code, `DefaultAction` -/
  | noPost {ev} : cfg.postS = .absent → PostEnd n v sid cfg scr pv (.ok ev) [] (.ok defaultAction)
  | postErr {ev e} : cfg.postS ≠ .absent → scr.post.res = .error e →
      PostEnd n v sid cfg scr pv (.ok ev)
        [.post n v sid (postArgs cfg.postS pv ev).1 (postArgs cfg.postS pv ev).2] (.err (.user e))
  | postOk {ev a} : cfg.postS ≠ .absent → scr.post.res = .ok a →
      PostEnd n v sid cfg scr pv (.ok ev)
        [.post n v sid (postArgs cfg.postS pv ev).1 (postArgs cfg.postS pv ev).2] (.ok (norm a))

section
variable {n v sid : Nat} {cfg : LeafCfg} {scr : LeafScript} {pv : Val} {res : Except ErrRoot Val}
  {posts : List Ev} {out : Outcome}

theorem postEnd_posts (h : PostEnd n v sid cfg scr pv res posts out) :
    posts = [] ∨ ∃ a b, posts = [.post n v sid a b] := by
  cases h <;> simp

theorem PostEnd.of_mem {e : Ev} (h : PostEnd n v sid cfg scr pv res posts out) (he : e ∈ posts) :
    cfg.postS ≠ .absent ∧ ∃ r, res = .ok r ∧ posts = [e] ∧
      e = .post n v sid (postArgs cfg.postS pv r).1 (postArgs cfg.postS pv r).2 := by
  cases h with
  | failed => cases he
  | noPost => cases he
  | postErr hps => obtain rfl := List.mem_singleton.mp he; exact ⟨hps, _, rfl, rfl, rfl⟩
  | postOk hps => obtain rfl := List.mem_singleton.mp he; exact ⟨hps, _, rfl, rfl, rfl⟩

theorem PostEnd.ran {r : Val} (h : PostEnd n v sid cfg scr pv (.ok r) posts out) (hps : cfg.postS ≠ .absent) :
    posts = [.post n v sid (postArgs cfg.postS pv r).1 (postArgs cfg.postS pv r).2] := by
  cases h with
  | noPost h => exact absurd h hps
  | postErr | postOk => rfl

theorem PostEnd.err {er : ErrRoot} (h : PostEnd n v sid cfg scr pv (.error er) posts out) :
    out = .err er ∧ posts = [] := by
  cases h; exact ⟨rfl, rfl⟩

end

/-- Every way a run of a leaf node on a live context can go.  Indices: events, outcome. -/
inductive LeafRun (kind : CtxKind) (n v sid : Nat) (cfg : LeafCfg) (scr : LeafScript) : List Ev → Outcome → Prop
  | prepFailed {e} : cfg.prepS ≠ .absent → scr.prep.res = .error e →
      LeafRun kind n v sid cfg scr [.prep n v sid] (.err (.user e))
  | prepCancelled {x} : cfg.prepS ≠ .absent → scr.prep.res = .ok x → scr.prep.cancels = true →
      LeafRun kind n v sid cfg scr [.prep n v sid] (.err (.ctx kind))
  | ran {pv loop fbs posts m res out} :
      prepValue cfg scr = some pv →
      (cfg.prepS = .absent ∨ scr.prep.cancels = false) →
      noWaits loop = (List.range m).map (leafExec n v (execArg cfg.execS pv)) →
      (∀ e ∈ loop, (∃ j f, e = leafWait n v cfg.effWait j f) ∨ (∃ j, e = leafExec n v (execArg cfg.execS pv) j)) →
      m ≤ cfg.effBudget →
      (∀ j, j + 1 < m → ∃ e, (scr.exec j).res = .error e) →
      PhaseEnd (leafFb n v pv) scr.exec cfg.execS cfg.effBudget cfg.fb scr.fb m fbs res →
      PostEnd n v sid cfg scr pv res posts out →
      LeafRun kind n v sid cfg scr (preEvs n v sid cfg ++ loop ++ fbs ++ posts) out

/-- the exec phase of a run whose prep handed over `pv`: events `loop ++ fbs`, `m` attempts, result `res` -/
abbrev LeafPhase (n v : Nat) (cfg : LeafCfg) (scr : LeafScript) (pv : Val) (loop fbs : List Ev) (m : Nat)
    (res : Except ErrRoot Val) : Prop :=
  PhaseSpec (leafExec n v (execArg cfg.execS pv)) (leafWait n v cfg.effWait) (leafFb n v pv)
    scr.exec cfg.execS cfg.effBudget cfg.fb scr.fb (loop ++ fbs, Ctx.live, res) loop fbs m

/-- `runLeaf` after a successful prep: the exec phase, then `leafFinish` -/
def afterPrep (kind : CtxKind) (n v sid : Nat) (cfg : LeafCfg) (scr : LeafScript) (pev : List Ev) (pv : Val) :
    List Ev × Ctx × Outcome :=
  let p := execPhase kind (leafExec n v (execArg cfg.execS pv)) (leafWait n v cfg.effWait) (leafFb n v pv)
    scr.exec scr.waitCancel cfg.execS cfg.effWait cfg.effBudget cfg.fb scr.fb .live
  leafFinish kind n v sid cfg scr (pev ++ p.1) pv p.2.1 p.2.2

theorem runLeaf_live_eq (kind : CtxKind) (n v sid : Nat) (cfg : LeafCfg) (scr : LeafScript) :
    runLeaf kind n v sid cfg scr .live =
      if cfg.prepS = .absent then afterPrep kind n v sid cfg scr [] Val.nil
      else
        match scr.prep.res with
        | .error e => ([.prep n v sid], Ctx.live.after kind scr.prep.cancels, .err (.user e))
        | .ok x =>
          if scr.prep.cancels then ([.prep n v sid], .done kind, .err (.ctx kind))
          else afterPrep kind n v sid cfg scr [.prep n v sid] (prepRet cfg.prepS x) := by
  unfold runLeaf afterPrep execPhase leafFinish
  cases hp : cfg.prepS <;> simp only [reduceCtorEq, if_true, if_false]
  case absent => simp only [List.append_assoc]; rfl
  all_goals
    cases hr : scr.prep.res with
    | error e => rfl
    | ok x =>
      cases hc : scr.prep.cancels with
      | true => rfl
      | false => simp only [Except.map, Ctx.after, List.append_assoc]; rfl

theorem leafFinish_postEnd (kind : CtxKind) (n v sid : Nat) (cfg : LeafCfg) (scr : LeafScript) (pre : List Ev) (pv : Val)
    (c3 : Ctx) (eres : Except ErrRoot Val) :
    ∃ posts, (leafFinish kind n v sid cfg scr pre pv c3 eres).1 = pre ++ posts ∧
      PostEnd n v sid cfg scr pv eres posts (leafFinish kind n v sid cfg scr pre pv c3 eres).2.2 := by
  cases eres with
  | error e => exact ⟨[], by simp [leafFinish], .failed⟩
  | ok ev =>
    cases hps : cfg.postS with
    | absent => exact ⟨[], by simp [leafFinish, hps], by simpa [leafFinish, hps] using .noPost hps⟩
    | _ =>
      refine ⟨[.post n v sid (postArgs cfg.postS pv ev).1 (postArgs cfg.postS pv ev).2], ?_⟩
      cases hpr : scr.post.res with
      | error e =>
        have := PostEnd.postErr (n := n) (v := v) (sid := sid) (cfg := cfg) (pv := pv) (ev := ev) (by simp [hps]) hpr
        exact ⟨by simp [leafFinish, hps, hpr], by simpa [leafFinish, hps, hpr] using this⟩
      | ok a =>
        have := PostEnd.postOk (n := n) (v := v) (sid := sid) (cfg := cfg) (pv := pv) (ev := ev) (by simp [hps]) hpr
        exact ⟨by simp [leafFinish, hps, hpr], by simpa [leafFinish, hps, hpr] using this⟩

theorem afterPrep_spec (kind : CtxKind) (n v sid : Nat) (cfg : LeafCfg) (scr : LeafScript) (pv : Val)
    (hpv : prepValue cfg scr = some pv) (hc : cfg.prepS = .absent ∨ scr.prep.cancels = false) :
    LeafRun kind n v sid cfg scr (afterPrep kind n v sid cfg scr (preEvs n v sid cfg) pv).1
      (afterPrep kind n v sid cfg scr (preEvs n v sid cfg) pv).2.2 := by
  obtain ⟨loop, fbs, m, hs⟩ := execPhase_spec kind (leafExec n v (execArg cfg.execS pv)) (leafWait n v cfg.effWait)
    (leafFb n v pv) scr.exec scr.waitCancel cfg.execS cfg.effWait cfg.effBudget cfg.fb scr.fb (leaf_mk _ _ _ _)
  unfold afterPrep
  generalize execPhase kind (leafExec n v (execArg cfg.execS pv)) (leafWait n v cfg.effWait)
    (leafFb n v pv) scr.exec scr.waitCancel cfg.execS cfg.effWait cfg.effBudget cfg.fb scr.fb .live = p at hs
  obtain ⟨posts, h1, h2⟩ := leafFinish_postEnd kind n v sid cfg scr (preEvs n v sid cfg ++ p.1) pv p.2.1 p.2.2
  rw [h1, hs.events, ← List.append_assoc]
  exact .ran hpv hc hs.loopEvents hs.loopKinds hs.le hs.failedBefore hs.ending h2

/-- **`runLeaf` on a live context does nothing but what `LeafRun` lists.** -/
theorem runLeaf_live_spec (kind : CtxKind) (n v sid : Nat) (cfg : LeafCfg) (scr : LeafScript) :
    LeafRun kind n v sid cfg scr (runLeaf kind n v sid cfg scr .live).1 (runLeaf kind n v sid cfg scr .live).2.2 := by
  rw [runLeaf_live_eq]
  by_cases hp : cfg.prepS = .absent
  · rw [if_pos hp]
    have := afterPrep_spec kind n v sid cfg scr Val.nil (by simp [prepValue, hp]) (Or.inl hp)
    simpa [preEvs, hp] using this
  · rw [if_neg hp]
    cases hr : scr.prep.res with
    | error e => exact .prepFailed hp hr
    | ok x =>
      cases hc : scr.prep.cancels with
      | true => exact .prepCancelled hp hr hc
      | false =>
        have := afterPrep_spec kind n v sid cfg scr (prepRet cfg.prepS x)
          (by simp [prepValue, hp, okVal, hr]) (Or.inr hc)
        simpa [preEvs, hp] using this

/-- nothing in the scenario cancels the context while the node runs: no callback of the exec loop or
    prep does, and no retry wait is interrupted (the fallback and post callbacks may: nothing is
    checked after them) -/
structure NoCancel (cfg : LeafCfg) (scr : LeafScript) : Prop where
  prep : scr.prep.cancels = false
  exec : ∀ k, (scr.exec k).cancels = false
  wait : cfg.effWait = 0 ∨ ∀ k, scr.waitCancel k = false

theorem afterPrep_noCancel (kind : CtxKind) (n v sid : Nat) (cfg : LeafCfg) (scr : LeafScript) (pev : List Ev) (pv : Val)
    (h : NoCancel cfg scr) (kd : CtxKind) : (afterPrep kind n v sid cfg scr pev pv).2.2 ≠ .err (.ctx kd) := by
  have hp := execPhase_noCancel kind (leafExec n v (execArg cfg.execS pv)) (leafWait n v cfg.effWait)
    (leafFb n v pv) scr.exec scr.waitCancel cfg.execS cfg.effWait cfg.effBudget cfg.fb scr.fb h.exec h.wait kd
  unfold afterPrep
  generalize execPhase kind (leafExec n v (execArg cfg.execS pv)) (leafWait n v cfg.effWait)
    (leafFb n v pv) scr.exec scr.waitCancel cfg.execS cfg.effWait cfg.effBudget cfg.fb scr.fb .live = p at hp
  obtain ⟨pevs, pctx, pres⟩ := p
  obtain ⟨posts, _, h2⟩ := leafFinish_postEnd kind n v sid cfg scr (pev ++ pevs) pv pctx pres
  intro hout
  rw [hout] at h2
  cases h2
  exact hp rfl

theorem runLeaf_noCancel (kind : CtxKind) (n v sid : Nat) (cfg : LeafCfg) (scr : LeafScript)
    (h : NoCancel cfg scr) (kd : CtxKind) : (runLeaf kind n v sid cfg scr .live).2.2 ≠ .err (.ctx kd) := by
  rw [runLeaf_live_eq]
  split
  · exact afterPrep_noCancel kind n v sid cfg scr _ _ h kd
  · cases hr : scr.prep.res with
    | error e => simp
    | ok x =>
      simp only [h.prep, Bool.false_eq_true, if_false]
      exact afterPrep_noCancel kind n v sid cfg scr _ _ h kd

/-- a run on a context that is already done: no callback at all, the context's error -/
theorem runLeaf_done (kind : CtxKind) (n v sid : Nat) (cfg : LeafCfg) (scr : LeafScript) (k : CtxKind) :
    runLeaf kind n v sid cfg scr (.done k) = ([], .done k, .err (.ctx k)) := rfl

end Flyt.Proofs.Leaf
