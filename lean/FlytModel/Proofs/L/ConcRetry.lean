import FlytModel.Spec.Batch
import FlytModel.Proofs.L.Attempts
/-!
# The retry loop of a batch item under EVERY schedule of the concurrent executor (helper lemmas for C02)

`Model/BatchConc.lean` is the labelled transition system of `runBatchConcurrent` on the worker pool:
every interleaving of submitter, workers, task steps, exec returns and cancellation is a path.  Here:
an invariant of all reachable states that pins, for every item `i`, the exec calls / returns / fallback
calls of `i` in the log to the program counter of task `i` — and what they are once the task is over.
-/
namespace Flyt.Proofs.ConcRetry
open Flyt Flyt.Conc Flyt.Spec

inductive Reachable (c : Cfg) : BState → Prop
  | init : Reachable c (init c)
  | step {s s' : BState} {l : Label} : Reachable c s → apply c s l = some s' → Reachable c s'

/-- `k-1, …, 1, 0`: the attempt numbers of an item in the log (which is newest first) -/
def down (k : Nat) : List Nat := (List.range k).reverse

theorem down_succ (k : Nat) : down (k + 1) = k :: down k := by
  simp [down, List.range_succ]

theorem down_zero : down 0 = [] := rfl

def Failed (c : Cfg) (i k : Nat) : Prop := ∀ j, j < k → ∃ e, (c.exec i j).res = .error e

/-- no call of item `i` has been made: exec calls entered, exec calls returned, fallback calls -/
def Fresh (st dn : List Nat) (fb : Nat) : Prop := st = [] ∧ dn = [] ∧ fb = 0

/-- The calls of an item whose task is over (`st` / `dn` = attempt numbers of the exec calls entered /
    returned, newest first; `fb` = number of fallback calls). -/
inductive Final (c : Cfg) (i : Nat) (st dn : List Nat) (fb : Nat) (cancelled : Bool) : Prop
  /-- never executed (stop mode, cancellation before the first attempt, no exec callback, budget 0) -/
  | never : Fresh st dn fb → Final c i st dn fb cancelled
  /-- attempts `0..k`, the last one succeeded, all before failed; no fallback -/
  | success {k y} : st = down (k + 1) → dn = down (k + 1) → fb = 0 → k < c.budget → Failed c i k →
      (c.exec i k).res = .ok y → Final c i st dn fb cancelled
  /-- attempts `0..k-1` all failed, then cut short by cancellation; no fallback -/
  | cut {k} : 0 < k → k < c.budget → st = down k → dn = down k → fb = 0 → Failed c i k → cancelled = true →
      Final c i st dn fb cancelled
  /-- all `budget` attempts made and failed; the fallback ran once iff the node has one -/
  | exhausted : st = down c.budget → dn = down c.budget → 0 < c.budget → Failed c i c.budget →
      fb = (if c.fb = .custom then 1 else 0) → Final c i st dn fb cancelled

/-- what the log says about item `i` while its task is at program counter `pc` -/
def TaskInv (c : Cfg) (i : Nat) (st dn : List Nat) (fb : Nat) (cancelled : Bool) : Pc → Prop
  | .stopCheck => Fresh st dn fb
  | .ctxCheck => Fresh st dn fb
  | .loopTop k last =>
      st = down k ∧ dn = down k ∧ fb = 0 ∧ k ≤ c.budget ∧ Failed c i k ∧ (c.execS = .absent → k = 0) ∧
      (match last with | none => k = 0 | some e => ∃ j, k = j + 1 ∧ (c.exec i j).res = .error e)
  | .inExec k => st = down (k + 1) ∧ dn = down k ∧ fb = 0 ∧ k < c.budget ∧ Failed c i k ∧ c.execS ≠ .absent
  | .store _ _ => Final c i st dn fb cancelled

theorem stays_cancelled {b b' : Bool} (h : b = true) : (b || b') = true := by rw [h]; rfl

theorem Final.mono {c : Cfg} {i : Nat} {st dn : List Nat} {fb : Nat} {b b' : Bool} (hb : b = true → b' = true)
    (h : Final c i st dn fb b) : Final c i st dn fb b' := by
  cases h with
  | never h => exact .never h
  | success h1 h2 h3 h4 h5 h6 => exact .success h1 h2 h3 h4 h5 h6
  | cut h1 h2 h3 h4 h5 h6 h7 => exact .cut h1 h2 h3 h4 h5 h6 (hb h7)
  | exhausted h1 h2 h3 h4 h5 => exact .exhausted h1 h2 h3 h4 h5

theorem TaskInv.mono {c : Cfg} {i : Nat} {st dn : List Nat} {fb : Nat} {b b' : Bool} (hb : b = true → b' = true)
    {pc : Pc} (h : TaskInv c i st dn fb b pc) : TaskInv c i st dn fb b' pc := by
  cases pc with
  | store r f => exact Final.mono hb h
  | _ => exact h

def pcIn : List (Nat × Pc) → Nat → Option Pc
  | [], _ => none
  | p :: t, i => if p.1 = i then some p.2 else pcIn t i

theorem pcOf_eq (s : BState) (i : Nat) : pcOf s i = pcIn s.running i := by
  unfold pcOf
  induction s.running with
  | nil => rfl
  | cons p t ih => by_cases h : p.1 = i <;> simp [pcIn, h, ih]

theorem pcIn_none {r : List (Nat × Pc)} {i : Nat} : pcIn r i = none ↔ i ∉ r.map (·.1) := by
  induction r with
  | nil => simp [pcIn]
  | cons p t ih => by_cases h : p.1 = i <;> simp [pcIn, h, ih, Ne.symm]

theorem pcIn_setPc (r : List (Nat × Pc)) (i j : Nat) (pc : Pc) :
    pcIn (r.map fun p => if p.1 = i then (i, pc) else p) j =
      if j = i then (pcIn r i).map (fun _ => pc) else pcIn r j := by
  induction r with
  | nil => simp [pcIn]
  | cons p t ih =>
    simp only [List.map_cons, pcIn, ih]
    by_cases hji : j = i
    · subst hji; by_cases hp : p.1 = j <;> simp [hp]
    · by_cases hp : p.1 = i <;> simp [hp, hji, Ne.symm hji]

theorem pcIn_filter (r : List (Nat × Pc)) (i j : Nat) :
    pcIn (r.filter (·.1 ≠ i)) j = if j = i then none else pcIn r j := by
  induction r with
  | nil => simp [pcIn]
  | cons p t ih =>
    by_cases hp : p.1 = i
    · simp only [List.filter, hp, ne_eq, not_true_eq_false, decide_false, pcIn, ih]
      by_cases hji : j = i
      · simp [hji]
      · simp [hji, Ne.symm hji]
    · simp only [List.filter, hp, ne_eq, not_false_eq_true, decide_true, pcIn, ih]
      by_cases hpj : p.1 = j
      · simp [hpj, hpj ▸ hp]
      · simp only [hpj, if_false]

theorem pcIn_append (r : List (Nat × Pc)) (t j : Nat) (pc : Pc) :
    pcIn (r ++ [(t, pc)]) j = match pcIn r j with | some x => some x | none => if t = j then some pc else none := by
  induction r with
  | nil => rfl
  | cons p r ih => by_cases hp : p.1 = j <;> simp [pcIn, hp, ih]

theorem itemStarts_cons (o : Obs) (l : List Obs) (i : Nat) :
    itemStarts (o :: l) i =
      match o with
      | .start j k => if j = i then k :: itemStarts l i else itemStarts l i
      | _ => itemStarts l i := by
  cases o with
  | start j k => by_cases h : j = i <;> simp [itemStarts, h]
  | _ => rfl

theorem itemDones_cons (o : Obs) (l : List Obs) (i : Nat) :
    itemDones (o :: l) i =
      match o with
      | .done j k => if j = i then k :: itemDones l i else itemDones l i
      | _ => itemDones l i := by
  cases o with
  | done j k => by_cases h : j = i <;> simp [itemDones, h]
  | _ => rfl

theorem itemFbs_cons (o : Obs) (l : List Obs) (i : Nat) :
    itemFbs (o :: l) i =
      match o with
      | .fb j => if j = i then itemFbs l i + 1 else itemFbs l i
      | _ => itemFbs l i := by
  cases o with
  | fb j => by_cases h : j = i <;> simp [itemFbs, h]
  | _ => rfl

def ItemInv (c : Cfg) (s : BState) (i : Nat) : Prop :=
  match pcIn s.running i with
  | some pc => TaskInv c i (itemStarts s.log i) (itemDones s.log i) (itemFbs s.log i) s.cancelled pc
  | none =>
    if i ∈ s.queue ∨ s.next ≤ i then Fresh (itemStarts s.log i) (itemDones s.log i) (itemFbs s.log i)
    else Final c i (itemStarts s.log i) (itemDones s.log i) (itemFbs s.log i) s.cancelled

structure Inv (c : Cfg) (s : BState) : Prop where
  qlt : ∀ t ∈ s.queue, t < s.next
  rlt : ∀ p ∈ s.running, p.1 < s.next
  nodup : (s.queue ++ s.running.map (·.1)).Nodup
  item : ∀ i, ItemInv c s i

theorem ItemInv.frame {c : Cfg} {s s' : BState} {j : Nat}
    (hpc : pcIn s'.running j = pcIn s.running j)
    (hq : (j ∈ s'.queue ∨ s'.next ≤ j) ↔ (j ∈ s.queue ∨ s.next ≤ j))
    (hst : itemStarts s'.log j = itemStarts s.log j) (hdn : itemDones s'.log j = itemDones s.log j)
    (hfb : itemFbs s'.log j = itemFbs s.log j) (hc : s.cancelled = true → s'.cancelled = true)
    (h : ItemInv c s j) : ItemInv c s' j := by
  unfold ItemInv at h ⊢
  simp only [hpc, hst, hdn, hfb, hq]
  revert h
  cases pcIn s.running j with
  | some pc => exact TaskInv.mono hc
  | none =>
    dsimp only
    split
    · exact id
    · exact Final.mono hc

theorem ItemInv.of_pc {c : Cfg} {s : BState} {i : Nat} {pc : Pc} (hpc : pcIn s.running i = some pc) :
    ItemInv c s i ↔ TaskInv c i (itemStarts s.log i) (itemDones s.log i) (itemFbs s.log i) s.cancelled pc := by
  unfold ItemInv
  rw [hpc]

theorem ItemInv.over {c : Cfg} {s : BState} {i : Nat} (hpc : pcIn s.running i = none) (hq : i ∉ s.queue)
    (hn : i < s.next) :
    ItemInv c s i ↔ Final c i (itemStarts s.log i) (itemDones s.log i) (itemFbs s.log i) s.cancelled := by
  unfold ItemInv
  rw [hpc]
  exact iff_of_eq (if_neg fun h => h.elim hq (Nat.not_le.mpr hn))

theorem map_fst_setPc (r : List (Nat × Pc)) (i : Nat) (pc : Pc) :
    (r.map fun p => if p.1 = i then (i, pc) else p).map (·.1) = r.map (·.1) := by
  rw [List.map_map]
  apply List.map_congr_left
  intro p _
  simp only [Function.comp]
  split <;> simp_all

theorem inv_init (c : Cfg) : Inv c (init c) := by
  refine ⟨by simp [init], by simp [init], by simp [init], fun i => ?_⟩
  simp [ItemInv, init, pcIn, Fresh, itemStarts, itemDones, itemFbs]

theorem inv_submit {c : Cfg} {s s' : BState} (inv : Inv c s) (h : apply c s .submit = some s') : Inv c s' := by
  simp only [apply] at h
  split at h <;> cases h
  refine ⟨?_, ?_, ?_, ?_⟩
  · intro t ht
    rcases List.mem_append.mp ht with ht | ht
    · exact Nat.lt_succ_of_lt (inv.qlt t ht)
    · rw [List.mem_singleton.mp ht]; exact Nat.lt_succ_self _
  · intro p hp; exact Nat.lt_succ_of_lt (inv.rlt p hp)
  · have hn : s.next ∉ s.queue ++ s.running.map (·.1) := fun hm =>
      (List.mem_append.mp hm).elim (fun hq => Nat.lt_irrefl _ (inv.qlt _ hq)) fun hr => by
        obtain ⟨p, hp, hpe⟩ := List.mem_map.mp hr
        exact Nat.lt_irrefl _ (hpe ▸ inv.rlt p hp)
    simp only [List.append_assoc, List.singleton_append]
    exact List.perm_middle.nodup_iff.mpr (List.nodup_cons.mpr ⟨hn, inv.nodup⟩)
  · intro j
    refine ItemInv.frame (s := s) rfl ?_ rfl rfl rfl id (inv.item j)
    simp only [List.mem_append, List.mem_singleton, or_assoc]
    exact or_congr_right (by omega)

theorem inv_take {c : Cfg} {s s' : BState} (inv : Inv c s) (h : apply c s .take = some s') : Inv c s' := by
  simp only [apply] at h
  split at h
  · simp at h
  · rename_i t q hq
    split at h <;> cases h
    obtain ⟨htn, hnd⟩ := List.nodup_cons.mp (by simpa only [hq, List.cons_append] using inv.nodup)
    have htr : t ∉ s.running.map (·.1) := fun h => htn (List.mem_append_right _ h)
    have htq : t ∈ s.queue := by rw [hq]; exact List.mem_cons_self
    refine ⟨?_, ?_, ?_, ?_⟩
    · intro x hx; exact inv.qlt x (by rw [hq]; exact List.mem_cons_of_mem _ hx)
    · intro p hp
      rcases List.mem_append.mp hp with hp | hp
      · exact inv.rlt p hp
      · rw [List.mem_singleton.mp hp]; exact inv.qlt t htq
    · simp only [List.map_append, List.map_cons, List.map_nil, ← List.append_assoc]
      exact (List.perm_append_singleton t _).nodup_iff.mpr (List.nodup_cons.mpr ⟨htn, hnd⟩)
    · intro j
      by_cases hjt : j = t
      · subst hjt
        have hbefore := inv.item j
        unfold ItemInv at hbefore
        rw [pcIn_none.mpr htr, if_pos (Or.inl htq)] at hbefore
        refine Iff.mpr (ItemInv.of_pc (pc := .stopCheck) ?_) hbefore
        simp only [pcIn_append, pcIn_none.mpr htr, if_true]
      · refine ItemInv.frame (s := s) ?_ ?_ rfl rfl rfl id (inv.item j)
        · rw [pcIn_append, if_neg (Ne.symm hjt)]; cases pcIn s.running j <;> rfl
        · simp only [hq, List.mem_cons, hjt, false_or]

theorem inv_cancel {c : Cfg} {s s' : BState} (inv : Inv c s) (h : apply c s .cancel = some s') : Inv c s' := by
  simp only [apply] at h
  split at h <;> cases h
  exact ⟨inv.qlt, inv.rlt, inv.nodup, fun j => ItemInv.frame (s := s) rfl Iff.rfl rfl rfl rfl (fun _ => rfl) (inv.item j)⟩

theorem inv_waitRet {c : Cfg} {s s' : BState} (inv : Inv c s) (h : apply c s .waitRet = some s') : Inv c s' := by
  simp only [apply] at h
  split at h <;> cases h
  exact ⟨inv.qlt, inv.rlt, inv.nodup, fun j => ItemInv.frame (s := s) rfl Iff.rfl rfl rfl rfl id (inv.item j)⟩

/-- an event of item `i` (or none) put on the log does not change what the log says about `j ≠ i` -/
def LogLocal (l' l : List Obs) (i : Nat) : Prop :=
  l' = l ∨ (∃ k, l' = .start i k :: l) ∨ (∃ k, l' = .done i k :: l) ∨ l' = .fb i :: l

theorem LogLocal.other {l' l : List Obs} {i j : Nat} (h : LogLocal l' l i) (hji : j ≠ i) :
    itemStarts l' j = itemStarts l j ∧ itemDones l' j = itemDones l j ∧ itemFbs l' j = itemFbs l j := by
  have hij : ¬ i = j := fun h => hji h.symm
  rcases h with rfl | ⟨k, rfl⟩ | ⟨k, rfl⟩ | rfl
  · exact ⟨rfl, rfl, rfl⟩
  all_goals simp only [itemStarts_cons, itemDones_cons, itemFbs_cons, if_neg hij, and_self]

theorem inv_local {c : Cfg} {s s' : BState} {i : Nat} (inv : Inv c s)
    (hq : s'.queue = s.queue) (hn : s'.next = s.next)
    (hsub : (s'.running.map (·.1)).Sublist (s.running.map (·.1)))
    (hrun : ∀ j, j ≠ i → pcIn s'.running j = pcIn s.running j)
    (hlog : LogLocal s'.log s.log i) (hc : s.cancelled = true → s'.cancelled = true)
    (hi : ItemInv c s' i) : Inv c s' := by
  refine ⟨?_, ?_, ?_, ?_⟩
  · rw [hq, hn]; exact inv.qlt
  · intro p hp
    obtain ⟨p', hp', he⟩ := List.mem_map.mp (hsub.subset (List.mem_map.mpr ⟨p, hp, rfl⟩))
    rw [hn, ← he]; exact inv.rlt p' hp'
  · rw [hq]
    exact inv.nodup.sublist ((List.Sublist.refl _).append hsub)
  · intro j
    by_cases hji : j = i
    · subst hji; exact hi
    · obtain ⟨h1, h2, h3⟩ := hlog.other hji
      exact ItemInv.frame (hrun j hji) (by rw [hq, hn]) h1 h2 h3 hc (inv.item j)

theorem inv_setPc {c : Cfg} {s : BState} {i : Nat} {pc0 pc' : Pc} {l' : List Obs} {b : Bool} (inv : Inv c s)
    (hpc : pcIn s.running i = some pc0) (hlog : LogLocal l' s.log i) (hc : s.cancelled = true → b = true)
    (ht : TaskInv c i (itemStarts l' i) (itemDones l' i) (itemFbs l' i) b pc') :
    Inv c (setPc { s with cancelled := b, log := l' } i pc') := by
  refine inv_local (i := i) inv rfl rfl ?_ ?_ hlog hc ?_
  · simp only [setPc, map_fst_setPc]; exact List.Sublist.refl _
  · intro j hji; simp only [setPc, pcIn_setPc, hji, if_false]
  · refine Iff.mpr (ItemInv.of_pc ?_) ht
    simp only [setPc, pcIn_setPc, if_true, hpc, Option.map_some]

theorem inv_goto {c : Cfg} {s : BState} {i : Nat} {pc0 pc' : Pc} (inv : Inv c s) (hpc : pcIn s.running i = some pc0)
    (ht : TaskInv c i (itemStarts s.log i) (itemDones s.log i) (itemFbs s.log i) s.cancelled pc') :
    Inv c (setPc s i pc') :=
  inv_setPc inv hpc (Or.inl rfl) id ht

theorem inv_finish {c : Cfg} {s : BState} {i : Nat} {pc0 : Pc} {sl : List (Option Result)} {st : Bool} (inv : Inv c s)
    (hpc : pcIn s.running i = some pc0)
    (hf : Final c i (itemStarts s.log i) (itemDones s.log i) (itemFbs s.log i) s.cancelled) :
    Inv c (finish { s with slots := sl, shouldStop := st } i) := by
  have hmem : i ∈ s.running.map (·.1) := Decidable.of_not_not fun hn =>
    nomatch (pcIn_none.mpr hn).symm.trans hpc
  have hnq : i ∉ s.queue := fun hq => (List.nodup_append.mp inv.nodup).2.2 i hq i hmem rfl
  obtain ⟨p, hp, he⟩ := List.mem_map.mp hmem
  refine inv_local (i := i) inv rfl rfl (List.filter_sublist.map _) ?_ (Or.inl rfl) id ?_
  · intro j hji; simp only [finish, pcIn_filter, hji, if_false]
  · refine Iff.mpr (ItemInv.over ?_ hnq (he ▸ inv.rlt p hp)) hf
    simp only [finish, pcIn_filter, if_true]

theorem inv_ret {c : Cfg} {s s' : BState} {i : Nat} (inv : Inv c s) (h : apply c s (.ret i) = some s') : Inv c s' := by
  simp only [apply] at h
  split at h
  · rename_i k hpc
    rw [pcOf_eq] at hpc
    obtain ⟨h1, h2, h3, h4, h5, h6⟩ := (ItemInv.of_pc hpc).mp (inv.item i)
    have hlog : LogLocal (.done i k :: s.log) s.log i := Or.inr (Or.inr (Or.inl ⟨k, rfl⟩))
    have hdn : itemDones (.done i k :: s.log) i = down (k + 1) := by
      simp only [itemDones_cons, if_true, h2, down_succ]
    cases hres : (c.exec i k).res with
    | ok x =>
      simp only [hres] at h
      cases h
      exact inv_setPc inv hpc hlog stays_cancelled (.success h1 hdn h3 h4 h5 hres)
    | error e =>
      simp only [hres] at h
      cases h
      exact inv_setPc inv hpc hlog stays_cancelled ⟨h1, hdn, h3, h4, Attempts.allFail_succ (fun j hj => h5 j (by omega)) hres,
        fun ha => absurd ha h6, k, rfl, hres⟩
  · simp at h

theorem inv_step {c : Cfg} {s s' : BState} {i : Nat} (inv : Inv c s) (h : apply c s (.step i) = some s') : Inv c s' := by
  rw [apply, pcOf_eq] at h
  cases hpc : pcIn s.running i with
  | none => simp [hpc] at h
  | some pc =>
    have hitem := (ItemInv.of_pc hpc).mp (inv.item i)
    cases pc with
    | stopCheck =>
      simp only [hpc] at h
      split at h <;> cases h
      · exact inv_finish inv hpc (.never hitem)
      · exact inv_goto inv hpc hitem
    | ctxCheck =>
      simp only [hpc] at h
      split at h <;> cases h
      · exact inv_finish inv hpc (.never hitem)
      · exact inv_goto inv hpc ⟨hitem.1, hitem.2.1, hitem.2.2, Nat.zero_le _, fun j hj => absurd hj (Nat.not_lt_zero _), fun _ => rfl, rfl⟩
    | loopTop k last =>
      simp only [hpc] at h
      obtain ⟨h1, h2, h3, h4, h5, h6, h7⟩ := hitem
      split at h
      · rename_i hk
        split at h
        · -- cancelled: store the context's error
          rename_i hcan
          cases h
          refine inv_goto inv hpc ?_
          by_cases hk0 : k = 0
          · subst hk0; exact .never ⟨h1, h2, h3⟩
          · exact .cut (by omega) hk h1 h2 h3 h5 hcan
        · split at h
          · -- no exec callback
            rename_i habs
            cases h
            have hk0 := h6 habs
            subst hk0; exact inv_goto inv hpc (.never ⟨h1, h2, h3⟩)
          · -- enter the exec callback
            rename_i hne
            cases h
            have hst : itemStarts (.start i k :: s.log) i = down (k + 1) := by
              simp only [itemStarts_cons, if_true, h1, down_succ]
            exact inv_setPc inv hpc (Or.inr (Or.inl ⟨k, rfl⟩)) id ⟨hst, h2, h3, hk, h5, hne⟩
      · -- budget used up
        rename_i hk
        split at h
        · -- `execErr == nil`: budget 0
          cases h
          have hk0 : k = 0 := h7
          subst hk0; exact inv_goto inv hpc (.never ⟨h1, h2, h3⟩)
        · rename_i e
          obtain ⟨j, hj, hje⟩ := h7
          obtain rfl : k = c.budget := by omega
          have hex (fb : Nat) (hfb : fb = if c.fb = .custom then 1 else 0) :
              Final c i (itemStarts s.log i) (itemDones s.log i) fb s.cancelled :=
            .exhausted h1 h2 (by omega) h5 hfb
          split at h
          · -- user fallback
            rename_i hcust
            have hfb : itemFbs (.fb i :: s.log) i = if c.fb = .custom then 1 else 0 := by
              simp only [itemFbs_cons, if_true, h3, if_pos hcust]
            split at h <;> cases h
            all_goals exact inv_setPc inv hpc (Or.inr (Or.inr (Or.inr rfl))) stays_cancelled ((hex _ hfb).mono stays_cancelled)
          · -- no user fallback
            rename_i hncust
            cases h
            exact inv_goto inv hpc (hex _ (by rw [h3, if_neg (fun hc => hncust hc)]))
    | store r fl =>
      simp only [hpc] at h
      cases h
      exact inv_finish inv hpc hitem
    | inExec k => simp [hpc] at h

theorem inv_reachable {c : Cfg} {s : BState} (h : Reachable c s) : Inv c s := by
  induction h with
  | init => exact inv_init c
  | @step s s' l _ hs ih =>
    cases l with
    | submit => exact inv_submit ih hs
    | take => exact inv_take ih hs
    | step i => exact inv_step ih hs
    | ret i => exact inv_ret ih hs
    | cancel => exact inv_cancel ih hs
    | waitRet => exact inv_waitRet ih hs

open Flyt.Proofs.Attempts (FirstOk AllFail)

theorem starts_reverse (l : List Obs) (i : Nat) : itemStarts l.reverse i = (itemStarts l i).reverse := by
  simp [itemStarts, List.filterMap_reverse]
theorem fbs_reverse (l : List Obs) (i : Nat) : itemFbs l.reverse i = itemFbs l i := by
  simp [itemFbs, List.filter_reverse]
theorem down_reverse (m : Nat) : (down m).reverse = List.range m := by simp [down]

/-- a summary every case of the invariant implies -/
structure Bounded (c : Cfg) (i : Nat) (st : List Nat) (fb m : Nat) : Prop where
  starts : st = down m
  le : m ≤ c.budget
  failedBefore : ∀ j, j + 1 < m → ∃ e, (c.exec i j).res = .error e
  fbLe : fb ≤ 1
  fbOnly : fb = 1 → c.fb = .custom ∧ m = c.budget ∧ AllFail (c.exec i) c.budget

theorem Bounded.of_failed {c : Cfg} {i : Nat} {st : List Nat} {fb m k : Nat} (hst : st = down m) (hle : m ≤ c.budget)
    (hmk : m ≤ k + 1) (hf : Failed c i k) (hfb : fb = 0) : Bounded c i st fb m :=
  ⟨hst, hle, fun j hj => hf j (by omega), by omega, by omega⟩

theorem Final.bounded {c : Cfg} {i : Nat} {st dn : List Nat} {fb : Nat} {b : Bool} (h : Final c i st dn fb b) :
    ∃ m, Bounded c i st fb m := by
  cases h with
  | never h => exact ⟨0, .of_failed (k := 0) h.1 (Nat.zero_le _) (Nat.zero_le _) (fun _ hj => absurd hj (Nat.not_lt_zero _)) h.2.2⟩
  | @success k y h1 h2 h3 h4 h5 h6 => exact ⟨k + 1, .of_failed h1 h4 (Nat.le_refl _) h5 h3⟩
  | @cut k h1 h2 h3 h4 h5 h6 h7 => exact ⟨k, .of_failed h3 (Nat.le_of_lt h2) (Nat.le_succ k) h6 h5⟩
  | exhausted h1 h2 h3 h4 h5 =>
    refine ⟨c.budget, h1, Nat.le_refl _, fun j hj => h4 j (by omega), ?_, ?_⟩
    · rw [h5]; split <;> omega
    · intro hfb
      exact ⟨Decidable.of_not_not fun hc => by rw [h5, if_neg hc] at hfb; omega, rfl, h4⟩

theorem ItemInv.bounded {c : Cfg} {s : BState} {i : Nat} (h : ItemInv c s i) :
    ∃ m, Bounded c i (itemStarts s.log i) (itemFbs s.log i) m := by
  unfold ItemInv at h
  split at h
  · rename_i pc _
    cases pc with
    | stopCheck | ctxCheck => exact Final.bounded (b := s.cancelled) (.never h)
    | loopTop k last => exact ⟨k, .of_failed h.1 h.2.2.2.1 (Nat.le_succ k) h.2.2.2.2.1 h.2.2.1⟩
    | inExec k => exact ⟨k + 1, .of_failed h.1 h.2.2.2.1 (Nat.le_refl _) h.2.2.2.2.1 h.2.2.1⟩
    | store r f => exact Final.bounded h
  · split at h
    · exact Final.bounded (b := s.cancelled) (.never h)
    · exact Final.bounded h

/-- **C02 for the concurrent executor, every schedule, every moment**: the exec calls of item `i` seen
    so far are attempts `0, 1, …, m-1` in order, `m ≤ budget`, all of them but the last one failed (so
    never an attempt after a success), the fallback ran at most once and only after all `budget`
    attempts failed. -/
theorem reachable_bounded {c : Cfg} {s : BState} (h : Reachable c s) (i : Nat) :
    ∃ m, itemStarts s.log.reverse i = List.range m ∧ m ≤ c.budget ∧
      (∀ j, j + 1 < m → ∃ e, (c.exec i j).res = .error e) ∧
      (∀ k, FirstOk (c.exec i) k → m ≤ min (k + 1) c.budget) ∧
      itemFbs s.log.reverse i ≤ 1 ∧
      (itemFbs s.log.reverse i = 1 → c.fb = .custom ∧ m = c.budget ∧ AllFail (c.exec i) c.budget) := by
  obtain ⟨m, hb⟩ := ((inv_reachable h).item i).bounded
  refine ⟨m, by rw [starts_reverse, hb.starts, down_reverse], hb.le, hb.failedBefore, ?_, by rw [fbs_reverse]; exact hb.fbLe,
    by rw [fbs_reverse]; exact hb.fbOnly⟩
  intro k hk
  have := hk.le_of_allFail (N := m - 1) fun j hj => hb.failedBefore j (by omega)
  have := hb.le
  omega

/-- the task of item `i` is over: it was handed to the pool, is not queued and not held by a worker -/
def TaskOver (s : BState) (i : Nat) : Prop := i < s.next ∧ i ∉ s.queue ∧ pcOf s i = none

/-- **… and exactly `min (k+1) budget` attempts once the item's task is over**, unless the item was never
    executed (stop mode, no exec callback, budget 0) or the run was cancelled: then attempts `0 … min(k+1, N)-1` were made, and the
    fallback ran exactly once iff all `N` failed and the node has one. -/
theorem reachable_exact {c : Cfg} {s : BState} (h : Reachable c s) (hnc : s.cancelled = false) (i : Nat)
    (hover : TaskOver s i) :
    itemStarts s.log.reverse i = [] ∨
    ((∀ k, FirstOk (c.exec i) k → itemStarts s.log.reverse i = List.range (min (k + 1) c.budget)) ∧
     (∀ k, FirstOk (c.exec i) k → k < c.budget → itemFbs s.log.reverse i = 0) ∧
     (AllFail (c.exec i) c.budget → itemStarts s.log.reverse i = List.range c.budget ∧
        itemFbs s.log.reverse i = (if c.fb = .custom then 1 else 0))) := by
  obtain ⟨h1, h2, h3⟩ := hover
  have hitem := (ItemInv.over (pcOf_eq s i ▸ h3) h2 h1).mp ((inv_reachable h).item i)
  rw [starts_reverse, fbs_reverse]
  cases hitem with
  | never hf => left; rw [hf.1]; rfl
  | @success k y e1 e2 e3 e4 e5 e6 =>
    right
    rw [e1, down_reverse, e3]
    have hk : FirstOk (c.exec i) k := ⟨⟨y, e6⟩, e5⟩
    exact ⟨fun k' hk' => by rw [hk'.unique hk, Nat.min_eq_left e4], fun _ _ _ => rfl,
      fun hall => absurd (hk.le_of_allFail hall) (Nat.not_le.mpr e4)⟩
  | cut _ _ _ _ _ _ hc => rw [hnc] at hc; cases hc
  | exhausted e1 e2 e3 e4 e5 =>
    right
    rw [e1, down_reverse, e5]
    exact ⟨fun k' hk' => by rw [Nat.min_eq_right (Nat.le_succ_of_le (hk'.le_of_allFail e4))],
      fun k' hk' hlt => absurd (hk'.le_of_allFail e4) (Nat.not_le.mpr hlt), fun _ => ⟨rfl, rfl⟩⟩

end Flyt.Proofs.ConcRetry
