import FlytModel.Proofs.L.Item
import FlytModel.Proofs.Wait
/-!
# Every item of a batch run has its own retry loop (helper lemmas for C02 / C17 on batches)

`Proofs/Wait.lean` shows that the item executor of `runBatch` (`itemsSeq`; `itemsSerialPool` computes the
same) produces `ItemsRun` lists: item after item, each either skipped (no events) or processed by `runItem`.
Here: the events carrying item index `i` in the whole trace of a batch run are either none (the item
was never executed) or exactly the events of `runItem` on that item with its own script — so every
counting statement about `runItem` holds per item, with no counter shared between items.
-/
namespace Flyt.Proofs.BatchItems
open Flyt Flyt.Spec Flyt.Proofs.Attempts Flyt.Proofs.Item
open Flyt.Proofs.Wait (ItemsRun)
export Flyt.Proofs.Wait (runBatch_form')

variable {kind : CtxKind} {n v : Nat} {cfg : BatchCfg} {scr : BatchScript}

theorem itemsRun_item {items : List Result} {evs : List Ev} {sl : List Result}
    (h : ItemsRun kind n v cfg scr 0 items evs sl) (i : Nat) :
    evs.filter (isItemEv i) = [] ∨
    ∃ it ctx, items[i]? = some it ∧
      evs.filter (isItemEv i) = (runItem kind n v cfg i it (scr.item i) ctx).1 := by
  have hg : Wait.ReadsItem n v (Option.guard (isItemEv i ·)) i := by
    rintro j e (⟨k, a, rfl⟩ | ⟨k, d, f, rfl⟩ | ⟨a, b, rfl⟩) hji <;> simpa [Option.guard, isItemEv] using hji
  simp only [← List.filterMap_eq_filter]
  refine (Wait.itemsRun_item hg h i (Nat.zero_add i).symm).imp_right fun ⟨it, ctx, hit, hev, _⟩ => ⟨it, ctx, hit, ?_⟩
  rw [hev, List.filterMap_eq_filter, List.filter_eq_self]
  intro e he
  rcases Wait.runItem_events kind n v cfg i it (scr.item i) ctx e he with ⟨k, a, rfl⟩ | ⟨k, d, f, rfl⟩ | ⟨a, b, rfl⟩ <;>
    simp [isItemEv]

/-- **the events of item `i` in the trace of a whole batch run**: none (never executed), or exactly
    the events of `runExecWithRetries` on the `i`-th item prep produced, with the item's own script -/
theorem runBatch_item (kind : CtxKind) (n v sid : Nat) (cfg : BatchCfg) (scr : BatchScript) (ctx : Ctx) (i : Nat) :
    (runBatch kind n v sid cfg scr ctx).1.filter (isItemEv i) = [] ∨
    ∃ l it c, scr.prep.res = .ok l ∧ (normItems cfg.shape l)[i]? = some it ∧
      (runBatch kind n v sid cfg scr ctx).1.filter (isItemEv i) = (runItem kind n v cfg i it (scr.item i) c).1 := by
  rcases runBatch_form' kind n v sid cfg scr ctx with ⟨e, _, htr⟩ | ⟨l, iev, slots, post, hl, hrun, htr, hpost⟩
  · exact .inl (htr ▸ rfl)
  · have hprep : [Ev.bprep n v sid].filter (isItemEv i) = [] := rfl
    have hpost' : post.filter (isItemEv i) = [] := by rcases hpost with rfl | rfl <;> rfl
    rw [htr, List.filter_append, List.filter_append, hprep, hpost', List.nil_append, List.append_nil]
    exact (itemsRun_item hrun i).imp_right fun ⟨it, c, hit, hev⟩ => ⟨l, it, c, hl, hit, hev⟩

theorem runBatch_keys (kind : CtxKind) (n v sid : Nat) (cfg : BatchCfg) (scr : BatchScript) (ctx : Ctx) :
    ∀ e ∈ (runBatch kind n v sid cfg scr ctx).1, evKey e = (n, v) := by
  intro e he
  rcases runBatch_form' kind n v sid cfg scr ctx with ⟨_, _, htr⟩ | ⟨l, iev, slots, post, _, hrun, htr, hpost⟩
  · rw [htr] at he; simp at he; subst he; rfl
  · rw [htr] at he
    simp only [List.mem_append] at he
    rcases he with (he | he) | he
    · simp at he; subst he; rfl
    · obtain ⟨j, _, hev⟩ := Flyt.Proofs.Wait.itemsRun_events hrun e he
      rcases hev with ⟨k, a, rfl⟩ | ⟨k, d, f, rfl⟩ | ⟨a, b, rfl⟩ <;> rfl
    · rcases hpost with h | h <;> simp [h] at he
      subst he; rfl

end Flyt.Proofs.BatchItems
