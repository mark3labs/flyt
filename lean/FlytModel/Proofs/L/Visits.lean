import FlytModel.Proofs.L.Flow
import FlytModel.Proofs.L.LeafFacts
import FlytModel.Proofs.L.BatchItems
/-!
# The trace of a flow run is a sequence of node visits (helper lemmas for "inside a flow": C01, C02, C17)

`VisitSeq env sid vis vis' tr`: `tr` is the concatenation of visits of leaf / batch nodes of the arena,
the visit counters going from `vis` to `vis'`; each leaf visit is literally the events of a standalone `runLeaf` on a live context
with the node's id, its current visit number, that visit's script and the flow's store (so it obeys
everything proved about single runs).
`run_visits`: every run of `runNode` / `flowLoop` — any nesting depth, any routing, loops — is one.
`VisitSeq.segments_mem`: the groups `Spec.segments` cuts the trace into (what the driver judges one by
one) are each one of these visits.
-/
namespace Flyt.Proofs.Visits
open Flyt Flyt.Spec Flyt.Proofs.Attempts Flyt.Proofs.Leaf Flyt.Proofs.Flow
open Flyt.Proofs.BatchItems (runBatch_keys)

def bump (vis : NodeId → Nat) (n : NodeId) : NodeId → Nat := fun m => if m = n then vis m + 1 else vis m

inductive VisitSeq (env : Env) (sid : StoreId) : (NodeId → Nat) → (NodeId → Nat) → List Ev → Prop
  | nil (vis) : VisitSeq env sid vis vis []
  | leaf {vis vis' id cfg rest} : env.arena id = .leaf cfg →
      VisitSeq env sid (bump vis id) vis' rest →
      VisitSeq env sid vis vis' ((runLeaf env.kind id (vis id) sid cfg (env.leafBeh id (vis id)) .live).1 ++ rest)
  | batch {vis vis' id cfg ctx rest} : env.arena id = .batch cfg →
      VisitSeq env sid (bump vis id) vis' rest →
      VisitSeq env sid vis vis' ((runBatch env.kind id (vis id) sid cfg (env.batchBeh id (vis id)) ctx).1 ++ rest)

theorem VisitSeq.append {env : Env} {sid : StoreId} {a b c : NodeId → Nat} {x y : List Ev}
    (h1 : VisitSeq env sid a b x) (h2 : VisitSeq env sid b c y) : VisitSeq env sid a c (x ++ y) := by
  induction h1 with
  | nil => simpa using h2
  | leaf ha _ ih => rw [List.append_assoc]; exact .leaf ha (ih h2)
  | batch ha _ ih => rw [List.append_assoc]; exact .batch ha (ih h2)

/-- one visit of `id`, counted iff it left an event -/
theorem visit_bumpIf {env : Env} {sid : StoreId} {st : RunSt} {id : NodeId} {evs : List Ev} {c : Ctx}
    (h : evs ≠ [] → VisitSeq env sid st.visits (bump st.visits id) evs) :
    VisitSeq env sid st.visits ({ (st.bumpIf (!evs.isEmpty) id) with ctx := c }).visits evs := by
  cases evs with
  | nil => exact .nil _
  | cons e t => exact h (List.cons_ne_nil e t)

/-- **every run of a node of the arena — a leaf, a batch, a flow nested to any depth — and every run
    of the loop of `Flow.Exec` is a sequence of visits** -/
theorem run_visits (env : Env) (sid : StoreId) : ∀ fuel : Nat,
    (∀ id st, VisitSeq env sid st.visits (runNode env fuel id sid st).2.1.visits (runNode env fuel id sid st).1) ∧
    (∀ tbl cur st, VisitSeq env sid st.visits (flowLoop env fuel tbl cur sid st).2.1.visits
      (flowLoop env fuel tbl cur sid st).1) := by
  intro fuel
  induction fuel with
  | zero => constructor <;> intros <;> simp [runNode, flowLoop] <;> exact .nil _
  | succ fuel ih =>
    constructor
    · intro id st
      cases harena : env.arena id with
      | leaf cfg =>
        rw [Flow.runNode_leaf env fuel id sid st cfg harena]
        refine visit_bumpIf fun hne => ?_
        cases hctx : st.ctx with
        | done k => rw [hctx] at hne; exact absurd rfl hne
        | live => simpa using VisitSeq.leaf (sid := sid) (vis := st.visits) harena (.nil _)
      | batch cfg =>
        rw [Flow.runNode_batch env fuel id sid st cfg harena]
        exact visit_bumpIf fun _ => by simpa using VisitSeq.batch (sid := sid) (vis := st.visits) harena (.nil _)
      | flow start ops =>
        unfold runNode
        rw [harena]
        simp only []
        split
        · exact .nil _
        · split
          · exact .nil _
          · split
            · rename_i s _ evs st' a hfl
              have := ih.2 (buildTable ops) s st
              rw [hfl] at this
              exact this
            · exact ih.2 _ _ _
    · intro tbl cur st
      unfold flowLoop
      split
      · exact .nil _
      · split
        · rename_i evs st' a hrun
          have h1 := ih.1 cur st
          rw [hrun] at h1
          split
          · exact h1.append (ih.2 _ _ _)
          · exact h1
        · exact ih.1 _ _

theorem segments_cons_key (e : Ev) (t : List Ev) : ∃ g r, segments (e :: t) = (evKey e, g) :: r := by
  simp only [segments]
  cases segments t with
  | nil => exact ⟨_, _, rfl⟩
  | cons p r =>
    obtain ⟨k, g⟩ := p
    by_cases hk : k = evKey e
    · simp only [hk, if_true]; exact ⟨_, _, rfl⟩
    · simp only [hk, if_false]; exact ⟨_, _, rfl⟩

theorem segments_append_uniform (κ : NodeId × Nat) : ∀ (a b : List Ev), a ≠ [] → (∀ e ∈ a, evKey e = κ) →
    (∀ e ∈ b, evKey e ≠ κ) → segments (a ++ b) = (κ, a) :: segments b
  | [], _, h, _, _ => absurd rfl h
  | [e], b, _, ha, hb => by
    have hke : evKey e = κ := ha e (by simp)
    cases b with
    | nil => simp [segments, hke]
    | cons e' t =>
      obtain ⟨g, r, hs⟩ := segments_cons_key e' t
      have hne : evKey e' ≠ evKey e := by rw [hke]; exact hb e' (by simp)
      show segments (e :: e' :: t) = _
      rw [segments, hs]
      have hne' : ¬ evKey e' = κ := hb e' (by simp)
      simp [hke, hne']
  | e :: e' :: a', b, _, ha, hb => by
    have ih := segments_append_uniform κ (e' :: a') b (by simp) (fun x hx => ha x (by simp [hx])) hb
    have hke : evKey e = κ := ha e (by simp)
    show segments (e :: ((e' :: a') ++ b)) = _
    rw [segments, ih]
    simp [hke]

/-- a visit `a`, all of whose events carry the key `(id, vis id)`, in front of a trace that starts from the bumped
    counters -/
theorem lower_cons {vis : NodeId → Nat} {id : NodeId} {a rest : List Ev} (ha : ∀ e ∈ a, evKey e = (id, vis id))
    (hr : ∀ e ∈ rest, bump vis id (evKey e).1 ≤ (evKey e).2) : ∀ e ∈ a ++ rest, vis (evKey e).1 ≤ (evKey e).2 := by
  intro e he
  rcases List.mem_append.mp he with he | he
  · rw [ha e he]; exact Nat.le_refl _
  · have := hr e he
    unfold bump at this
    split at this <;> omega

theorem VisitSeq.lower {env : Env} {sid : StoreId} {vis vis' : NodeId → Nat} {tr : List Ev}
    (h : VisitSeq env sid vis vis' tr) : ∀ e ∈ tr, vis (evKey e).1 ≤ (evKey e).2 := by
  induction h with
  | nil => intro e he; simp at he
  | @leaf vis _ id _ _ _ _ ih => exact lower_cons (vis := vis) (id := id) (runLeaf_live_spec _ _ _ _ _ _).keys ih
  | @batch vis _ id _ _ _ _ _ ih => exact lower_cons (vis := vis) (id := id) (runBatch_keys _ _ _ _ _ _ _) ih

theorem VisitSeq.fresh {env : Env} {sid : StoreId} {vis vis' : NodeId → Nat} {id : NodeId} {tr : List Ev}
    (h : VisitSeq env sid (bump vis id) vis' tr) : ∀ e ∈ tr, evKey e ≠ (id, vis id) := by
  intro e he hk
  have := h.lower e he
  rw [hk] at this
  simp [bump] at this
  omega

/-- the groups of a trace that starts with a visit `a` of key `κ` which does not come again: `a` itself (without
    its wait events; no group if nothing is left), then the groups of the rest -/
theorem segments_cons_visit {κ : NodeId × Nat} {a rest : List Ev} {P : (NodeId × Nat) × List Ev → Prop}
    (ha : ∀ e ∈ a, evKey e = κ) (hr : ∀ e ∈ rest, evKey e ≠ κ) (hP : P (κ, noWaits a))
    (ih : ∀ p ∈ segments (noWaits rest), P p) : ∀ p ∈ segments (noWaits (a ++ rest)), P p := by
  intro p hp
  rw [noWaits_append] at hp
  by_cases hemp : noWaits a = []
  · rw [hemp, List.nil_append] at hp; exact ih p hp
  · rw [segments_append_uniform κ _ (noWaits rest) hemp (fun e he => ha e (List.mem_filter.mp he).1)
      (fun e he => hr e (List.mem_filter.mp he).1)] at hp
    rcases List.mem_cons.mp hp with rfl | hp
    · exact hP
    · exact ih p hp

/-- **what `Spec.segments` makes of a visit sequence**: every group is one visit — of a leaf node, with
    exactly the (non-wait) events of a standalone run of that node under that visit's script, or of a batch node -/
theorem VisitSeq.segments_mem {env : Env} {sid : StoreId} {vis vis' : NodeId → Nat} {tr : List Ev}
    (h : VisitSeq env sid vis vis' tr) : ∀ p ∈ segments (noWaits tr),
      (∃ cfg, env.arena p.1.1 = .leaf cfg ∧
        p.2 = noWaits (runLeaf env.kind p.1.1 p.1.2 sid cfg (env.leafBeh p.1.1 p.1.2) .live).1) ∨
      (∃ cfg, env.arena p.1.1 = .batch cfg) := by
  induction h with
  | nil => intro p hp; simp [noWaits, segments] at hp
  | @leaf _ _ _ cfg _ ha hrest ih =>
    exact segments_cons_visit (runLeaf_live_spec _ _ _ _ _ _).keys hrest.fresh (Or.inl ⟨cfg, ha, rfl⟩) ih
  | @batch _ _ _ cfg _ _ ha hrest ih =>
    exact segments_cons_visit (runBatch_keys _ _ _ _ _ _ _) hrest.fresh (Or.inr ⟨cfg, ha⟩) ih

/-- a group of the (wait-free) trace of a run of any node that belongs to a plain / function-style node is a
    standalone run of that node -/
theorem run_segment_leaf {env : Env} {sid : StoreId} {fuel : Nat} {root : NodeId} {st : RunSt}
    {p : (NodeId × Nat) × List Ev} {cfg : LeafCfg}
    (hp : p ∈ segments (noWaits (runNode env fuel root sid st).1)) (hcfg : env.arena p.1.1 = .leaf cfg) :
    p.2 = noWaits (runLeaf env.kind p.1.1 p.1.2 sid cfg (env.leafBeh p.1.1 p.1.2) .live).1 := by
  rcases ((run_visits env sid fuel).1 root st).segments_mem p hp with ⟨cfg', ha, hseg⟩ | ⟨cfg', ha⟩
  · rw [hcfg] at ha; cases ha; exact hseg
  · rw [hcfg] at ha; cases ha

end Flyt.Proofs.Visits
