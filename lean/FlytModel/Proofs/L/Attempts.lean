import FlytModel.Proofs.Attempts
/-!
# The retry loop `attempts` and the fallback step, characterised (helper lemmas for C01, C02, C17)

`attempts_spec` describes, round by round (`attempts_induct`), everything the loop
`for attempt := k; attempt < k + rem; attempt++` can do, for every script, context and wait setting:
it makes `m ≤ rem` exec calls numbered `k, k+1, …, k+m-1` (interleaved with wait events only), all of
them but the last one failed, and the loop's result is the last call's result / the last error when
the budget is exhausted / the context's error when it was cut short.

`PhaseEnd` lists the six ways the *exec phase* (loop from attempt 0 + fallback) of `Run` and of
`runExecWithRetries` can end; `execPhase_spec` shows there are no others.

The directory `Proofs/L/` is the library under the single-node theorems (C01, C02, C17, C18); `Proofs/Attempts.lean`
and `Proofs/Leaf.lean` beside it are the library under the flow theorems (C03, C04, C05, C10).
-/
namespace Flyt.Proofs.Attempts
open Flyt Flyt.Spec

structure Mk (mkExec : Nat → Ev) (mkWait : Nat → Bool → Ev) : Prop where
  exec : ∀ k, (mkExec k).isWait = false
  wait : ∀ k f, (mkWait k f).isWait = true

theorem noWaits_append (a b : List Ev) : noWaits (a ++ b) = noWaits a ++ noWaits b := by
  simp [noWaits]

theorem noWaits_nil : noWaits [] = [] := rfl

theorem noWaits_of_all {l : List Ev} (h : ∀ e ∈ l, e.isWait = false) : noWaits l = l := by
  unfold noWaits
  rw [List.filter_eq_self]
  intro e he
  simp [h e he]

theorem mem_noWaits_or {l : List Ev} {e : Ev} (h : e ∈ l) : e.isWait = true ∨ e ∈ noWaits l := by
  cases hw : e.isWait
  · right; simp [noWaits, h, hw]
  · left; rfl

section loop
variable (kind : CtxKind) (mkExec : Nat → Ev) (mkWait : Nat → Bool → Ev)
  (exec : Nat → Out Val) (wc : Nat → Bool) (execS : Style) (wait : Nat)

theorem noWaits_wev (hmk : Mk mkExec mkWait) (k : Nat) : noWaits (wev mkWait wait k) = [] := by
  unfold wev
  split <;> simp [noWaits, hmk.wait]

/-- What the loop did, with `m` = number of exec calls made. -/
structure AttSpec (k rem : Nat) (last : Option Nat) (r : List Ev × Ctx × AttemptRes) (m : Nat) : Prop where
  le : m ≤ rem
  absent : execS = .absent → m = 0
  /-- the exec calls are numbered `k, k+1, …` and nothing but wait events lies between them -/
  events : noWaits r.1 = (List.range m).map (fun j => mkExec (k + j))
  /-- the loop emits nothing but its own wait and exec events -/
  kinds : ∀ e ∈ r.1, (∃ j f, e = mkWait j f) ∨ (∃ j, e = mkExec j)
  /-- every call but the last one failed (a success ends the loop) -/
  failedBefore : ∀ j, j + 1 < m → ∃ e, (exec (k + j)).res = .error e
  okCase : ∀ x, r.2.2 = .ok x →
    (m = 0 ∧ x = Val.nil ∧ (execS = .absent ∨ (rem = 0 ∧ last = none))) ∨
    (∃ j y, m = j + 1 ∧ (exec (k + j)).res = .ok y ∧ x = execRet execS y)
  failedCase : ∀ e, r.2.2 = .failed e →
    m = rem ∧ ((m = 0 ∧ last = some e) ∨ (∃ j, m = j + 1 ∧ (exec (k + j)).res = .error e))
  cancelledCase : ∀ kd, r.2.2 = .cancelled kd →
    r.2.1 = .done kd ∧ m < rem ∧ (∀ j, m = j + 1 → ∃ e, (exec (k + j)).res = .error e)

theorem attempts_spec (hmk : Mk mkExec mkWait) (k rem : Nat) (last : Option Nat) (ctx : Ctx) :
    ∃ m, AttSpec mkExec mkWait exec execS k rem last
      (attempts kind mkExec mkWait exec wc execS wait k rem last ctx) m := by
  have hkinds : ∀ k, ∀ e ∈ wev mkWait wait k ++ [mkExec k], (∃ j f, e = mkWait j f) ∨ (∃ j, e = mkExec j) :=
    fun k => round_forall (.inl ⟨k, true, rfl⟩) (.inr ⟨k, rfl⟩)
  have hround : ∀ k, noWaits (wev mkWait wait k ++ [mkExec k]) = [mkExec k] := fun k => by
    rw [noWaits_append, noWaits_wev mkExec mkWait wait hmk]; simp [noWaits, hmk.exec]
  induction k, rem, last, ctx using attempts_induct kind mkExec mkWait exec wc execS wait with
  | zero k last ctx => exact ⟨0, by cases last <;> constructor <;> simp [noWaits]⟩
  | done => exact ⟨0, by constructor <;> simp [noWaits]⟩
  | cut k =>
    refine ⟨0, ?_⟩
    constructor <;> simp [noWaits, hmk.wait]
    exact Or.inl ⟨k, Or.inl rfl⟩
  | absent k _ _ _ hS =>
    refine ⟨0, ?_⟩
    constructor <;> simp [noWaits_wev mkExec mkWait wait hmk, hS]
    exact fun e he => Or.inl ⟨k, Or.inr (mem_wev _ _ he)⟩
  | ok k rem _ x _ hS hres =>
    exact ⟨1, by omega, fun h => absurd h hS, by simp [hround], hkinds k, fun j hj => by omega,
      fun y hy => .inr ⟨0, x, rfl, hres, (AttemptRes.ok.inj hy).symm⟩, nofun, nofun⟩
  | err k rem _ e t _ hS hres _ ih =>
    obtain ⟨m, hm⟩ := ih
    -- attempt `k + 1 + j` of the rest of the loop is attempt `k + (j + 1)` of the whole
    have hsh : ∀ j, k + 1 + j = k + (j + 1) := fun j => by omega
    have hfail : ∀ j, (∀ i, j = i + 1 → ∃ e', (exec (k + 1 + i)).res = .error e') →
        ∃ e', (exec (k + j)).res = .error e'
      | 0, _ => ⟨e, hres⟩
      | j + 1, h => hsh j ▸ h j rfl
    refine ⟨m + 1, ?_⟩
    constructor
    · have := hm.le; omega
    · intro h; exact absurd h hS
    · rw [noWaits_append, hround, hm.events, List.range_succ_eq_map]
      simp [Nat.add_assoc, Nat.add_comm 1]
    · exact List.forall_mem_append.2 ⟨hkinds k, hm.kinds⟩
    · exact fun j hj => hfail j fun i hi => hm.failedBefore i (by omega)
    · intro x hx
      rcases hm.okCase x hx with ⟨_, _, h | ⟨_, h⟩⟩ | ⟨j, y, hj, hy, hxy⟩
      · exact absurd h hS
      · cases h
      · exact .inr ⟨j + 1, y, by omega, hsh j ▸ hy, hxy⟩
    · intro e' he'
      obtain ⟨h1, ⟨_, hl⟩ | ⟨j, hj, hy⟩⟩ := hm.failedCase e' he'
      · cases hl
        exact ⟨by omega, .inr ⟨0, by omega, hres⟩⟩
      · exact ⟨by omega, .inr ⟨j + 1, by omega, hsh j ▸ hy⟩⟩
    · intro kd hkd
      obtain ⟨h1, h2, h3⟩ := hm.cancelledCase kd hkd
      exact ⟨h1, by omega, fun j hj => hfail j fun i hi => h3 i (by omega)⟩

theorem attempts_first (hmk : Mk mkExec mkWait) (hS : execS ≠ .absent) (rem : Nat) (last : Option Nat) :
    mkExec 0 ∈ noWaits (attempts kind mkExec mkWait exec wc execS wait 0 (rem + 1) last .live).1 := by
  rw [attempts_live_succ kind mkExec mkWait exec wc execS wait hS, if_neg (by omega)]
  cases (exec 0).res <;> simp [noWaits, hmk.exec]

end loop

section phase
variable (kind : CtxKind) (mkExec : Nat → Ev) (mkWait : Nat → Bool → Ev) (mkFb : Nat → Ev)
  (exec : Nat → Out Val) (wc : Nat → Bool) (execS : Style) (wait budget : Nat) (fb : FbKind) (fbOut : Out Val)

/-- retry loop from attempt 0 followed by the fallback step: the part `Run` (flyt.go:714-745) and
    `runExecWithRetries` (batch.go:317-357) have in common -/
def execPhase (ctx : Ctx) : List Ev × Ctx × Except ErrRoot Val :=
  let a := attempts kind mkExec mkWait exec wc execS wait 0 budget none ctx
  let f := fallbackPhase kind fb mkFb fbOut a.2.1 a.2.2
  (a.1 ++ f.1, f.2.1, f.2.2)

/-- The six ways the exec phase can end.  Indices: number `m` of exec calls made, the fallback
    events, the phase's result (`ok` = the value handed to post / stored in the slot, `error` = the
    error the run / item ends with). -/
inductive PhaseEnd : Nat → List Ev → Except ErrRoot Val → Prop
  /-- no exec callback (`BaseNode.Exec`) or a budget of 0: `(nil, nil)` without any call -/
  | noExec : (execS = .absent ∨ budget = 0) → PhaseEnd 0 [] (.ok Val.nil)
  /-- attempt `j` (the first one to succeed) returned `y` -/
  | success {j y} : j < budget → execS ≠ .absent → (exec j).res = .ok y →
      PhaseEnd (j + 1) [] (.ok (execRet execS y))
  /-- cut short by cancellation before the budget was used up -/
  | cancelled {m kd} : m < budget → execS ≠ .absent → (∀ j, m = j + 1 → ∃ e, (exec j).res = .error e) →
      0 < m → PhaseEnd m [] (.error (.ctx kd))
  /-- all `budget` attempts failed, no user fallback: the last attempt's error -/
  | exhausted {j e} : j + 1 = budget → (exec j).res = .error e → fb ≠ .custom → execS ≠ .absent →
      PhaseEnd (j + 1) [] (.error (.user e))
  /-- all attempts failed, the fallback got the last error and produced `x` -/
  | fbOk {j e x} : j + 1 = budget → (exec j).res = .error e → fb = .custom → fbOut.res = .ok x → execS ≠ .absent →
      PhaseEnd (j + 1) [mkFb e] (.ok x)
  /-- all attempts failed, the fallback got the last error and failed with `e'` -/
  | fbErr {j e e'} : j + 1 = budget → (exec j).res = .error e → fb = .custom → fbOut.res = .error e' →
      execS ≠ .absent → PhaseEnd (j + 1) [mkFb e] (.error (.user e'))

structure PhaseSpec (r : List Ev × Ctx × Except ErrRoot Val) (loop fbs : List Ev) (m : Nat) : Prop where
  events : r.1 = loop ++ fbs
  loopEvents : noWaits loop = (List.range m).map mkExec
  loopKinds : ∀ e ∈ loop, (∃ j f, e = mkWait j f) ∨ (∃ j, e = mkExec j)
  le : m ≤ budget
  failedBefore : ∀ j, j + 1 < m → ∃ e, (exec j).res = .error e
  ending : PhaseEnd mkFb exec execS budget fb fbOut m fbs r.2.2

theorem execPhase_spec (hmk : Mk mkExec mkWait) :
    ∃ loop fbs m, PhaseSpec mkExec mkWait mkFb exec execS budget fb fbOut
      (execPhase kind mkExec mkWait mkFb exec wc execS wait budget fb fbOut .live) loop fbs m := by
  by_cases hS : execS = .absent
  · subst hS
    refine ⟨[], [], 0, ?_⟩
    have ha : attempts kind mkExec mkWait exec wc .absent wait 0 budget none .live = ([], .live, .ok Val.nil) := by
      cases budget <;> simp [attempts]
    constructor <;> simp [execPhase, ha, fallbackPhase, noWaits]
    exact .noExec (Or.inl rfl)
  · obtain ⟨m, hm⟩ := attempts_spec kind mkExec mkWait exec wc execS wait hmk 0 budget none .live
    have hfirst : 0 < budget → 0 < m := by
      intro hb
      obtain ⟨rem, rfl⟩ : ∃ rem, budget = rem + 1 := ⟨budget - 1, by omega⟩
      have h := attempts_first kind mkExec mkWait exec wc execS wait hmk hS rem none
      rw [hm.events] at h
      cases m with
      | zero => simp at h
      | succ m => omega
    unfold execPhase
    generalize attempts kind mkExec mkWait exec wc execS wait 0 budget none .live = a at hm
    obtain ⟨aev, ctx1, ares⟩ := a
    refine ⟨aev, _, m, ⟨rfl, by simpa using hm.events, hm.kinds, hm.le,
      fun j hj => by simpa using hm.failedBefore j hj, ?_⟩⟩
    -- each result of the loop, followed by the fallback step, is one constructor of `PhaseEnd`
    cases ares with
    | ok x =>
      rcases hm.okCase x rfl with ⟨rfl, rfl, h | ⟨h, _⟩⟩ | ⟨j, y, rfl, hy, rfl⟩
      · exact absurd h hS
      · exact .noExec (.inr h)
      · rw [Nat.zero_add] at hy
        exact .success hm.le hS hy
    | cancelled kd =>
      obtain ⟨_, h2, h3⟩ := hm.cancelledCase kd rfl
      exact .cancelled h2 hS (fun j hj => by simpa using h3 j hj) (hfirst (by omega))
    | failed e =>
      obtain ⟨h1, ⟨_, h⟩ | ⟨j, rfl, hy⟩⟩ := hm.failedCase e rfl
      · cases h
      · rw [Nat.zero_add] at hy
        cases fb with
        | custom =>
          cases hfr : fbOut.res with
          | ok x => simpa [fallbackPhase, hfr] using .fbOk h1 hy rfl hfr hS
          | error e' => simpa [fallbackPhase, hfr] using .fbErr h1 hy rfl hfr hS
        | absent | passThrough => exact .exhausted h1 hy nofun hS

theorem execPhase_noCancel (hx : ∀ j, (exec j).cancels = false) (hw : wait = 0 ∨ ∀ j, wc j = false)
    (kd : CtxKind) :
    (execPhase kind mkExec mkWait mkFb exec wc execS wait budget fb fbOut .live).2.2 ≠ .error (.ctx kd) := by
  obtain ⟨_, h2⟩ := attempts_noCancel (kind := kind) (mkExec := mkExec) (mkWait := mkWait) (execS := execS) hx hw 0 budget none _ rfl
  unfold execPhase
  generalize attempts kind mkExec mkWait exec wc execS wait 0 budget none .live = a at h2
  obtain ⟨aev, ctx1, ares⟩ := a
  cases ares with
  | ok x => simp [fallbackPhase]
  | cancelled k => exact absurd rfl (h2 k)
  | failed e => cases fb <;> cases hfr : fbOut.res <;> simp [fallbackPhase, hfr]

theorem phaseEnd_fbs {mkFb : Nat → Ev} {exec : Nat → Out Val} {execS : Style} {budget : Nat} {fb : FbKind}
    {fbOut : Out Val} {m : Nat} {fbs : List Ev} {res : Except ErrRoot Val}
    (h : PhaseEnd mkFb exec execS budget fb fbOut m fbs res) : fbs = [] ∨ ∃ e, fbs = [mkFb e] := by
  cases h with
  | fbOk | fbErr => exact .inr ⟨_, rfl⟩
  | _ => exact .inl rfl

theorem filter_loop {p : Ev → Bool} (hp : ∀ e, p e = true → e.isWait = false) {loop : List Ev} {m : Nat} {f : Nat → Ev}
    (hf : ∀ k, p (f k) = true) (hl : noWaits loop = (List.range m).map f) :
    loop.filter p = (List.range m).map f := by
  have h1 : loop.filter p = (noWaits loop).filter p := by
    rw [noWaits, List.filter_filter]
    exact List.filter_congr fun e _ => by
      cases hpe : p e with
      | false => simp
      | true => simp [hp e hpe]
  rw [h1, hl]
  exact List.filter_eq_self.2 (List.forall_mem_map.2 fun j _ => hf j)

/-- `k` is the index of the first succeeding attempt of the script -/
def FirstOk (exec : Nat → Out Val) (k : Nat) : Prop :=
  (∃ y, (exec k).res = .ok y) ∧ ∀ j, j < k → ∃ e, (exec j).res = .error e

def AllFail (exec : Nat → Out Val) (N : Nat) : Prop := ∀ j, j < N → ∃ e, (exec j).res = .error e

theorem ok_ne_error {α : Type} {o : Out α} {y : α} {e : Nat} (hy : o.res = .ok y) (he : o.res = .error e) : False := by
  rw [hy] at he; cases he

theorem FirstOk.le_of_allFail {exec : Nat → Out Val} {k N : Nat} (hk : FirstOk exec k) (hall : AllFail exec N) :
    N ≤ k := by
  obtain ⟨⟨y, hy⟩, _⟩ := hk
  rcases Nat.lt_or_ge k N with hlt | hge
  · obtain ⟨e, he⟩ := hall k hlt; exact (ok_ne_error hy he).elim
  · exact hge

theorem FirstOk.unique {exec : Nat → Out Val} {j k : Nat} (hj : FirstOk exec j) (hk : FirstOk exec k) : j = k :=
  Nat.le_antisymm (hk.le_of_allFail hj.2) (hj.le_of_allFail hk.2)

/-- attempts `0 … j` failed: attempt `j` itself, and the earlier ones because the loop went on after them -/
theorem allFail_succ {exec : Nat → Out Val} {j e : Nat} (hfb : ∀ i, i + 1 < j + 1 → ∃ e, (exec i).res = .error e)
    (he : (exec j).res = .error e) : AllFail exec (j + 1) := by
  intro i hi
  by_cases hij : i = j
  · subst hij; exact ⟨e, he⟩
  · exact hfb i (by omega)

variable {mkExec mkWait mkFb exec execS budget fb fbOut}
variable {r : List Ev × Ctx × Except ErrRoot Val} {loop fbs : List Ev} {m : Nat}

theorem PhaseEnd.last_ok {res : Except ErrRoot Val} {k : Nat} {y : Val}
    (h : PhaseEnd mkFb exec execS budget fb fbOut (k + 1) fbs res) (hy : (exec k).res = .ok y) :
    res = .ok (execRet execS y) ∧ fbs = [] := by
  cases h with
  | success _ _ hy' => rw [hy] at hy'; cases hy'; exact ⟨rfl, rfl⟩
  | cancelled _ _ hl => obtain ⟨e, he⟩ := hl k rfl; exact (ok_ne_error hy he).elim
  | exhausted _ he | fbOk _ he | fbErr _ he => exact (ok_ne_error hy he).elim

theorem PhaseEnd.ok_cases {x : Val} (h : PhaseEnd mkFb exec execS budget fb fbOut m fbs (.ok x)) :
    (m = 0 ∧ fbs = [] ∧ x = Val.nil ∧ (execS = .absent ∨ budget = 0)) ∨
    (∃ j y, m = j + 1 ∧ fbs = [] ∧ (exec j).res = .ok y ∧ x = execRet execS y) ∨
    (∃ e, fbs = [mkFb e] ∧ fbOut.res = .ok x) := by
  cases h with
  | noExec h0 => exact .inl ⟨rfl, rfl, rfl, h0⟩
  | success _ _ hy => exact .inr (.inl ⟨_, _, rfl, rfl, hy, rfl⟩)
  | fbOk _ _ _ hx => exact .inr (.inr ⟨_, rfl, hx⟩)

theorem PhaseEnd.of_fb {res : Except ErrRoot Val} {ev : Ev} (h : PhaseEnd mkFb exec execS budget fb fbOut m [ev] res) :
    res = (match fbOut.res with | .ok x => .ok x | .error e' => .error (.user e')) := by
  cases h with
  | fbOk _ _ _ hx => rw [hx]
  | fbErr _ _ _ hx => rw [hx]

theorem PhaseEnd.of_absent {res : Except ErrRoot Val} (h : PhaseEnd mkFb exec execS budget fb fbOut m fbs res)
    (hS : execS = .absent) : res = .ok Val.nil := by
  cases h with
  | noExec => rfl
  | success _ h | cancelled _ h | exhausted _ _ _ h | fbOk _ _ _ _ h | fbErr _ _ _ _ h => exact absurd hS h

/-- reading the exec calls and the fallback calls off the phase's events by predicates `pE`, `pF` that
    recognise them -/
theorem PhaseSpec.filters (h : PhaseSpec mkExec mkWait mkFb exec execS budget fb fbOut r loop fbs m)
    {pE pF : Ev → Bool}
    (hE1 : ∀ k, pE (mkExec k) = true) (hE2 : ∀ e, pE e = true → e.isWait = false) (hE3 : ∀ e, pE (mkFb e) = false)
    (hF1 : ∀ e, pF (mkFb e) = true) (hF2 : ∀ k, pF (mkExec k) = false) (hF3 : ∀ k f, pF (mkWait k f) = false) :
    r.1.filter pE = (List.range m).map mkExec ∧ r.1.filter pF = fbs := by
  have h2 : loop.filter pF = [] := by
    rw [List.filter_eq_nil_iff]
    intro e he
    rcases h.loopKinds e he with ⟨j, f, rfl⟩ | ⟨j, rfl⟩
    · simp [hF3]
    · simp [hF2]
  rw [h.events, List.filter_append, List.filter_append, filter_loop hE2 hE1 h.loopEvents, h2]
  rcases phaseEnd_fbs h.ending with rfl | ⟨e, rfl⟩ <;> simp [hE3, hF1]

theorem PhaseSpec.count_le (h : PhaseSpec mkExec mkWait mkFb exec execS budget fb fbOut r loop fbs m)
    {k : Nat} (hk : FirstOk exec k) : m ≤ min (k + 1) budget := by
  have := h.le
  have := hk.le_of_allFail (N := m - 1) fun j hj => h.failedBefore j (by omega)
  omega

/-- the fallback runs only when the node has a user fallback and **all** `budget` attempts were made
    and failed (so never after a success) — under every schedule of cancellations; it runs at most
    once and receives the error of attempt `budget - 1` -/
theorem PhaseSpec.fb_only_if (h : PhaseSpec mkExec mkWait mkFb exec execS budget fb fbOut r loop fbs m) :
    fbs = [] ∨ (fb = .custom ∧ m = budget ∧ AllFail exec budget ∧
      ∃ j e, budget = j + 1 ∧ (exec j).res = .error e ∧ fbs = [mkFb e]) := by
  have hfb := h.failedBefore
  have hend := h.ending
  generalize r.2.2 = res at hend
  cases hend with
  | fbOk hj he hc | fbErr hj he hc =>
    subst hj
    exact .inr ⟨hc, rfl, allFail_succ hfb he, _, _, rfl, he, rfl⟩
  | _ => exact .inl rfl

theorem PhaseSpec.count_pos (h : PhaseSpec mkExec mkWait mkFb exec execS budget fb fbOut r loop fbs m)
    (hS : execS ≠ .absent) (hb : 0 < budget) : 0 < m := by
  have hend := h.ending
  generalize r.2.2 = res at hend
  cases hend with
  | noExec h0 =>
    have := h0.resolve_left hS
    omega
  | cancelled _ _ _ hm => exact hm
  | _ => omega

/-- **An exec phase that was not cut short by cancellation** (exec callback present, budget ≥ 1) did what the
    script determines: it stopped at the first success `k < budget` with that value and no fallback call, or it
    made all `budget` attempts, all failed, and it ends with the last error (no user fallback) or with the
    outcome of the one fallback call, which received the last error. -/
theorem PhaseSpec.complete (h : PhaseSpec mkExec mkWait mkFb exec execS budget fb fbOut r loop fbs m)
    (hS : execS ≠ .absent) (hb : 0 < budget) (hnc : ∀ kd, r.2.2 ≠ .error (.ctx kd)) :
    (∃ k y, k < budget ∧ FirstOk exec k ∧ (exec k).res = .ok y ∧ m = k + 1 ∧ fbs = [] ∧
      r.2.2 = .ok (execRet execS y)) ∨
    (AllFail exec budget ∧ m = budget ∧ ∃ e, (exec (budget - 1)).res = .error e ∧
      ((fb ≠ .custom ∧ fbs = [] ∧ r.2.2 = .error (.user e)) ∨
       (fb = .custom ∧ fbs = [mkFb e] ∧
        r.2.2 = (match fbOut.res with | .ok x => .ok x | .error e' => .error (.user e'))))) := by
  have hfb := h.failedBefore
  have hpos := h.count_pos hS hb
  have hend := h.ending
  generalize r.2.2 = res at hend hnc
  cases hend with
  | noExec => omega
  | success hj _ hy => exact .inl ⟨_, _, hj, ⟨⟨_, hy⟩, fun i hi => hfb i (by omega)⟩, hy, rfl, rfl, rfl⟩
  | cancelled => exact absurd rfl (hnc _)
  | exhausted hj he hne =>
    subst hj
    exact .inr ⟨allFail_succ hfb he, rfl, _, he, .inl ⟨hne, rfl, rfl⟩⟩
  | fbOk hj he hc hx | fbErr hj he hc hx =>
    subst hj
    exact .inr ⟨allFail_succ hfb he, rfl, _, he, .inr ⟨hc, rfl, by rw [hx]⟩⟩

theorem PhaseSpec.firstOk (h : PhaseSpec mkExec mkWait mkFb exec execS budget fb fbOut r loop fbs m)
    (hS : execS ≠ .absent) (hnc : ∀ kd, r.2.2 ≠ .error (.ctx kd)) {k : Nat} (hk : FirstOk exec k) (hkb : k < budget)
    {y : Val} (hy : (exec k).res = .ok y) : m = k + 1 ∧ r.2.2 = .ok (execRet execS y) ∧ fbs = [] := by
  rcases h.complete hS (by omega) hnc with ⟨j, y', _, hj, hy', hm, hf, hr⟩ | ⟨hall, _⟩
  · obtain rfl := hj.unique hk
    rw [hy] at hy'; cases hy'
    exact ⟨hm, hr, hf⟩
  · have := hk.le_of_allFail hall; omega

theorem PhaseSpec.allFail (h : PhaseSpec mkExec mkWait mkFb exec execS budget fb fbOut r loop fbs m)
    (hS : execS ≠ .absent) (hnc : ∀ kd, r.2.2 ≠ .error (.ctx kd)) (hall : AllFail exec budget) (hb : 0 < budget) :
    m = budget ∧ ∃ e, (exec (budget - 1)).res = .error e ∧
      ((fb ≠ .custom ∧ fbs = [] ∧ r.2.2 = .error (.user e)) ∨
       (fb = .custom ∧ fbs = [mkFb e] ∧
        r.2.2 = (match fbOut.res with | .ok x => .ok x | .error e' => .error (.user e')))) := by
  rcases h.complete hS hb hnc with ⟨j, _, hj, hjo, _⟩ | ⟨_, hm, he⟩
  · have := hjo.le_of_allFail hall; omega
  · exact ⟨hm, he⟩

theorem PhaseSpec.count_allFail (h : PhaseSpec mkExec mkWait mkFb exec execS budget fb fbOut r loop fbs m)
    (hS : execS ≠ .absent) (hnc : ∀ kd, r.2.2 ≠ .error (.ctx kd)) (hall : AllFail exec budget) :
    m = budget := by
  have hle := h.le
  rcases Nat.eq_zero_or_pos budget with h0 | hb
  · omega
  · exact (h.allFail hS hnc hall hb).1

theorem PhaseSpec.count_firstOk (h : PhaseSpec mkExec mkWait mkFb exec execS budget fb fbOut r loop fbs m)
    (hS : execS ≠ .absent) (hnc : ∀ kd, r.2.2 ≠ .error (.ctx kd)) {k : Nat} (hk : FirstOk exec k) :
    m = min (k + 1) budget := by
  rcases Nat.lt_or_ge k budget with hkb | hkb
  · obtain ⟨y, hy⟩ := hk.1
    have := (h.firstOk hS hnc hk hkb hy).1
    omega
  · have := h.count_allFail hS hnc fun j hj => hk.2 j (by omega)
    omega

end phase

end Flyt.Proofs.Attempts
