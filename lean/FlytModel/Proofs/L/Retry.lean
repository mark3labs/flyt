import FlytModel.Proofs.L.LeafFacts
import FlytModel.Proofs.L.BatchItems
/-!
# The calls of one item in the trace of a whole batch run (helper lemma for C02)
-/
namespace Flyt.Proofs.Retry
open Flyt Flyt.Spec Flyt.Proofs.Attempts Flyt.Proofs.Leaf Flyt.Proofs.Item

open Flyt.Proofs.BatchItems

theorem count_filter (i : Nat) (evs : List Ev) :
    bexecCount i (evs.filter (isItemEv i)) = bexecCount i evs ∧ bfbCalls i (evs.filter (isItemEv i)) = bfbCalls i evs := by
  unfold bexecCount bfbCalls
  rw [filter_of_le (isBexecOf_le i), filter_of_le (isBfbOf_le i)]
  exact ⟨rfl, rfl⟩

end Flyt.Proofs.Retry
