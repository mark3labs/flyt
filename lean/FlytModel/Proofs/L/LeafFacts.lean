import FlytModel.Proofs.L.Leaf
/-!
# Readable consequences of `LeafRun` (used by Props/C01, C02, C17)
-/
namespace Flyt.Proofs.Leaf
open Flyt Flyt.Spec Flyt.Proofs.Attempts

variable {kind : CtxKind} {n v sid : Nat} {cfg : LeafCfg} {scr : LeafScript}

/-- the prep phase handed the value `pv` to the exec phase: there is no prep callback (`BaseNode.Prep`,
    nil), or it succeeded — with `pv` what `Prep` returns to `Run` — and left the context live -/
def PrepDone (cfg : LeafCfg) (scr : LeafScript) (pv : Val) : Prop :=
  prepValue cfg scr = some pv ∧ (cfg.prepS = .absent ∨ scr.prep.cancels = false)

/-- "the exec phase (an attempt or the fallback) produced the result `r` without error", read off the
    callbacks that ran (events) and what they returned (script) -/
inductive Produced (n v : Nat) (cfg : LeafCfg) (scr : LeafScript) (evs : List Ev) : Val → Prop
  /-- attempt `k` ran and returned `y` without error (`execRet` = what `Exec` hands back to `Run`) -/
  | attempt {k arg y} : Ev.exec n v k arg ∈ evs → (scr.exec k).res = .ok y →
      Produced n v cfg scr evs (execRet cfg.execS y)
  /-- the fallback ran and returned `x` without error -/
  | fallback {arg er x} : Ev.fb n v arg er ∈ evs → scr.fb.res = .ok x → Produced n v cfg scr evs x
  /-- the node has no exec callback: `BaseNode.Exec` returns `(nil, nil)` -/
  | noCallback {pv} : cfg.execS = .absent → PrepDone cfg scr pv → Produced n v cfg scr evs Val.nil

/-- number of exec attempts in a trace / the fallback calls of a trace / its post calls -/
def execCount (evs : List Ev) : Nat := (evs.filter isExecEv).length
def fbCalls (evs : List Ev) : List Ev := evs.filter isFbEv
def postCalls (evs : List Ev) : List Ev := evs.filter isPostEv

theorem mem_preEvs {e : Ev} (h : e ∈ preEvs n v sid cfg) : e = .prep n v sid ∧ cfg.prepS ≠ .absent := by
  unfold preEvs at h
  split at h
  · simp at h
  · rename_i hp; simp at h; exact ⟨h, hp⟩

theorem filter_preEvs {p : Ev → Bool} (h : p (.prep n v sid) = false) : (preEvs n v sid cfg).filter p = [] := by
  unfold preEvs; split <;> simp [h]

theorem isExecEv_not_wait (e : Ev) (h : isExecEv e = true) : e.isWait = false := by
  cases e with
  | exec => rfl
  | _ => cases h

section ran
variable {pv : Val} {loop fbs posts : List Ev} {m : Nat} {res : Except ErrRoot Val} {out : Outcome}

theorem mem_ran {e : Ev}
    (he : PhaseEnd (leafFb n v pv) scr.exec cfg.execS cfg.effBudget cfg.fb scr.fb m fbs res)
    (hpost : PostEnd n v sid cfg scr pv res posts out)
    (h : e ∈ preEvs n v sid cfg ++ loop ++ fbs ++ posts) :
    (e = .prep n v sid ∧ cfg.prepS ≠ .absent) ∨ e ∈ loop ∨ (∃ er, e = leafFb n v pv er ∧ fbs = [e]) ∨
      (∃ a b, e = .post n v sid a b ∧ posts = [e]) := by
  simp only [List.mem_append] at h
  rcases h with ((h | h) | h) | h
  · exact Or.inl (mem_preEvs h)
  · exact Or.inr (Or.inl h)
  · rcases phaseEnd_fbs he with hf | ⟨er, hf⟩
    · simp [hf] at h
    · simp [hf] at h; subst h; exact Or.inr (Or.inr (Or.inl ⟨er, rfl, hf⟩))
  · rcases postEnd_posts hpost with hf | ⟨a, b, hf⟩
    · simp [hf] at h
    · simp [hf] at h; subst h; exact Or.inr (Or.inr (Or.inr ⟨a, b, rfl, hf⟩))

theorem exec_mem_ran {k n' v' : Nat} {arg : Val}
    (hl : noWaits loop = (List.range m).map (leafExec n v (execArg cfg.execS pv)))
    (he : PhaseEnd (leafFb n v pv) scr.exec cfg.execS cfg.effBudget cfg.fb scr.fb m fbs res)
    (hpost : PostEnd n v sid cfg scr pv res posts out)
    (h : Ev.exec n' v' k arg ∈ preEvs n v sid cfg ++ loop ++ fbs ++ posts) :
    n' = n ∧ v' = v ∧ arg = execArg cfg.execS pv ∧ k < m := by
  rcases mem_ran he hpost h with ⟨h, _⟩ | h | ⟨er, h, _⟩ | ⟨a, b, h, _⟩
  · cases h
  · rcases mem_noWaits_or h with hw | hm
    · cases hw
    · rw [hl] at hm
      simp only [List.mem_map, List.mem_range, leafExec, Ev.exec.injEq] at hm
      obtain ⟨j, hj, h1, h2, h3, h4⟩ := hm
      exact ⟨h1.symm, h2.symm, h4.symm, by omega⟩
  · cases h
  · cases h

/-- **the exec phase's result is `ok r` exactly when an attempt or the fallback produced `r`** -/
theorem produced_iff (hb : 1 ≤ cfg.effBudget) (hpv : PrepDone cfg scr pv) (spec : LeafPhase n v cfg scr pv loop fbs m res)
    (hpost : PostEnd n v sid cfg scr pv res posts out) (r : Val) :
    res = .ok r ↔ Produced n v cfg scr (preEvs n v sid cfg ++ loop ++ fbs ++ posts) r := by
  have he : PhaseEnd (leafFb n v pv) scr.exec cfg.execS cfg.effBudget cfg.fb scr.fb m fbs res := spec.ending
  constructor
  · rintro rfl
    rcases he.ok_cases with ⟨_, _, rfl, h0 | h0⟩ | ⟨j, y, rfl, _, hy, rfl⟩ | ⟨e, rfl, hx⟩
    · exact .noCallback h0 hpv
    · omega
    · have hmem : Ev.exec n v j (execArg cfg.execS pv) ∈ noWaits loop := by
        rw [spec.loopEvents]; exact List.mem_map.mpr ⟨j, List.mem_range.mpr (by omega), rfl⟩
      refine .attempt (k := j) (arg := execArg cfg.execS pv) ?_ hy
      simp only [List.mem_append]
      exact Or.inl (Or.inl (Or.inr (List.mem_filter.mp hmem).1))
    · exact .fallback (arg := pv) (er := .user e) (by simp [leafFb]) hx
  · intro hp
    cases hp with
    | @attempt k arg y hmem hy =>
      obtain ⟨_, _, _, hk⟩ := exec_mem_ran spec.loopEvents he hpost hmem
      -- attempt k succeeded, so it is the last one
      obtain rfl : m = k + 1 := by
        by_cases hlt : k + 1 < m
        · obtain ⟨e, he'⟩ := spec.failedBefore k hlt; exact (ok_ne_error hy he').elim
        · omega
      exact (he.last_ok hy).1
    | @fallback arg er x hmem hx =>
      rcases mem_ran he hpost hmem with ⟨h, _⟩ | h | ⟨er', h, hf⟩ | ⟨a, b, h, _⟩
      · cases h
      · rcases spec.loopKinds _ h with ⟨j, f, h⟩ | ⟨j, h⟩ <;> cases h
      · rw [hf] at he
        rw [he.of_fb, hx]
      · cases h
    | noCallback hS _ => exact he.of_absent hS

theorem ran_filters (spec : LeafPhase n v cfg scr pv loop fbs m res) (hpost : PostEnd n v sid cfg scr pv res posts out) :
    (preEvs n v sid cfg ++ loop ++ fbs ++ posts).filter isExecEv =
        (List.range m).map (leafExec n v (execArg cfg.execS pv)) ∧
    execCount (preEvs n v sid cfg ++ loop ++ fbs ++ posts) = m ∧
    fbCalls (preEvs n v sid cfg ++ loop ++ fbs ++ posts) = fbs ∧
    postCalls (preEvs n v sid cfg ++ loop ++ fbs ++ posts) = posts := by
  have hparts : ∀ p, (preEvs n v sid cfg ++ loop ++ fbs ++ posts).filter p =
      (preEvs n v sid cfg).filter p ++ (loop ++ fbs).filter p ++ posts.filter p := by
    intro p; simp [List.append_assoc]
  obtain ⟨hE, hF⟩ := spec.filters (pE := isExecEv) (pF := isFbEv) (fun _ => rfl) isExecEv_not_wait (fun _ => rfl)
    (fun _ => rfl) (fun _ => rfl) (fun _ _ => rfl)
  have hP : (loop ++ fbs).filter isPostEv = [] := by
    rw [List.filter_eq_nil_iff]
    intro e he
    rcases List.mem_append.mp he with h | h
    · rcases spec.loopKinds e h with ⟨j, f, rfl⟩ | ⟨j, rfl⟩ <;> simp [isPostEv]
    · rcases phaseEnd_fbs spec.ending with hf | ⟨er, hf⟩ <;> simp [hf] at h
      subst h; simp [isPostEv]
  have hq : posts.filter isExecEv = [] ∧ posts.filter isFbEv = [] ∧ posts.filter isPostEv = posts := by
    rcases postEnd_posts hpost with hf | ⟨a, b, hf⟩ <;> simp [hf, isExecEv, isFbEv, isPostEv]
  have hE' : (preEvs n v sid cfg ++ loop ++ fbs ++ posts).filter isExecEv =
      (List.range m).map (leafExec n v (execArg cfg.execS pv)) := by
    rw [hparts, filter_preEvs rfl, hE, hq.1]; simp
  refine ⟨hE', by unfold execCount; rw [hE']; simp, ?_, ?_⟩
  · unfold fbCalls; rw [hparts, filter_preEvs rfl, hF, hq.2.1]; simp
  · unfold postCalls; rw [hparts, filter_preEvs rfl, hP, hq.2.2]; simp

end ran

variable {evs : List Ev} {out : Outcome}

theorem Produced.prepOnly {r : Val} (h : Produced n v cfg scr [.prep n v sid] r) : ∃ pv, PrepDone cfg scr pv := by
  cases h with
  | attempt hm => simp at hm
  | fallback hm => simp at hm
  | noCallback _ hd => exact ⟨_, hd⟩

/-- a run was either stopped by prep — one prep event, an error, no value handed over — or went through an
    exec phase and a post phase -/
theorem LeafRun.split (h : LeafRun kind n v sid cfg scr evs out) :
    (cfg.prepS ≠ .absent ∧ evs = [.prep n v sid] ∧ (∃ e, out = .err e) ∧ ¬ ∃ pv, PrepDone cfg scr pv) ∨
    (∃ pv loop fbs posts m res, PrepDone cfg scr pv ∧ evs = preEvs n v sid cfg ++ loop ++ fbs ++ posts ∧
      LeafPhase n v cfg scr pv loop fbs m res ∧ PostEnd n v sid cfg scr pv res posts out) := by
  cases h with
  | prepFailed hp hr =>
    exact .inl ⟨hp, rfl, ⟨_, rfl⟩, fun ⟨pv, hd⟩ => by simp [PrepDone, prepValue, hp, okVal, hr] at hd⟩
  | prepCancelled hp hr hc => exact .inl ⟨hp, rfl, ⟨_, rfl⟩, fun ⟨pv, hd⟩ => by simp [PrepDone, hp, hc] at hd⟩
  | ran hpv hc hl hk hle hfb he hpost => exact .inr ⟨_, _, _, _, _, _, ⟨hpv, hc⟩, rfl, ⟨rfl, hl, hk, hle, hfb, he⟩, hpost⟩

/-- the phases come in order: prep, then only retry-loop events (waits and exec attempts of this
    visit), then at most one fallback, then at most one post (with the store of the run) — nothing else -/
theorem LeafRun.phases (h : LeafRun kind n v sid cfg scr evs out) :
    ∃ loop fbs posts, evs = preEvs n v sid cfg ++ loop ++ fbs ++ posts ∧
      (∀ e ∈ loop, (∃ k f, e = .wait n v k cfg.effWait f) ∨ (∃ k arg, e = .exec n v k arg)) ∧
      (fbs = [] ∨ ∃ arg er, fbs = [.fb n v arg er]) ∧
      (posts = [] ∨ ∃ a b, posts = [.post n v sid a b]) := by
  rcases h.split with ⟨hp, rfl, _⟩ | ⟨pv, loop, fbs, posts, m, res, _, rfl, spec, hpost⟩
  · exact ⟨[], [], [], by simp [preEvs, hp], by simp, Or.inl rfl, Or.inl rfl⟩
  · refine ⟨loop, fbs, posts, rfl, ?_, ?_, postEnd_posts hpost⟩
    · intro e h
      rcases spec.loopKinds e h with ⟨j, f, rfl⟩ | ⟨j, rfl⟩
      · exact Or.inl ⟨j, f, rfl⟩
      · exact Or.inr ⟨j, _, rfl⟩
    · rcases phaseEnd_fbs spec.ending with hf | ⟨er, hf⟩
      · exact Or.inl hf
      · exact Or.inr ⟨pv, .user er, hf⟩

theorem LeafRun.prep_first (h : LeafRun kind n v sid cfg scr evs out) :
    ∃ rest, evs = preEvs n v sid cfg ++ rest ∧ ∀ e ∈ rest, isPrepEv e = false := by
  obtain ⟨loop, fbs, posts, rfl, hl, hf, hq⟩ := h.phases
  refine ⟨loop ++ fbs ++ posts, by simp [List.append_assoc], ?_⟩
  intro e hmem
  simp only [List.mem_append] at hmem
  rcases hmem with (h | h) | h
  · rcases hl e h with ⟨j, f, rfl⟩ | ⟨j, a, rfl⟩ <;> rfl
  · rcases hf with hf | ⟨a, er, hf⟩ <;> simp [hf] at h
    subst h; rfl
  · rcases hq with hq | ⟨a, b, hq⟩ <;> simp [hq] at h
    subst h; rfl

theorem LeafRun.keys (h : LeafRun kind n v sid cfg scr evs out) : ∀ e ∈ evs, evKey e = (n, v) := by
  obtain ⟨loop, fbs, posts, hev, hl, hf, hq⟩ := h.phases
  intro e he
  rw [hev] at he
  simp only [List.mem_append] at he
  rcases he with ((he | he) | he) | he
  · rw [(mem_preEvs he).1]; rfl
  · rcases hl e he with ⟨k, f, rfl⟩ | ⟨k, a, rfl⟩ <;> rfl
  · rcases hf with hf | ⟨a, er, hf⟩ <;> simp [hf] at he
    subst he; rfl
  · rcases hq with hq | ⟨a, b, hq⟩ <;> simp [hq] at he
    subst he; rfl

theorem LeafRun.execs (h : LeafRun kind n v sid cfg scr evs out) :
    (∀ pv, prepValue cfg scr = some pv → ∃ m, m ≤ cfg.effBudget ∧
      evs.filter isExecEv = (List.range m).map (fun k => Ev.exec n v k (execArg cfg.execS pv))) ∧
    (prepValue cfg scr = none → evs.filter isExecEv = []) := by
  rcases h.split with ⟨_, rfl, _⟩ | ⟨pv, loop, fbs, posts, m, res, hd, rfl, spec, hpost⟩
  · exact ⟨fun pv _ => ⟨0, Nat.zero_le _, rfl⟩, fun _ => rfl⟩
  · constructor
    · intro pv' hpv'
      obtain rfl : pv = pv' := Option.some.inj (hd.1.symm.trans hpv')
      exact ⟨m, spec.le, (ran_filters spec hpost).1⟩
    · intro hnone; rw [hd.1] at hnone; cases hnone

/-- **post runs iff the node has a post callback and the exec phase produced a result; then at most once, last, and it
    receives the run's store, the prep value and that result** -/
theorem LeafRun.post (h : LeafRun kind n v sid cfg scr evs out) (hb : 1 ≤ cfg.effBudget) :
    ((∃ s a b, Ev.post n v s a b ∈ evs) ↔ cfg.postS ≠ .absent ∧ ∃ r, Produced n v cfg scr evs r) ∧
    (∀ s a b, Ev.post n v s a b ∈ evs →
      s = sid ∧ (evs.filter isPostEv = [Ev.post n v s a b]) ∧ evs.getLast? = some (Ev.post n v s a b) ∧
      ∃ pv r, PrepDone cfg scr pv ∧ Produced n v cfg scr evs r ∧
        a = (postArgs cfg.postS pv r).1 ∧ b = (postArgs cfg.postS pv r).2) := by
  rcases h.split with ⟨_, rfl, _, hnd⟩ | ⟨pv, loop, fbs, posts, m, res, hd, rfl, spec, hpost⟩
  · exact ⟨⟨fun ⟨s, a, b, hm⟩ => by simp at hm, fun ⟨_, r, hp⟩ => (hnd hp.prepOnly).elim⟩,
      fun s a b hm => by simp at hm⟩
  · have hiff := produced_iff hb hd spec hpost
    -- a post event of the run is the post phase's, and comes with a result of the exec phase
    have hmem : ∀ s a b, Ev.post n v s a b ∈ preEvs n v sid cfg ++ loop ++ fbs ++ posts →
        cfg.postS ≠ .absent ∧ ∃ r, res = .ok r ∧ posts = [Ev.post n v s a b] ∧
          Ev.post n v s a b = .post n v sid (postArgs cfg.postS pv r).1 (postArgs cfg.postS pv r).2 := by
      intro s a b hm
      rcases mem_ran spec.ending hpost hm with ⟨h, _⟩ | h | ⟨er, h, _⟩ | ⟨a', b', _, hp⟩
      · cases h
      · rcases spec.loopKinds _ h with ⟨j, f, h⟩ | ⟨j, h⟩ <;> cases h
      · cases h
      · exact hpost.of_mem (hp ▸ List.mem_singleton.mpr rfl)
    constructor
    · constructor
      · rintro ⟨s, a, b, hm⟩
        obtain ⟨hps, r, hr, _⟩ := hmem s a b hm
        exact ⟨hps, r, (hiff r).mp hr⟩
      · rintro ⟨hps, r, hprod⟩
        obtain rfl := (hiff r).mpr hprod
        exact ⟨sid, _, _, List.mem_append_right _ (hpost.ran hps ▸ List.mem_singleton.mpr rfl)⟩
    · intro s a b hm
      obtain ⟨_, r, hr, hp, heq⟩ := hmem s a b hm
      simp only [Ev.post.injEq, true_and] at heq
      refine ⟨heq.1, ?_, by rw [hp]; simp, pv, r, hd, (hiff r).mp hr, heq.2.1, heq.2.2⟩
      exact ((ran_filters spec hpost).2.2.2).trans hp

/-- **a run whose prep handed over a value, as an exec phase (`PhaseSpec`) followed by a post phase
    (`PostEnd`)**, with the exec / fallback / post events read off the trace by their kind; the exec phase was
    cut short by cancellation only if the run ends with the context's error -/
theorem LeafRun.toPhase (h : LeafRun kind n v sid cfg scr evs out) {pv : Val} (hd : PrepDone cfg scr pv) :
    ∃ loop fbs m res, LeafPhase n v cfg scr pv loop fbs m res ∧
      evs.filter isExecEv = (List.range m).map (leafExec n v (execArg cfg.execS pv)) ∧
      execCount evs = m ∧ fbCalls evs = fbs ∧
      PostEnd n v sid cfg scr pv res (postCalls evs) out ∧
      ((∀ kd, out ≠ .err (.ctx kd)) → ∀ kd, res ≠ .error (.ctx kd)) := by
  rcases h.split with ⟨_, _, _, hnd⟩ | ⟨pv', loop, fbs, posts, m, res, hd', rfl, spec, hpost⟩
  · exact absurd ⟨pv, hd⟩ hnd
  · obtain rfl : pv' = pv := Option.some.inj (hd'.1.symm.trans hd.1)
    obtain ⟨h1, h2, h3, h4⟩ := ran_filters spec hpost
    exact ⟨loop, fbs, m, res, spec, h1, h2, h3, by rw [h4]; exact hpost,
      fun hnc kd hr => hnc kd (hr ▸ hpost).err.1⟩

/-- a run that prep stopped (it failed, or cancelled the context) makes no exec attempt and no fallback call -/
theorem LeafRun.stopped (h : LeafRun kind n v sid cfg scr evs out) (hd : ¬ ∃ pv, PrepDone cfg scr pv) :
    execCount evs = 0 ∧ fbCalls evs = [] ∧ postCalls evs = [] := by
  rcases h.split with ⟨_, rfl, _⟩ | ⟨pv, _, _, _, _, _, hd', _⟩
  · exact ⟨rfl, rfl, rfl⟩
  · exact absurd ⟨pv, hd'⟩ hd

theorem LeafRun.ok_or_err (h : LeafRun kind n v sid cfg scr evs out) :
    (∃ a, out = .ok a ∧ a ≠ "") ∨ (∃ e, out = .err e) := by
  rcases h.split with ⟨_, _, he, _⟩ | ⟨_, _, _, _, _, _, _, _, _, hpost⟩
  · exact Or.inr he
  · cases hpost with
    | failed => exact Or.inr ⟨_, rfl⟩
    | noPost => exact Or.inl ⟨_, rfl, by simp [defaultAction]⟩
    | postErr => exact Or.inr ⟨_, rfl⟩
    | postOk => exact Or.inl ⟨_, rfl, norm_ne_empty _⟩

/-- **the outcome**: post's action (the default action for an empty one, or when the node has no post
    callback) with a nil error — exactly when the exec phase produced a result and post did not fail —
    or an empty action with a non-nil error; never both, never neither -/
theorem LeafRun.outcome (h : LeafRun kind n v sid cfg scr evs out) (hb : 1 ≤ cfg.effBudget) :
    (∃ a, out = .ok a ∧ a ≠ "" ∧ (∃ r, Produced n v cfg scr evs r) ∧
        ((cfg.postS = .absent ∧ a = defaultAction) ∨
         (cfg.postS ≠ .absent ∧ ∃ a', scr.post.res = .ok a' ∧ a = norm a'))) ∨
    (∃ e, out = .err e ∧
        ¬ ((∃ r, Produced n v cfg scr evs r) ∧ (cfg.postS = .absent ∨ ∃ a', scr.post.res = .ok a'))) := by
  rcases h.split with ⟨_, rfl, ⟨e, rfl⟩, hnd⟩ | ⟨pv, loop, fbs, posts, m, res, hd, rfl, spec, hpost⟩
  · exact Or.inr ⟨e, rfl, fun ⟨⟨r, hp⟩, _⟩ => hnd hp.prepOnly⟩
  · have hiff := produced_iff hb hd spec hpost
    cases hpost with
    | @failed er =>
      right
      refine ⟨er, rfl, ?_⟩
      rintro ⟨⟨r, hprod⟩, _⟩
      cases (hiff r).mpr hprod
    | @noPost ev hps =>
      left
      exact ⟨_, rfl, by simp [defaultAction], ⟨ev, (hiff ev).mp rfl⟩, Or.inl ⟨hps, rfl⟩⟩
    | @postErr ev e hps hr =>
      right
      refine ⟨_, rfl, ?_⟩
      rintro ⟨_, h | ⟨a', h⟩⟩
      · exact hps h
      · exact ok_ne_error h hr
    | @postOk ev a hps hr =>
      left
      exact ⟨_, rfl, norm_ne_empty a, ⟨ev, (hiff ev).mp rfl⟩, Or.inr ⟨hps, a, hr, rfl⟩⟩

end Flyt.Proofs.Leaf
