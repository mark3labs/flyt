import FlytModel.Proofs.L.LeafSpec
import FlytModel.Proofs.L.LeafFacts
/-!
# The function-style adapters on payloads that are not themselves `flyt.Result`s (helper lemmas for C17)

`CustomNode.Prep/Exec/Post` and the Any-style wrappers (flyt.go:1116-1162, 1329-1388) as modelled by
`prepRet`, `execArg`, `execRet`, `postArgs`, `wrapExecForPost`.
-/
namespace Flyt.Proofs.Payload
open Flyt Flyt.Spec Flyt.Proofs.Attempts Flyt.Proofs.Leaf Flyt.Proofs.LeafSpec

/-- a payload that is not itself a `flyt.Result` boxed in an `any` (boundary B2 of DESIGN.md: such a
    value is indistinguishable from the framework's own wrapping) -/
def Plain (x : Val) : Prop := x.asResult? = none

instance (x : Val) : Decidable (Plain x) := inferInstanceAs (Decidable (x.asResult? = none))

theorem plain_tok (n : Nat) : Plain (.tok n) := rfl

/-- the `Result` a user function of style `s` returned, given the script value `y`:
    Result-style functions return a `Result` (`toResult`), Any-style / method functions a plain value
    that the framework wraps with `NewResult` -/
def returned (s : Style) (y : Val) : Result := if s = .res then toResult y else newResult y

/-- how a user function of style `s` receives the `Result` `r`: Result-style gets `r` itself,
    Any-style gets `r.Value()`, a method gets what `Run` holds (the error Result as is, else the value) -/
def received (s : Style) (r : Result) : Val :=
  match s with
  | .res => r.box
  | .any => r.valueOf
  | _ => if r.isError then r.box else r.valueOf

theorem toResult_box (r : Result) : toResult r.box = r := by cases r; rfl
theorem toResult_plain {x : Val} (h : Plain x) : toResult x = newResult x := by
  unfold Plain at h; unfold toResult; rw [h]

theorem valueOf_newResult (x : Val) : (newResult x).valueOf = x := rfl
theorem isError_newResult (x : Val) : (newResult x).isError = false := rfl

/-- **exec sees the prep payload**: a Result-style exec function receives `NewResult(pv)` (wrapped
    exactly once), every other style `pv` itself -/
theorem execArg_plain {pv : Val} (h : Plain pv) (s : Style) :
    execArg s pv = (match s with | .res => (newResult pv).box | _ => pv) := by
  unfold Plain at h
  cases s <;> simp [execArg, h]

theorem postArgs_fst (s : Style) (pv ev : Val) :
    (postArgs s pv ev).1 = (match s with | .res => (newResult pv).box | _ => pv) := by
  cases s <;> simp [postArgs, valueOf_newResult]

theorem wrap_plain {ev : Val} (h : Plain ev) : wrapExecForPost ev = newResult ev := by
  unfold Plain at h
  simp [wrapExecForPost, h]

theorem wrap_errorResult {r : Result} (h : r.isError = true) : wrapExecForPost r.box = r := by
  simp [wrapExecForPost, Result.box, Val.asResult?, h]

/-- what `Exec` hands back to `Run`: the Result the exec function returned, as a method would see it -/
theorem execRet_returned (s : Style) (y : Val) : execRet s y = received .direct (returned s y) := by
  cases s <;> rfl

theorem newResult_valueOf {r : Result} (h : r.isError = false) : newResult r.valueOf = r := by
  obtain ⟨value, err⟩ := r
  cases err with
  | none => rfl
  | some e => cases h

/-- **post sees exec's result — its value, or its error state — wrapped exactly once, never stripped**:
    whatever the styles of the exec and the post function -/
theorem postArgs_snd_execRet (execS postS : Style) (pv y : Val)
    (h : Plain (returned execS y).valueOf) :
    (postArgs postS pv (execRet execS y)).2 = received postS (returned execS y) := by
  rw [execRet_returned]
  generalize returned execS y = r at h
  cases he : r.isError with
  | true => cases postS <;> simp [postArgs, received, wrap_errorResult he, he]
  | false =>
    -- Result-style post: `NewResult(value)` is the very Result exec returned
    cases postS <;> simp [postArgs, received, wrap_plain h, he, newResult_valueOf he, valueOf_newResult]

theorem slot_execRet (execS : Style) (y : Val) (h : Plain (returned execS y).valueOf) :
    slotOfVal (execRet execS y) = returned execS y := by
  rw [execRet_returned, slotOfVal]
  generalize returned execS y = r at h
  cases he : r.isError with
  | true => simp [received, he, toResult_box]
  | false => simp [received, he, toResult_plain h, newResult_valueOf he]

theorem prepPayload_eq (cfg : LeafCfg) (scr : LeafScript) :
    (if cfg.prepS = .absent then some Val.nil else
      (okVal scr.prep).map fun x => if cfg.prepS = .res then (toResult x).valueOf else x) = prepValue cfg scr := by
  unfold prepValue
  split
  · rfl
  · cases okVal scr.prep with
    | none => rfl
    | some x => cases hp : cfg.prepS <;> simp [prepRet]

/-- the payloads of a scenario are not themselves `flyt.Result`s: what prep hands over, and what each
    exec call returns (for a Result-style exec function: the `Value()` of the Result it returns) -/
structure PlainPayloads (cfg : LeafCfg) (scr : LeafScript) : Prop where
  prep : ∀ pv, prepValue cfg scr = some pv → Plain pv
  exec : ∀ k y, (scr.exec k).res = .ok y → Plain (returned cfg.execS y).valueOf

section
variable {kind : CtxKind} {n v sid : Nat} {cfg : LeafCfg} {scr : LeafScript}

/-- **C17 bridge**: the driver's per-visit predicate holds on every run of the model -/
theorem c17Visit_of_leafRun {evs : List Ev} {out : Outcome} (h : LeafRun kind n v sid cfg scr evs out)
    (hp : PlainPayloads cfg scr) : c17Visit cfg scr evs = true := by
  unfold c17Visit
  simp only [prepPayload_eq]
  cases h with
  | @prepFailed e hpS hr => simp [prepValue, hpS, okVal, hr]
  | @prepCancelled x hpS hr hc => simp [prepValue, hpS, okVal, hr, split_prepOnly]
  | @ran pv loop fbs posts m res out hpv hc hl hk hle hfb he hpost =>
    rw [split_ran hl he hpost]
    simp only [hpv]
    have hplain := hp.prep pv hpv
    rw [Bool.and_eq_true]
    constructor
    · rw [List.all_eq_true]
      intro e hmem
      simp only [List.mem_map] at hmem
      obtain ⟨j, _, rfl⟩ := hmem
      simp only [execArg_plain hplain]
      cases cfg.execS <;> simp
    · have hfst : ∀ ev, (match cfg.postS with
          | .res => (postArgs cfg.postS pv ev).1 == (newResult pv).box
          | _ => (postArgs cfg.postS pv ev).1 == pv) = true := by
        intro ev
        rw [postArgs_fst]
        cases cfg.postS <;> simp
      have hsnd : ∀ j y, (scr.exec j).res = .ok y →
          (match cfg.postS with
           | .res => (postArgs cfg.postS pv (execRet cfg.execS y)).2 ==
                (if cfg.execS = .res then toResult y else newResult y).box
           | .any => (postArgs cfg.postS pv (execRet cfg.execS y)).2 ==
                (if cfg.execS = .res then toResult y else newResult y).valueOf
           | _ => if (if cfg.execS = .res then toResult y else newResult y).isError = true then
                (postArgs cfg.postS pv (execRet cfg.execS y)).2 == (if cfg.execS = .res then toResult y else newResult y).box
              else (postArgs cfg.postS pv (execRet cfg.execS y)).2 ==
                (if cfg.execS = .res then toResult y else newResult y).valueOf) = true := by
        intro j y hy
        rw [postArgs_snd_execRet cfg.execS cfg.postS pv y (hp.exec j y hy)]
        unfold returned
        generalize (if cfg.execS = .res then toResult y else newResult y) = r
        cases cfg.postS <;> cases hr : r.isError <;> simp [received, hr]
      cases hpost with
      | failed => simp
      | noPost => simp
      | @postErr ev e hps hr | @postOk ev e hps hr =>
        simp only [List.all_cons, List.all_nil, Bool.and_true]
        rcases he.ok_cases with ⟨rfl, rfl, _, _⟩ | ⟨j, y, rfl, rfl, hy, rfl⟩ | ⟨e', rfl, _⟩
        · simp; exact hfst _
        · simp only [List.isEmpty_iff, List.map_eq_nil_iff, List.range_eq_nil, Nat.add_one_ne_zero, if_false,
            List.length_map, List.length_range, Nat.add_sub_cancel, okVal, hy]
          rw [Bool.and_eq_true]
          exact ⟨hfst _, hsnd j y hy⟩
        · simp; exact hfst _

theorem leafRun_exec_payload {evs : List Ev} {out : Outcome} (hrun : LeafRun kind n v sid cfg scr evs out)
    (hp : PlainPayloads cfg scr) {n' v' k : Nat} {a : Val} (h : Ev.exec n' v' k a ∈ evs) :
    ∃ pv, prepValue cfg scr = some pv ∧ a = (match cfg.execS with | .res => (newResult pv).box | _ => pv) := by
  cases hrun with
  | prepFailed => simp at h
  | prepCancelled => simp at h
  | @ran pv loop fbs posts m res out hpv hc hl hk hle hfb he hpost =>
    obtain ⟨_, _, ha, _⟩ := exec_mem_ran hl he hpost h
    exact ⟨pv, hpv, by rw [ha, execArg_plain (hp.prep pv hpv)]⟩

/-- post receives the prep payload and — when an attempt, not the fallback, produced the result —
    exactly the Result that attempt's exec function returned, seen through post's style -/
theorem leafRun_post_payload {evs : List Ev} {out : Outcome} (hrun : LeafRun kind n v sid cfg scr evs out)
    (hp : PlainPayloads cfg scr) {s : Nat} {a b : Val} (h : Ev.post n v s a b ∈ evs) :
    ∃ pv, prepValue cfg scr = some pv ∧
      a = (match cfg.postS with | .res => (newResult pv).box | _ => pv) ∧
      (fbCalls evs = [] → cfg.execS ≠ .absent → 1 ≤ cfg.effBudget →
        ∃ k y, execCount evs = k + 1 ∧ (scr.exec k).res = .ok y ∧
          b = received cfg.postS (returned cfg.execS y)) := by
  cases hrun with
  | prepFailed => simp at h
  | prepCancelled => simp at h
  | @ran pv loop fbs posts m res out hpv hc hl hk hle hfb he hpost =>
    obtain ⟨_, hcount, hfbc, _⟩ := ran_filters ⟨rfl, hl, hk, hle, hfb, he⟩ hpost
    rcases mem_ran he hpost h with ⟨h', _⟩ | h' | ⟨er, h', _⟩ | ⟨a', b', h', hposts⟩
    · cases h'
    · rcases hk _ h' with ⟨j, f, h''⟩ | ⟨j, h''⟩ <;> cases h''
    · cases h'
    · obtain ⟨_, ev, rfl, _, heq⟩ := hpost.of_mem (hposts ▸ List.mem_singleton.mpr rfl)
      simp only [Ev.post.injEq, true_and] at heq
      obtain ⟨_, ha, hb⟩ := heq
      refine ⟨pv, hpv, by rw [ha, postArgs_fst], ?_⟩
      intro hnofb hS hbud
      rw [hfbc] at hnofb
      rw [hcount]
      rcases he.ok_cases with ⟨_, _, _, h0 | h0⟩ | ⟨j, y, rfl, _, hy, rfl⟩ | ⟨e', hf, _⟩
      · exact absurd h0 hS
      · omega
      · exact ⟨j, y, rfl, hy, by rw [hb, postArgs_snd_execRet _ _ _ _ (hp.exec j y hy)]⟩
      · rw [hnofb] at hf; cases hf

end

end Flyt.Proofs.Payload
