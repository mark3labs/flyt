import FlytModel.Proofs.L.Attempts
/-!
# `runItem` (= `runExecWithRetries`, batch.go:317-357 — the retry loop duplicated for batch items)
through the same `execPhase` characterisation as `Run`'s loop (helper lemmas for C02, C17)
-/
namespace Flyt.Proofs.Item
open Flyt Flyt.Spec Flyt.Proofs.Attempts

/-- event constructors of the processing of item `i` of a batch node -/
abbrev itemExec (n v i : Nat) (arg : Val) : Nat → Ev := fun k => .bexec n v i k arg
abbrev itemWait (n v i w : Nat) : Nat → Bool → Ev := fun k f => .bwait n v i k w f
abbrev itemFb (n v i : Nat) (arg : Val) : Nat → Ev := fun e => .bfb n v i arg (.user e)

theorem item_mk (n v i w : Nat) (arg : Val) : Mk (itemExec n v i arg) (itemWait n v i w) :=
  ⟨fun _ => rfl, fun _ _ => rfl⟩

/-- the exec phase of item `i`: every attempt gets `execArg cfg.execS item.box` (the boxed `Result`, unwrapped to its value for an
    any-style exec), the fallback the boxed `Result` itself -/
def itemPhase (kind : CtxKind) (n v : Nat) (cfg : BatchCfg) (i : Nat) (item : Result) (scr : ItemScript) (ctx : Ctx) :
    List Ev × Ctx × Except ErrRoot Val :=
  execPhase kind (itemExec n v i (execArg cfg.execS item.box)) (itemWait n v i cfg.wait) (itemFb n v i item.box)
    scr.exec scr.waitCancel cfg.execS cfg.wait cfg.budget cfg.fb scr.fb ctx

/-- what `runBatch*` stores in the item's slot / reports, given the exec phase's result -/
def itemResOf : Except ErrRoot Val → ItemRes
  | .ok x => .slot (slotOfVal x)
  | .error e => .error e

theorem runItem_eq (kind : CtxKind) (n v : Nat) (cfg : BatchCfg) (i : Nat) (item : Result) (scr : ItemScript) (ctx : Ctx) :
    runItem kind n v cfg i item scr ctx =
      ((itemPhase kind n v cfg i item scr ctx).1, (itemPhase kind n v cfg i item scr ctx).2.1,
       itemResOf (itemPhase kind n v cfg i item scr ctx).2.2) := by
  unfold runItem itemPhase execPhase
  simp only []
  split <;> simp_all [itemResOf]

theorem runItem_spec (kind : CtxKind) (n v : Nat) (cfg : BatchCfg) (i : Nat) (item : Result) (scr : ItemScript) :
    ∃ loop fbs m, PhaseSpec (itemExec n v i (execArg cfg.execS item.box)) (itemWait n v i cfg.wait)
      (itemFb n v i item.box) scr.exec cfg.execS cfg.budget cfg.fb scr.fb
      (itemPhase kind n v cfg i item scr .live) loop fbs m :=
  execPhase_spec kind _ _ _ scr.exec scr.waitCancel cfg.execS cfg.wait cfg.budget cfg.fb scr.fb (item_mk _ _ _ _ _)

theorem itemPhase_done (kind : CtxKind) (n v : Nat) (cfg : BatchCfg) (i : Nat) (item : Result) (scr : ItemScript)
    (k : CtxKind) : (itemPhase kind n v cfg i item scr (.done k)).1 = [] := by
  unfold itemPhase execPhase
  cases cfg.budget <;> simp [attempts, fallbackPhase]

/-- no callback of the item's loop cancels the context, no retry wait of the item is interrupted -/
structure NoCancel (cfg : BatchCfg) (scr : ItemScript) : Prop where
  exec : ∀ k, (scr.exec k).cancels = false
  wait : cfg.wait = 0 ∨ ∀ k, scr.waitCancel k = false

theorem itemPhase_noCancel (kind : CtxKind) (n v : Nat) (cfg : BatchCfg) (i : Nat) (item : Result) (scr : ItemScript)
    (h : NoCancel cfg scr) (kd : CtxKind) : (itemPhase kind n v cfg i item scr .live).2.2 ≠ .error (.ctx kd) :=
  execPhase_noCancel kind _ _ _ scr.exec scr.waitCancel cfg.execS cfg.wait cfg.budget cfg.fb scr.fb h.exec h.wait kd

/-- exec attempts / fallback calls / any loop event of item `i` -/
def isBexecOf (i : Nat) : Ev → Bool | .bexec _ _ j _ _ => j == i | _ => false
def isBfbOf (i : Nat) : Ev → Bool | .bfb _ _ j _ _ => j == i | _ => false
def isItemEv (i : Nat) : Ev → Bool
  | .bexec _ _ j _ _ => j == i
  | .bwait _ _ j _ _ _ => j == i
  | .bfb _ _ j _ _ => j == i
  | _ => false

def bexecCount (i : Nat) (evs : List Ev) : Nat := (evs.filter (isBexecOf i)).length
def bfbCalls (i : Nat) (evs : List Ev) : List Ev := evs.filter (isBfbOf i)

theorem isBexecOf_le (i : Nat) (e : Ev) (h : isBexecOf i e = true) : isItemEv i e = true := by
  cases e with
  | bexec => exact h
  | _ => cases h
theorem isBfbOf_le (i : Nat) (e : Ev) (h : isBfbOf i e = true) : isItemEv i e = true := by
  cases e with
  | bfb => exact h
  | _ => cases h

theorem filter_of_le {p q : Ev → Bool} (h : ∀ e, p e = true → q e = true) (l : List Ev) :
    (l.filter q).filter p = l.filter p := by
  rw [List.filter_filter]
  apply List.filter_congr
  intro e _
  cases hp : p e with
  | false => simp
  | true => simp [h e hp]

variable {kind : CtxKind} {n v : Nat} {cfg : BatchCfg} {i : Nat} {item : Result} {scr : ItemScript}

theorem phase_filters {r : List Ev × Ctx × Except ErrRoot Val} {loop fbs : List Ev} {m : Nat}
    (h : PhaseSpec (itemExec n v i (execArg cfg.execS item.box)) (itemWait n v i cfg.wait) (itemFb n v i item.box)
      scr.exec cfg.execS cfg.budget cfg.fb scr.fb r loop fbs m) :
    r.1.filter (isBexecOf i) = (List.range m).map (itemExec n v i (execArg cfg.execS item.box)) ∧
    bexecCount i r.1 = m ∧ bfbCalls i r.1 = fbs ∧ r.1.filter (isItemEv i) = r.1 := by
  have hf := h.filters (pE := isBexecOf i) (pF := isBfbOf i)
    (fun _ => by simp [isBexecOf]) (fun e he => by cases e with | bexec => rfl | _ => cases he)
    (fun _ => rfl) (fun _ => by simp [isBfbOf]) (fun _ => rfl) (fun _ _ => rfl)
  refine ⟨hf.1, by unfold bexecCount; rw [hf.1]; simp, hf.2, ?_⟩
  rw [List.filter_eq_self]
  intro e he
  rw [h.events] at he
  rcases List.mem_append.mp he with he | he
  · rcases h.loopKinds e he with ⟨j, f, rfl⟩ | ⟨j, rfl⟩ <;> simp [isItemEv]
  · rcases phaseEnd_fbs h.ending with hf | ⟨er, hf⟩ <;> simp [hf] at he
    subst he; simp [isItemEv]

end Flyt.Proofs.Item
