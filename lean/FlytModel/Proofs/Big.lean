import FlytModel.Proofs.Table
/-!
# Big-step relation for `runNode` / `flowLoop` (proof device shared by C03, C04, C05, C10, C11, C18)

`Big env sid task st evs st' out` holds exactly for the non-`fuel` results of the fuelled recursive
model (`big_of_runNode`, `big_of_flowLoop`; converse `run_of_big`).  Routing is expressed with the
last-write-wins `next` (bridge: `Table.tableLookup_buildTable`).  With the semantics as one inductive
relation, a flow-level fact is proved by `induction` on a derivation instead of a mutual induction on fuel
(`Path.lean`, `L/Flow.lean` and `L/Visits.lean` work on the fuelled model directly and do induct on fuel).
-/
namespace Flyt.Proofs
open Flyt

/-- what is being run: a node (`flyt.Run`) or the loop of `Flow.Exec` from node `cur` on -/
inductive Task
  | node (id : NodeId)
  | loop (ops : List ConnOp) (cur : NodeId)

/-- `runNode` on a leaf, as a step on the run state -/
def leafStep (env : Env) (id : NodeId) (sid : StoreId) (cfg : LeafCfg) (st : RunSt) :
    List Ev × RunSt × Outcome :=
  let r := runLeaf env.kind id (st.visits id) sid cfg (env.leafBeh id (st.visits id)) st.ctx
  (r.1, { (st.bumpIf (!r.1.isEmpty) id) with ctx := r.2.1 }, r.2.2)

/-- `runNode` on a batch node, as a step on the run state -/
def batchStep (env : Env) (id : NodeId) (sid : StoreId) (cfg : BatchCfg) (st : RunSt) :
    List Ev × RunSt × Outcome :=
  let r := runBatch env.kind id (st.visits id) sid cfg (env.batchBeh id (st.visits id)) st.ctx
  (r.1, { (st.bumpIf (!r.1.isEmpty) id) with ctx := r.2.1 }, r.2.2)

theorem runNode_leaf {env : Env} {id : NodeId} {cfg : LeafCfg} (h : env.arena id = .leaf cfg)
    (f : Nat) (sid : StoreId) (st : RunSt) : runNode env (f + 1) id sid st = leafStep env id sid cfg st := by
  simp only [runNode, h, leafStep]

theorem runNode_batch {env : Env} {id : NodeId} {cfg : BatchCfg} (h : env.arena id = .batch cfg)
    (f : Nat) (sid : StoreId) (st : RunSt) : runNode env (f + 1) id sid st = batchStep env id sid cfg st := by
  simp only [runNode, h, batchStep]

inductive Big (env : Env) (sid : StoreId) : Task → RunSt → List Ev → RunSt → Outcome → Prop
  | leaf {id cfg st evs st' out} : env.arena id = .leaf cfg → leafStep env id sid cfg st = (evs, st', out) →
      Big env sid (.node id) st evs st' out
  | batch {id cfg st evs st' out} : env.arena id = .batch cfg → batchStep env id sid cfg st = (evs, st', out) →
      Big env sid (.node id) st evs st' out
  | flowDone {id s ops st k} : env.arena id = .flow s ops → st.ctx = .done k →
      Big env sid (.node id) st [] st (.err (.ctx k))
  | flowNoStart {id ops st} : env.arena id = .flow none ops → st.ctx = .live →
      Big env sid (.node id) st [] st (.err (.fw .noStart))
  | flowOk {id s ops st evs st' a} : env.arena id = .flow (some s) ops → st.ctx = .live →
      Big env sid (.loop ops s) st evs st' (.ok a) → Big env sid (.node id) st evs st' (.ok (norm a))
  | flowFail {id s ops st evs st' r} : env.arena id = .flow (some s) ops → st.ctx = .live →
      Big env sid (.loop ops s) st evs st' r → (∀ a, r ≠ .ok a) → Big env sid (.node id) st evs st' r
  | loopDone {ops cur st k} : st.ctx = .done k → Big env sid (.loop ops cur) st [] st (.err (.ctx k))
  | loopStop {ops cur st evs st' a} : st.ctx = .live → Big env sid (.node cur) st evs st' (.ok a) →
      (∀ nxt, next ops cur a ≠ some (some nxt)) → Big env sid (.loop ops cur) st evs st' (.ok a)
  | loopStep {ops cur st evs st' a nxt evs2 st'' r} : st.ctx = .live → Big env sid (.node cur) st evs st' (.ok a) →
      next ops cur a = some (some nxt) → Big env sid (.loop ops nxt) st' evs2 st'' r →
      Big env sid (.loop ops cur) st (evs ++ evs2) st'' r
  | loopFail {ops cur st evs st' r} : st.ctx = .live → Big env sid (.node cur) st evs st' r → (∀ a, r ≠ .ok a) →
      Big env sid (.loop ops cur) st evs st' r

theorem big_of_run (env : Env) (sid : StoreId) (f : Nat) :
    (∀ id st evs st' r, runNode env f id sid st = (evs, st', r) → r ≠ .fuel →
        Big env sid (.node id) st evs st' r) ∧
    (∀ ops cur st evs st' r, flowLoop env f (buildTable ops) cur sid st = (evs, st', r) → r ≠ .fuel →
        Big env sid (.loop ops cur) st evs st' r) := by
  induction f with
  | zero =>
    constructor
    · intro id st evs st' r h hr; simp [runNode] at h; exact absurd h.2.2.symm hr
    · intro ops cur st evs st' r h hr; simp [flowLoop] at h; exact absurd h.2.2.symm hr
  | succ f ih =>
    obtain ⟨ihN, ihL⟩ := ih
    constructor
    · intro id st evs st' r h hr
      cases hA : env.arena id with
      | leaf cfg => rw [runNode_leaf hA] at h; exact .leaf hA h
      | batch cfg => rw [runNode_batch hA] at h; exact .batch hA h
      | flow start ops =>
        simp only [runNode, hA] at h
        cases hc : st.ctx with
        | done k => simp only [hc] at h; cases h; exact .flowDone hA hc
        | live =>
          simp only [hc] at h
          cases start with
          | none => cases h; exact .flowNoStart hA hc
          | some s =>
            simp only at h
            split at h
            · next hl => cases h; exact .flowOk hA hc (ihL _ _ _ _ _ _ hl (by simp))
            · next hne => exact .flowFail hA hc (ihL _ _ _ _ _ _ h hr) (fun a ha => hne _ _ a (ha ▸ h))
    · intro ops cur st evs st' r h hr
      simp only [flowLoop] at h
      cases hc : st.ctx with
      | done k => simp only [hc] at h; cases h; exact .loopDone hc
      | live =>
        simp only [hc, Table.tableLookup_buildTable] at h
        split at h
        · next hn =>
          have b1 := ihN _ _ _ _ _ hn (by simp)
          split at h
          · next nxt hnx => cases h; exact .loopStep hc b1 hnx (ihL _ _ _ _ _ _ rfl hr)
          · next hnx => cases h; exact .loopStop hc b1 (fun nxt hx => hnx nxt hx)
        · next hne => exact .loopFail hc (ihN _ _ _ _ _ h hr) (fun a ha => hne _ _ a (ha ▸ h))

theorem big_of_runNode {env : Env} {sid : StoreId} {f : Nat} {id : NodeId} {st st' : RunSt} {evs : List Ev}
    {r : Outcome} (h : runNode env f id sid st = (evs, st', r)) (hr : r ≠ .fuel) :
    Big env sid (.node id) st evs st' r := (big_of_run env sid f).1 id st evs st' r h hr

theorem big_of_flowLoop {env : Env} {sid : StoreId} {f : Nat} {ops : List ConnOp} {cur : NodeId} {st st' : RunSt}
    {evs : List Ev} {r : Outcome} (h : flowLoop env f (buildTable ops) cur sid st = (evs, st', r)) (hr : r ≠ .fuel) :
    Big env sid (.loop ops cur) st evs st' r := (big_of_run env sid f).2 ops cur st evs st' r h hr

theorem exists_fuel {P : Nat → Prop} (f : Nat) (h : ∀ g, f ≤ g → P (g + 1)) : ∃ f, ∀ f', f ≤ f' → P f' := by
  refine ⟨f + 1, fun f' hf' => ?_⟩
  obtain ⟨g, rfl⟩ : ∃ g, f' = g + 1 := ⟨f' - 1, by omega⟩
  exact h g (by omega)

theorem run_of_big {env : Env} {sid : StoreId} {task st evs st' r} (h : Big env sid task st evs st' r) :
    ∃ f, ∀ f', f ≤ f' →
      match task with
      | .node id => runNode env f' id sid st = (evs, st', r)
      | .loop ops cur => flowLoop env f' (buildTable ops) cur sid st = (evs, st', r) := by
  induction h with
  | leaf hA h => exact exists_fuel 0 fun g _ => (runNode_leaf hA g sid _).trans h
  | batch hA h => exact exists_fuel 0 fun g _ => (runNode_batch hA g sid _).trans h
  | flowDone hA hc => exact exists_fuel 0 fun g _ => by simp [runNode, hA, hc]
  | flowNoStart hA hc => exact exists_fuel 0 fun g _ => by simp [runNode, hA, hc]
  | flowOk hA hc _ ih =>
    obtain ⟨f, hf⟩ := ih
    exact exists_fuel f fun g hg => by simp [runNode, hA, hc, hf g hg]
  | @flowFail id s ops st evs st' r hA hc _ hne ih =>
    obtain ⟨f, hf⟩ := ih
    refine exists_fuel f fun g hg => ?_
    simp only [runNode, hA, hc, hf g hg]
    cases r <;> simp_all
  | loopDone hc => exact exists_fuel 0 fun g _ => by simp [flowLoop, hc]
  | loopStop hc _ hnx ih =>
    obtain ⟨f, hf⟩ := ih
    refine exists_fuel f fun g hg => ?_
    -- `simp` takes the catch-all alternative of the lookup: its side condition is `hnx`
    simp only [flowLoop, hc, hf g hg, Table.tableLookup_buildTable]
  | loopStep hc _ hnx _ ih1 ih2 =>
    obtain ⟨f1, hf1⟩ := ih1
    obtain ⟨f2, hf2⟩ := ih2
    refine exists_fuel (max f1 f2) fun g hg => ?_
    simp only [flowLoop, hc, hf1 g (by omega), Table.tableLookup_buildTable, hnx, hf2 g (by omega)]
  | @loopFail ops cur st evs st' r hc _ hne ih =>
    obtain ⟨f, hf⟩ := ih
    refine exists_fuel f fun g hg => ?_
    simp only [flowLoop, hc, hf g hg]
    cases r <;> simp_all

theorem runNode_of_big {env : Env} {sid : StoreId} {id st evs st' r} (h : Big env sid (.node id) st evs st' r) :
    ∃ f, ∀ f', f ≤ f' → runNode env f' id sid st = (evs, st', r) := run_of_big h

theorem Big.det {env : Env} {sid : StoreId} {id st evs st' r evs₂ st₂ r₂} (h : Big env sid (.node id) st evs st' r)
    (h₂ : Big env sid (.node id) st evs₂ st₂ r₂) : (evs, st', r) = (evs₂, st₂, r₂) := by
  obtain ⟨g, hg⟩ := runNode_of_big h
  obtain ⟨g₂, hg₂⟩ := runNode_of_big h₂
  exact (hg _ (Nat.le_max_left g g₂)).symm.trans (hg₂ _ (Nat.le_max_right g g₂))

theorem runNode_det {env : Env} {sid : StoreId} {f f' : Nat} {id st r r'}
    (h : runNode env f id sid st = r) (hr : r.2.2 ≠ .fuel)
    (h' : runNode env f' id sid st = r') (hr' : r'.2.2 ≠ .fuel) : r = r' :=
  (big_of_runNode (evs := r.1) (st' := r.2.1) h hr).det (big_of_runNode (evs := r'.1) (st' := r'.2.1) h' hr')

end Flyt.Proofs
