import FlytModel.Proofs.Events
/-!
# Cancellation (helper lemmas for C05)

* `cancelsAt env e` — the callback invocation recorded as `e` cancels the run's context (script flag), or `e`
  is a wait that was cut short by an asynchronous cancellation.
* `CtxTrack` — how the context evolves along a trace: done stays done; live stays live iff no event cancels.
* `CancelTail` — after a cancelling event only the fallback / post of the very same visit (or further events
  of the same batch node) follow.
-/
namespace Flyt.Proofs
open Flyt

def cancelsAt (env : Env) (e : Ev) : Bool :=
  Spec.scriptCancels env e ||
    (match e with | .wait _ _ _ _ f => !f | .bwait _ _ _ _ _ f => !f | _ => false)

structure CtxTrack (cz : Ev → Bool) (kind : CtxKind) (c0 : Ctx) (evs : List Ev) (c1 : Ctx) : Prop where
  done : ∀ kd, c0 = .done kd → c1 = .done kd
  quiet : c0 = .live → (∀ e ∈ evs, cz e = false) → c1 = .live
  hit : c0 = .live → ∀ e ∈ evs, cz e = true → c1 = .done kind

theorem after_false (c : Ctx) (kind : CtxKind) : c.after kind false = c := by cases c <;> rfl

theorem CtxTrack.nil {cz kind c} : CtxTrack cz kind c [] c :=
  ⟨fun _ h => h, fun h _ => h, fun _ e he => by cases he⟩

theorem CtxTrack.single {cz : Ev → Bool} {kind c e b} (h : cz e = b) : CtxTrack cz kind c [e] (c.after kind b) := by
  refine ⟨?_, ?_, ?_⟩
  · intro kd hc; subst hc; rfl
  · intro hc hq; subst hc
    have : cz e = false := hq e (by simp)
    rw [h] at this; subst this; rfl
  · intro hc a ha hz; subst hc
    simp at ha; subst ha
    rw [h] at hz; subst hz; rfl

theorem quiet_or_hit (cz : Ev → Bool) (l : List Ev) : (∀ e ∈ l, cz e = false) ∨ ∃ e ∈ l, cz e = true := by
  cases h : l.any cz with
  | false => exact .inl fun e he => by simpa using List.any_eq_false.mp h e he
  | true => exact .inr (by simpa using h)

theorem CtxTrack.append {cz : Ev → Bool} {kind c0 c1 c2 l1 l2} (h1 : CtxTrack cz kind c0 l1 c1)
    (h2 : CtxTrack cz kind c1 l2 c2) : CtxTrack cz kind c0 (l1 ++ l2) c2 := by
  refine ⟨?_, ?_, ?_⟩
  · intro kd hc; exact h2.done kd (h1.done kd hc)
  · intro hc hq
    exact h2.quiet (h1.quiet hc (fun e he => hq e (by simp [he]))) (fun e he => hq e (by simp [he]))
  · intro hc e he hz
    rcases quiet_or_hit cz l1 with hq | ⟨a, ha, hza⟩
    · rcases List.mem_append.mp he with he | he
      · rw [hq e he] at hz; cases hz
      · exact h2.hit (h1.quiet hc hq) e he hz
    · exact h2.done _ (h1.hit hc a ha hza)

theorem CtxTrack.live_or_done {cz : Ev → Bool} {kind c1 l} (h : CtxTrack cz kind .live l c1) :
    c1 = .live ∨ c1 = .done kind := by
  rcases quiet_or_hit cz l with hq | ⟨a, ha, hza⟩
  · exact .inl (h.quiet rfl hq)
  · exact .inr (h.hit rfl a ha hza)

section generic
variable {kind : CtxKind} {mkExec : Nat → Ev} {mkWait : Nat → Bool → Ev} {exec : Nat → Out Val}
  {waitCancel : Nat → Bool} {execS : Style} {wait : Nat}

theorem attempts_track (cz : Ev → Bool) (hE : ∀ j, cz (mkExec j) = (exec j).cancels)
    (hW : ∀ j b, cz (mkWait j b) = !b) {k rem last ctx evs c r}
    (h : attempts kind mkExec mkWait exec waitCancel execS wait k rem last ctx = (evs, c, r)) :
    CtxTrack cz kind ctx evs c := by
  have hc := attempts_cancel (kind := kind) (waitCancel := waitCancel) (execS := execS) (wait := wait)
    cz hE hW k rem last ctx
  rw [h] at hc
  obtain ⟨_, h2, h3, _⟩ := hc
  refine ⟨?_, ?_, ?_⟩
  · intro kd hd
    subst hd
    have := attempts_done (kind := kind) (mkExec := mkExec) (mkWait := mkWait) (exec := exec)
      (waitCancel := waitCancel) (execS := execS) (wait := wait) k rem last kd
    rw [h] at this
    exact this.2
  · intro hl hq; exact (h3 hl hq).1
  · intro _ e he hz; exact h2 e he hz

theorem attempts_cancelled_of {k rem last ctx evs c kd}
    (h : attempts kind mkExec mkWait exec waitCancel execS wait k rem last ctx = (evs, c, .cancelled kd)) :
    c = .done kd := by
  have := @attempts_cancelled kind mkExec mkWait exec waitCancel execS wait k rem last ctx kd
  rw [h] at this
  exact this rfl

theorem attempts_cleared_of {k rem last ctx evs c r}
    (h : attempts kind mkExec mkWait exec waitCancel execS wait k rem last ctx = (evs, c, r))
    (hnc : ∀ kd, r ≠ .cancelled kd) :
    attempts kind mkExec mkWait (fun j => clearOut (exec j)) (fun _ => false) execS wait k rem last .live =
      (evs, .live, r) := by
  have := @attempts_cleared kind mkExec mkWait exec waitCancel execS wait k rem last ctx
  rw [h] at this
  exact this hnc

theorem fallbackPhase_track (cz : Ev → Bool) {fb mkFb} {fbOut : Out Val} (hF : ∀ e, cz (mkFb e) = fbOut.cancels)
    {ctx r fev c eres} (h : fallbackPhase kind fb mkFb fbOut ctx r = (fev, c, eres)) :
    CtxTrack cz kind ctx fev c := by
  rcases fallbackPhase_cases h with ⟨x, _, rfl, rfl, _⟩ | ⟨k, _, rfl, rfl, _⟩ | ⟨e, _, _, rfl, rfl, _⟩ |
      ⟨e, _, _, rfl, rfl, _⟩
  · exact .nil
  · exact .nil
  · exact .nil
  · exact .single (hF e)

end generic

theorem cancelsAt_eq (env : Env) (e : Ev) : cancelsAt env e =
    match e with
    | .wait _ _ _ _ f => !f
    | .bwait _ _ _ _ _ f => !f
    | e => Spec.scriptCancels env e := by
  cases e <;> simp [cancelsAt, Spec.scriptCancels]

section
variable {env : Env} {n : NodeId} {v : Nat} {sid : StoreId}

theorem prepOk_track {cfg pev pv} (h : PrepOk env.kind n v sid cfg (env.leafBeh n v) pev pv) :
    CtxTrack (cancelsAt env) env.kind .live pev .live ∧ ∀ e ∈ pev, cancelsAt env e = false := by
  rcases h with ⟨_, rfl, _⟩ | ⟨_, rfl, hc, _⟩
  · exact ⟨.nil, by simp⟩
  · have hz : cancelsAt env (.prep n v sid) = false := (cancelsAt_eq env (.prep n v sid)).trans hc
    exact ⟨.single (c := .live) hz, by simpa using hz⟩

theorem execPhase_track {cfg pv aev c2 ares fev c3 eres}
    (h : ExecPhase env.kind n v cfg (env.leafBeh n v) pv aev c2 ares fev c3 eres) :
    CtxTrack (cancelsAt env) env.kind .live aev c2 ∧ CtxTrack (cancelsAt env) env.kind c2 fev c3 :=
  ⟨attempts_track (cancelsAt env) (fun _ => cancelsAt_eq env _) (fun _ _ => cancelsAt_eq env _) h.1,
   fallbackPhase_track (cancelsAt env) (fun _ => cancelsAt_eq env _) h.2⟩

theorem runLeaf_track {cfg ctx evs c out}
    (h : runLeaf env.kind n v sid cfg (env.leafBeh n v) ctx = (evs, c, out)) :
    CtxTrack (cancelsAt env) env.kind ctx evs c := by
  cases ctx with
  | done k => rw [Leaf.runLeaf_done] at h; cases h; exact .nil
  | live =>
    have body : ∀ {pev pv aev c2 ares fev c3 eres}, PrepOk env.kind n v sid cfg (env.leafBeh n v) pev pv →
        ExecPhase env.kind n v cfg (env.leafBeh n v) pv aev c2 ares fev c3 eres →
        CtxTrack (cancelsAt env) env.kind .live (pev ++ aev ++ fev) c3 := fun hP hE =>
      ((prepOk_track hP).1.append (execPhase_track hE).1).append (execPhase_track hE).2
    have post1 : ∀ {c3 a b}, CtxTrack (cancelsAt env) env.kind c3 [Ev.post n v sid a b]
        (c3.after env.kind (env.leafBeh n v).post.cancels) := .single (cancelsAt_eq env _)
    cases leafShape_of_runLeaf h with
    | prepErr hne hr => exact .single (cancelsAt_eq env _)
    | prepCancel hne hr hc => exact .single (c := .live) ((cancelsAt_eq env (.prep n v sid)).trans hc)
    | execErr hP hE => exact body hP hE
    | noPost hP hE _ => exact body hP hE
    | postErr hP hE _ _ => exact (body hP hE).append post1
    | postOk hP hE _ _ => exact (body hP hE).append post1

theorem runItem_track {cfg : BatchCfg} {i item ctx} :
    CtxTrack (cancelsAt env) env.kind ctx
      (runItem env.kind n v cfg i item ((env.batchBeh n v).item i) ctx).1
      (runItem env.kind n v cfg i item ((env.batchBeh n v).item i) ctx).2.1 := by
  obtain ⟨aev, c1, ares, fev, c2, eres, hA, hF, hR⟩ :=
    runItem_eq env.kind n v cfg i item ((env.batchBeh n v).item i) ctx
  rw [hR]
  exact (attempts_track (cancelsAt env) (fun _ => cancelsAt_eq env _) (fun _ _ => cancelsAt_eq env _) hA).append
    (fallbackPhase_track (cancelsAt env) (fun _ => cancelsAt_eq env _) hF)

theorem itemsSeq_track {cfg : BatchCfg} (items : List Result) (i : Nat) (ctx : Ctx) :
    CtxTrack (cancelsAt env) env.kind ctx
      (itemsSeq env.kind n v cfg (env.batchBeh n v) items i ctx).1
      (itemsSeq env.kind n v cfg (env.batchBeh n v) items i ctx).2.1 := by
  induction items, i, ctx using BatchSeq.itemsSeq_induct env.kind n v cfg (env.batchBeh n v) with
  | nil => exact .nil
  | done => exact .nil
  | cont it rest i r t hr _ _ ih => subst hr; exact runItem_track.append ih
  | stop _ it rest i r e hr _ => subst hr; exact runItem_track

theorem batchItems_track {cfg : BatchCfg} {items ctx1 iev c2 slots}
    (h : batchItems env.kind n v cfg (env.batchBeh n v) items ctx1 = (iev, c2, slots)) :
    CtxTrack (cancelsAt env) env.kind ctx1 iev c2 := by
  have := itemsSeq_track (env := env) (n := n) (v := v) (cfg := cfg) items 0 ctx1
  rwa [← batchItems_eq, h] at this

theorem runBatch_track {cfg : BatchCfg} {ctx evs c out}
    (h : runBatch env.kind n v sid cfg (env.batchBeh n v) ctx = (evs, c, out)) :
    CtxTrack (cancelsAt env) env.kind ctx evs c := by
  have pre1 : CtxTrack (cancelsAt env) env.kind ctx [Ev.bprep n v sid]
      (ctx.after env.kind (env.batchBeh n v).prep.cancels) := .single (cancelsAt_eq env _)
  have post1 : ∀ {c3 a b}, CtxTrack (cancelsAt env) env.kind c3 [Ev.bpost n v sid a b]
      (c3.after env.kind (env.batchBeh n v).post.cancels) := .single (cancelsAt_eq env _)
  cases batchShape_of_runBatch h with
  | prepErr hr => exact pre1
  | noPost hr hbi hp => exact pre1.append (batchItems_track hbi)
  | postErr hr hbi hp hpr => exact (pre1.append (batchItems_track hbi)).append post1
  | postOk hr hbi hp hpr => exact (pre1.append (batchItems_track hbi)).append post1

end

theorem big_track {env : Env} {sid task st evs st' r} (h : Big env sid task st evs st' r) :
    CtxTrack (cancelsAt env) env.kind st.ctx evs st'.ctx :=
  h.flat (P := fun st evs st' _ => CtxTrack (cancelsAt env) env.kind st.ctx evs st'.ctx)
    (fun _ h => runLeaf_track (leafStep_ctx h)) (fun _ h => runBatch_track (batchStep_ctx h))
    (fun _ => .nil) (fun _ => .nil) id fun _ _ _ ih1 ih2 => ih1.append ih2

theorem big_done {env : Env} {sid task st evs st' r k} (h : Big env sid task st evs st' r) (hc : st.ctx = .done k)
    (hnb : ∀ id cfg, task = .node id → env.arena id ≠ .batch cfg) :
    evs = [] ∧ st' = st ∧ r = .err (.ctx k) := by
  cases h with
  | leaf hA h => rw [leafStep_done hc] at h; cases h; exact ⟨rfl, rfl, rfl⟩
  | batch hA h => exact absurd hA (hnb _ _ rfl)
  | flowDone _ hc' => rw [hc] at hc'; cases hc'; exact ⟨rfl, rfl, rfl⟩
  | flowNoStart _ hc' => rw [hc] at hc'; cases hc'
  | flowOk _ hc' _ => rw [hc] at hc'; cases hc'
  | flowFail _ hc' _ _ => rw [hc] at hc'; cases hc'
  | loopDone hc' => rw [hc] at hc'; cases hc'; exact ⟨rfl, rfl, rfl⟩
  | loopStop hc' _ _ => rw [hc] at hc'; cases hc'
  | loopStep hc' _ _ _ => rw [hc] at hc'; cases hc'
  | loopFail hc' _ _ => rw [hc] at hc'; cases hc'

def lateEv (e : Ev) : Bool := Spec.isFbEv e || Spec.isPostEv e || Spec.isBatchEv e

/-- `e` may follow the cancelling event `c`: same node, same visit, and only a fallback / post
    (or a further event of the same batch node, whose items are judged by C11) -/
def TailRel (c e : Ev) : Prop := Spec.evKey e = Spec.evKey c ∧ lateEv e = true

def CancelTail (cz : Ev → Bool) (evs : List Ev) : Prop :=
  evs.Pairwise (fun c e => cz c = true → TailRel c e)

theorem early_late {cz : Ev → Bool} {early late : List Ev} (h1 : early.Pairwise (fun c _ => cz c = false))
    (h2 : ∀ e ∈ late, lateEv e = true) :
    (early ++ late).Pairwise (fun c e => cz c = true → lateEv e = true) := by
  rw [List.pairwise_append]
  refine ⟨h1.imp (fun h hc => by rw [h] at hc; cases hc), ?_, fun _ _ b hb _ => h2 b hb⟩
  exact List.pairwise_of_forall_mem_list (fun _ _ b hb _ => h2 b hb)

section
variable {env : Env} {n : NodeId} {v : Nat} {sid : StoreId}

theorem leaf_early {cfg pev pv aev c2 ares fev c3 eres}
    (hP : PrepOk env.kind n v sid cfg (env.leafBeh n v) pev pv)
    (hE : ExecPhase env.kind n v cfg (env.leafBeh n v) pv aev c2 ares fev c3 eres) :
    (pev ++ aev).Pairwise (fun c _ => cancelsAt env c = false) ∧ ∀ e ∈ fev, lateEv e = true := by
  constructor
  · rw [List.pairwise_append]
    refine ⟨List.pairwise_of_forall_mem_list fun a ha _ _ => (prepOk_track hP).2 a ha, ?_,
      fun a ha _ _ => (prepOk_track hP).2 a ha⟩
    have := attempts_cancel (kind := env.kind) (mkExec := fun k => Ev.exec n v k (execArg cfg.execS pv))
      (mkWait := fun k f => Ev.wait n v k cfg.effWait f) (exec := (env.leafBeh n v).exec)
      (waitCancel := (env.leafBeh n v).waitCancel) (execS := cfg.execS) (wait := cfg.effWait)
      (cancelsAt env) (fun _ => cancelsAt_eq env _) (fun _ _ => cancelsAt_eq env _) 0 cfg.effBudget none .live
    rw [hE.1] at this
    exact this.1
  · intro e he
    obtain ⟨a, err, rfl⟩ := (execPhase_mem hE).2 e he
    rfl

theorem runLeaf_cancelTail {cfg ctx evs c out}
    (h : runLeaf env.kind n v sid cfg (env.leafBeh n v) ctx = (evs, c, out)) :
    CancelTail (cancelsAt env) evs := by
  have hm := runLeaf_mem h
  suffices hs : evs.Pairwise (fun c e => cancelsAt env c = true → lateEv e = true) by
    apply hs.imp_of_mem
    intro a b ha hb hab hc
    exact ⟨by rw [(hm a ha).key, (hm b hb).key], hab hc⟩
  cases ctx with
  | done k => rw [Leaf.runLeaf_done] at h; cases h; simp
  | live =>
    have late : ∀ {fev : List Ev} {a b}, (∀ e ∈ fev, lateEv e = true) →
        ∀ e ∈ fev ++ [Ev.post n v sid a b], lateEv e = true := fun hf => by
      rw [List.forall_mem_append, List.forall_mem_singleton]; exact ⟨hf, rfl⟩
    cases leafShape_of_runLeaf h with
    | prepErr => simp
    | prepCancel => simp
    | execErr hP hE => exact early_late (leaf_early hP hE).1 (leaf_early hP hE).2
    | noPost hP hE _ => exact early_late (leaf_early hP hE).1 (leaf_early hP hE).2
    | postErr hP hE _ _ => rw [List.append_assoc]; exact early_late (leaf_early hP hE).1 (late (leaf_early hP hE).2)
    | postOk hP hE _ _ => rw [List.append_assoc]; exact early_late (leaf_early hP hE).1 (late (leaf_early hP hE).2)

theorem runBatch_cancelTail {cfg : BatchCfg} {scr ctx evs c out} {cz : Ev → Bool}
    (h : runBatch env.kind n v sid cfg scr ctx = (evs, c, out)) : CancelTail cz evs := by
  have hm := runBatch_mem h
  apply List.pairwise_of_forall_mem_list
  intro a ha b hb _
  refine ⟨by rw [(hm a ha).key, (hm b hb).key], ?_⟩
  simp [lateEv, (hm b hb).isBatch]

end

theorem big_cancelTail {env : Env} {sid task st evs st' r} (h : Big env sid task st evs st' r) :
    CancelTail (cancelsAt env) evs := by
  refine h.flat (P := fun _ evs _ _ => CancelTail (cancelsAt env) evs)
    (fun _ h => runLeaf_cancelTail (leafStep_ctx h)) (fun _ h => runBatch_cancelTail (batchStep_ctx h))
    (fun _ => .nil) (fun _ => .nil) id fun hc h1 h2 ih1 ih2 => ?_
  -- once an event of the visit has cancelled, the rest of the loop does nothing
  refine List.pairwise_append.mpr ⟨ih1, ih2, fun c hcm e he hz => ?_⟩
  rw [(big_done h2 ((big_track h1).hit hc c hcm hz) (by intro id cfg ht; cases ht)).1] at he
  cases he

theorem runLeaf_err {kind n v sid cfg scr ctx evs c r} (h : runLeaf kind n v sid cfg scr ctx = (evs, c, .err r)) :
    (∃ u, r = .user u) ∨ ∃ k, r = .ctx k ∧ c = .done k := by
  cases ctx with
  | done k' => rw [Leaf.runLeaf_done] at h; cases h; exact .inr ⟨_, rfl, rfl⟩
  | live =>
    generalize ho : Outcome.err r = out at h
    cases leafShape_of_runLeaf h with
    | prepErr => cases ho; exact .inl ⟨_, rfl⟩
    | prepCancel => cases ho; exact .inr ⟨_, rfl, rfl⟩
    | execErr hP hE =>
      cases ho
      obtain ⟨hA, hF⟩ := hE
      rcases fallbackPhase_cases hF with ⟨x, _, _, _, he⟩ | ⟨k', rfl, _, rfl, he⟩ | ⟨e, _, _, _, _, he⟩ |
          ⟨e, _, _, _, _, he⟩
      · cases he
      · cases he; exact .inr ⟨_, rfl, attempts_cancelled_of hA⟩
      · cases he; exact .inl ⟨_, rfl⟩
      · split at he <;> cases he
        exact .inl ⟨_, rfl⟩
    | noPost => cases ho
    | postErr => cases ho; exact .inl ⟨_, rfl⟩
    | postOk => cases ho

theorem runBatch_err {kind n v sid cfg scr ctx evs c r} (h : runBatch kind n v sid cfg scr ctx = (evs, c, .err r)) :
    ∃ u, r = .user u := by
  generalize ho : Outcome.err r = out at h
  cases batchShape_of_runBatch h <;> cases ho <;> exact ⟨_, rfl⟩

theorem big_ctxErr {env : Env} {sid task st evs st' r} (h : Big env sid task st evs st' r) :
    ∀ k, r = .err (.ctx k) → st'.ctx = .done k :=
  h.flat (P := fun _ _ st' r => ∀ k, r = .err (.ctx k) → st'.ctx = .done k)
    (fun _ h k hr => by
      subst hr
      rcases runLeaf_err (leafStep_ctx h) with ⟨_, hu⟩ | ⟨_, hk, hd⟩
      · cases hu
      · cases hk; exact hd)
    (fun _ h k hr => by subst hr; exact (runBatch_err (batchStep_ctx h)).elim fun _ hu => nomatch hu)
    (fun hc k hr => by cases hr; exact hc) (fun _ k hr => nomatch hr) (fun _ k hr => nomatch hr)
    fun _ _ _ _ ih2 => ih2

theorem big_ctxErr_live {env : Env} {sid task st evs st' r k} (h : Big env sid task st evs st' r)
    (hc : st.ctx = .live) (hr : r = .err (.ctx k)) :
    k = env.kind ∧ ∃ e ∈ evs, cancelsAt env e = true := by
  have hd := big_ctxErr h k hr
  rcases quiet_or_hit (cancelsAt env) evs with hq | ⟨e, he, hz⟩
  · rw [(big_track h).quiet hc hq] at hd; cases hd
  · rw [(big_track h).hit hc e he hz] at hd; cases hd; exact ⟨rfl, e, he, hz⟩

end Flyt.Proofs
