import FlytModel.Spec.Flow
/-!
# The retry loop `attempts` and `fallbackPhase` (shared by `Run` and `runExecWithRetries`)

Lemmas are generic in the event constructors (`mkExec`, `mkWait`) so that they apply to the leaf loop
and to the duplicated batch-item loop alike.  Event classifiers (`fatal`, `cz`) are abstract functions
tied to the constructors by hypotheses.

`attempts_induct` is the induction principle of the loop, one case per way a round can go (the unfolding equations
`attempts_waitCancel` … `attempts_err` above it); the facts about whole runs are proved through it.

The same runs are described more than once, each time in the shape its users need.
The retry loop: `Attempts.AttSpec` / `Attempts.PhaseSpec` (`Proofs/L/Attempts.lean`) number and count the calls,
`Wait.AttShape` (`Proofs/Wait.lean`) says where the waits stand (C20); both come from `attempts_induct`.
A leaf run: `LeafShape` (`Proofs/Leaf.lean`) keeps the context after each phase, for the flow-level lemmas
(`Cancel`, `Cleared`, `FailStop`, `SpecC03`); `Leaf.LeafRun` with `LeafRun.split` (`Proofs/L/Leaf.lean`,
`Proofs/L/LeafFacts.lean`) is indexed by events and outcome only and carries the single-node theorems (C01, C02, C17);
`Wait.LeafRun` places an `AttShape` list inside the trace (`Wait.Around`) for C20.
A flow run: `Big` (`Proofs/Big.lean`) is the big-step relation without fuel; `IsPath` (`Proofs/Path.lean`) cuts a run
into visits chained by the table (C03, C10); `Visits.VisitSeq` (`Proofs/L/Visits.lean`) says that the trace is a
concatenation of standalone leaf / batch runs (C01, C02, C17 inside a flow).
-/
namespace Flyt.Proofs
open Flyt

@[simp] theorem after_live_false (kind : CtxKind) : Ctx.live.after kind false = .live := rfl
@[simp] theorem after_live_true (kind : CtxKind) : Ctx.live.after kind true = .done kind := rfl
@[simp] theorem after_done (k kind : CtxKind) (b : Bool) : (Ctx.done k).after kind b = .done k := rfl

theorem after_cases (c : Ctx) (kind : CtxKind) (b : Bool) :
    (c.after kind b = c) ∨ (c = .live ∧ b = true ∧ c.after kind b = .done kind) := by
  cases c <;> cases b <;> simp

def clearOut {α} (o : Out α) : Out α := { o with cancels := false }

@[simp] theorem clearOut_res {α} (o : Out α) : (clearOut o).res = o.res := rfl
@[simp] theorem clearOut_cancels {α} (o : Out α) : (clearOut o).cancels = false := rfl

theorem errOf_ok {α} {o : Out α} {x} (h : o.res = .ok x) : Spec.errOf o = none := by simp [Spec.errOf, h]
theorem errOf_error {α} {o : Out α} {e} (h : o.res = .error e) : Spec.errOf o = some e := by simp [Spec.errOf, h]

theorem fallbackPhase_events (kind : CtxKind) (fb : FbKind) (mkFb : Nat → Ev) (fbOut : Out Val) (ctx : Ctx)
    (r : AttemptRes) : ∀ e ∈ (fallbackPhase kind fb mkFb fbOut ctx r).1, ∃ k, e = mkFb k := by
  intro e he
  cases r with
  | failed k =>
    cases fb with
    | custom => cases hr : fbOut.res <;> simp [fallbackPhase, hr] at he <;> exact ⟨k, he⟩
    | _ => simp [fallbackPhase] at he
  | _ => simp [fallbackPhase] at he

section
variable (kind : CtxKind) (mkExec : Nat → Ev) (mkWait : Nat → Bool → Ev) (exec : Nat → Out Val)
  (waitCancel : Nat → Bool) (execS : Style) (wait : Nat)

def wev (k : Nat) : List Ev := if k > 0 ∧ wait > 0 then [mkWait k true] else []

theorem mem_wev {k : Nat} {e : Ev} (h : e ∈ wev mkWait wait k) : e = mkWait k true := by
  unfold wev at h
  split at h
  · exact List.mem_singleton.1 h
  · cases h

theorem attempts_waitCancel (k rem : Nat) (last : Option Nat) (h : k > 0 ∧ wait > 0 ∧ waitCancel k = true) :
    attempts kind mkExec mkWait exec waitCancel execS wait k (rem + 1) last .live =
      ([mkWait k false], .done kind, .cancelled kind) := by
  simp [attempts, h]

theorem attempts_absent (k rem : Nat) (last : Option Nat) (h : ¬ (k > 0 ∧ wait > 0 ∧ waitCancel k = true))
    (hs : execS = .absent) :
    attempts kind mkExec mkWait exec waitCancel execS wait k (rem + 1) last .live =
      (wev mkWait wait k, .live, .ok Val.nil) := by
  subst hs
  simp [attempts, h, wev]

theorem attempts_live_succ (hS : execS ≠ .absent) (k rem : Nat) (last : Option Nat) :
    attempts kind mkExec mkWait exec waitCancel execS wait k (rem + 1) last .live =
      if k > 0 ∧ wait > 0 ∧ waitCancel k then ([mkWait k false], .done kind, .cancelled kind)
      else
        match (exec k).res with
        | .ok x => (wev mkWait wait k ++ [mkExec k], Ctx.live.after kind (exec k).cancels, .ok (execRet execS x))
        | .error e =>
          (wev mkWait wait k ++ [mkExec k] ++
            (attempts kind mkExec mkWait exec waitCancel execS wait (k + 1) rem (some e) (Ctx.live.after kind (exec k).cancels)).1,
           (attempts kind mkExec mkWait exec waitCancel execS wait (k + 1) rem (some e) (Ctx.live.after kind (exec k).cancels)).2.1,
           (attempts kind mkExec mkWait exec waitCancel execS wait (k + 1) rem (some e) (Ctx.live.after kind (exec k).cancels)).2.2) := by
  simp only [attempts, wev]
  split
  · rfl
  · cases execS with
    | absent => exact absurd rfl hS
    | _ => cases (exec k).res <;> rfl

theorem attempts_ok (k rem : Nat) (last : Option Nat) (h : ¬ (k > 0 ∧ wait > 0 ∧ waitCancel k = true))
    (hs : execS ≠ .absent) {x : Val} (hr : (exec k).res = .ok x) :
    attempts kind mkExec mkWait exec waitCancel execS wait k (rem + 1) last .live =
      (wev mkWait wait k ++ [mkExec k], Ctx.live.after kind (exec k).cancels, .ok (execRet execS x)) := by
  rw [attempts_live_succ _ _ _ _ _ _ _ hs, if_neg h, hr]

theorem attempts_err (k rem : Nat) (last : Option Nat) (h : ¬ (k > 0 ∧ wait > 0 ∧ waitCancel k = true))
    (hs : execS ≠ .absent) {e : Nat} (hr : (exec k).res = .error e) :
    attempts kind mkExec mkWait exec waitCancel execS wait k (rem + 1) last .live =
      (wev mkWait wait k ++ [mkExec k] ++
        (attempts kind mkExec mkWait exec waitCancel execS wait (k + 1) rem (some e) (Ctx.live.after kind (exec k).cancels)).1,
       (attempts kind mkExec mkWait exec waitCancel execS wait (k + 1) rem (some e) (Ctx.live.after kind (exec k).cancels)).2.1,
       (attempts kind mkExec mkWait exec waitCancel execS wait (k + 1) rem (some e) (Ctx.live.after kind (exec k).cancels)).2.2) := by
  rw [attempts_live_succ _ _ _ _ _ _ _ hs, if_neg h, hr]

/-- Induction over the retry loop, one case per way a round goes: budget used up; context done at the loop
    top; wait interrupted; no exec callback; attempt `k` succeeds; attempt `k` fails and the loop goes on
    (`t`) from the context the attempt left. -/
theorem attempts_induct {motive : Nat → Nat → Option Nat → Ctx → List Ev × Ctx × AttemptRes → Prop}
    (zero : ∀ k last ctx, motive k 0 last ctx ([], ctx, match last with | none => .ok Val.nil | some e => .failed e))
    (done : ∀ k rem last kd, motive k (rem + 1) last (.done kd) ([], .done kd, .cancelled kd))
    (cut : ∀ k rem last, k > 0 ∧ wait > 0 ∧ waitCancel k = true →
      motive k (rem + 1) last .live ([mkWait k false], .done kind, .cancelled kind))
    (absent : ∀ k rem last, ¬ (k > 0 ∧ wait > 0 ∧ waitCancel k = true) → execS = .absent →
      motive k (rem + 1) last .live (wev mkWait wait k, .live, .ok Val.nil))
    (ok : ∀ k rem last x, ¬ (k > 0 ∧ wait > 0 ∧ waitCancel k = true) → execS ≠ .absent → (exec k).res = .ok x →
      motive k (rem + 1) last .live
        (wev mkWait wait k ++ [mkExec k], Ctx.live.after kind (exec k).cancels, .ok (execRet execS x)))
    (err : ∀ k rem last e t, ¬ (k > 0 ∧ wait > 0 ∧ waitCancel k = true) → execS ≠ .absent →
      (exec k).res = .error e →
      t = attempts kind mkExec mkWait exec waitCancel execS wait (k + 1) rem (some e) (Ctx.live.after kind (exec k).cancels) →
      motive (k + 1) rem (some e) (Ctx.live.after kind (exec k).cancels) t →
      motive k (rem + 1) last .live (wev mkWait wait k ++ [mkExec k] ++ t.1, t.2.1, t.2.2))
    (k rem : Nat) (last : Option Nat) (ctx : Ctx) :
    motive k rem last ctx (attempts kind mkExec mkWait exec waitCancel execS wait k rem last ctx) := by
  induction rem generalizing k last ctx with
  | zero => exact zero k last ctx
  | succ rem ih =>
    cases ctx with
    | done kd => exact done k rem last kd
    | live =>
      by_cases h : k > 0 ∧ wait > 0 ∧ waitCancel k = true
      · rw [attempts_waitCancel _ _ _ _ _ _ _ _ _ _ h]; exact cut k rem last h
      · by_cases hs : execS = .absent
        · rw [attempts_absent _ _ _ _ _ _ _ _ _ _ h hs]; exact absent k rem last h hs
        · cases hr : (exec k).res with
          | ok x => rw [attempts_ok _ _ _ _ _ _ _ _ _ _ h hs hr]; exact ok k rem last x h hs hr
          | error e => rw [attempts_err _ _ _ _ _ _ _ _ _ _ h hs hr]; exact err k rem last e _ h hs hr rfl (ih _ _ _)

end

section
variable {kind : CtxKind} {mkExec : Nat → Ev} {mkWait : Nat → Bool → Ev} {exec : Nat → Out Val}
  {waitCancel : Nat → Bool} {execS : Style} {wait : Nat}

theorem attempts_zero (k : Nat) (last : Option Nat) (ctx : Ctx) :
    attempts kind mkExec mkWait exec waitCancel execS wait k 0 last ctx =
      ([], ctx, match last with | none => .ok Val.nil | some e => .failed e) := by
  rfl

theorem attempts_done (k rem : Nat) (last : Option Nat) (kd : CtxKind) :
    (attempts kind mkExec mkWait exec waitCancel execS wait k rem last (.done kd)).1 = [] ∧
    (attempts kind mkExec mkWait exec waitCancel execS wait k rem last (.done kd)).2.1 = .done kd := by
  cases rem <;> exact ⟨rfl, rfl⟩

theorem round_forall {P : Ev → Prop} {k : Nat} (hw : P (mkWait k true)) (he : P (mkExec k)) :
    ∀ e ∈ wev mkWait wait k ++ [mkExec k], P e := by
  intro e h
  rcases List.mem_append.1 h with h | h
  · rw [mem_wev _ _ h]; exact hw
  · rw [List.mem_singleton.1 h]; exact he

theorem round_pairwise {P : Ev → Prop} {k : Nat} (hw : P (mkWait k true)) :
    (wev mkWait wait k ++ [mkExec k]).Pairwise (fun e _ => P e) := by
  unfold wev
  split
  · exact List.pairwise_pair.2 hw
  · exact List.pairwise_singleton _ _

theorem attempts_mem (k rem : Nat) (last : Option Nat) (ctx : Ctx) :
    ∀ e ∈ (attempts kind mkExec mkWait exec waitCancel execS wait k rem last ctx).1,
      (∃ j, k ≤ j ∧ j < k + rem ∧ e = mkExec j ∧ execS ≠ .absent) ∨
      (∃ j b, k ≤ j ∧ j < k + rem ∧ e = mkWait j b) := by
  have round : ∀ k rem, execS ≠ .absent → ∀ e ∈ wev mkWait wait k ++ [mkExec k],
      (∃ j, k ≤ j ∧ j < k + (rem + 1) ∧ e = mkExec j ∧ execS ≠ .absent) ∨
      (∃ j b, k ≤ j ∧ j < k + (rem + 1) ∧ e = mkWait j b) := fun k rem hs =>
    round_forall (.inr ⟨k, true, by omega, by omega, rfl⟩) (.inl ⟨k, by omega, by omega, rfl, hs⟩)
  induction k, rem, last, ctx using attempts_induct kind mkExec mkWait exec waitCancel execS wait with
  | zero | done => intro e he; cases he
  | cut k rem _ _ => intro e he; exact .inr ⟨k, false, by omega, by omega, List.mem_singleton.1 he⟩
  | absent k rem _ _ _ => intro e he; exact .inr ⟨k, true, by omega, by omega, mem_wev _ _ he⟩
  | ok k rem _ _ _ hs _ => exact round k rem hs
  | err k rem _ _ t _ hs _ _ ih =>
    intro e he
    rcases List.mem_append.1 he with he | he
    · exact round k rem hs e he
    · exact (ih e he).imp (fun ⟨j, h1, h2, h3⟩ => ⟨j, by omega, by omega, h3⟩)
        (fun ⟨j, b, h1, h2, h3⟩ => ⟨j, b, by omega, by omega, h3⟩)

/-- **fail-stop inside the retry loop**: with `fatal` marking exactly the failing last attempt (when no
    custom fallback will consume its error, `P`), no event that has a successor is fatal, a fatal event
    makes the loop end with that error, and a `failed` loop ended with the last attempt's error. -/
theorem attempts_failstop (fatal : Ev → Option Nat) (K : Nat) (P : Prop) [Decidable P]
    (hE : ∀ j, fatal (mkExec j) = if j + 1 = K ∧ P then Spec.errOf (exec j) else none)
    (hW : ∀ j b, fatal (mkWait j b) = none) (k rem : Nat) (last : Option Nat) (ctx : Ctx) :
    k + rem = K →
    (attempts kind mkExec mkWait exec waitCancel execS wait k rem last ctx).1.Pairwise (fun e _ => fatal e = none) ∧
    (∀ e ∈ (attempts kind mkExec mkWait exec waitCancel execS wait k rem last ctx).1, ∀ u, fatal e = some u →
        (attempts kind mkExec mkWait exec waitCancel execS wait k rem last ctx).2.2 = .failed u ∧ P) ∧
    (∀ u, (attempts kind mkExec mkWait exec waitCancel execS wait k rem last ctx).2.2 = .failed u →
        (rem = 0 ∧ last = some u) ∨
        (0 < rem ∧ (attempts kind mkExec mkWait exec waitCancel execS wait k rem last ctx).1.getLast? = some (mkExec (K - 1)) ∧
          Spec.errOf (exec (K - 1)) = some u)) := by
  induction k, rem, last, ctx using attempts_induct kind mkExec mkWait exec waitCancel execS wait with
  | zero k last ctx =>
    refine fun _ => ⟨.nil, nofun, fun u hu => .inl ⟨rfl, ?_⟩⟩
    cases last <;> simp_all
  | done => exact fun _ => ⟨.nil, nofun, nofun⟩
  | cut => exact fun _ => ⟨List.pairwise_singleton _ _, by simp [hW], nofun⟩
  | absent k =>
    refine fun _ => ⟨?_, fun e he u hu => ?_, nofun⟩
    · unfold wev; split <;> simp
    · rw [mem_wev _ _ he, hW] at hu; cases hu
  | ok k rem _ x _ _ hx =>
    refine fun _ => ⟨round_pairwise (hW k true), fun e he u hu => ?_, nofun⟩
    rw [round_forall (P := fun e => fatal e = none) (hW k true) ?_ e he] at hu
    · cases hu
    · rw [hE]; split
      · exact errOf_ok hx
      · rfl
  | err k rem _ e0 t _ _ he0 ht ih =>
    intro hK
    obtain ⟨ih1, ih2, ih3⟩ := ih (by omega)
    have hz : rem = 0 → t.1 = [] ∧ t.2.2 = .failed e0 := by
      rintro rfl; rw [ht]; exact ⟨rfl, rfl⟩
    -- attempt `k` is fatal only if it is the last one: then nothing follows and the loop fails with its error
    have hk : ∀ u, fatal (mkExec k) = some u → rem = 0 ∧ u = e0 ∧ P := by
      intro u hu
      rw [hE, errOf_error he0] at hu
      split at hu
      · rename_i hc; cases hu; exact ⟨by omega, rfl, hc.2⟩
      · cases hu
    have hround : ∀ a ∈ wev mkWait wait k ++ [mkExec k], ∀ u, fatal a = some u → rem = 0 ∧ u = e0 ∧ P :=
      round_forall (fun u hu => by rw [hW] at hu; cases hu) hk
    refine ⟨?_, ?_, ?_⟩
    · refine List.pairwise_append.2 ⟨round_pairwise (hW k true), ih1, fun a ha b hb => ?_⟩
      cases hf : fatal a with
      | none => rfl
      | some u => rw [(hz (hround a ha u hf).1).1] at hb; cases hb
    · intro a ha u hu
      rcases List.mem_append.1 ha with ha | ha
      · obtain ⟨hr, rfl, hP⟩ := hround a ha u hu
        exact ⟨(hz hr).2, hP⟩
      · exact ih2 a ha u hu
    · intro u hu
      right
      rcases ih3 u hu with ⟨hr, hl⟩ | ⟨hr, hl, herr⟩
      · have hk1 : K - 1 = k := by omega
        cases hl
        exact ⟨by omega, by rw [(hz hr).1, hk1]; simp, by rw [hk1, errOf_error he0]⟩
      · exact ⟨by omega, by rw [List.getLast?_append, hl]; rfl, herr⟩

/-- **cancellation inside the retry loop** (`cz` marks cancelling events: an attempt whose callback cancels,
    a wait cut short by an asynchronous cancel): a cancelling event is the loop's last event, leaves the
    context done, and without one a live context stays live and the loop does not report cancellation. -/
theorem attempts_cancel (cz : Ev → Bool) (hE : ∀ j, cz (mkExec j) = (exec j).cancels)
    (hW : ∀ j b, cz (mkWait j b) = !b) (k rem : Nat) (last : Option Nat) (ctx : Ctx) :
    (attempts kind mkExec mkWait exec waitCancel execS wait k rem last ctx).1.Pairwise (fun e _ => cz e = false) ∧
    (∀ e ∈ (attempts kind mkExec mkWait exec waitCancel execS wait k rem last ctx).1, cz e = true →
        (attempts kind mkExec mkWait exec waitCancel execS wait k rem last ctx).2.1 = .done kind) ∧
    (ctx = .live → (∀ e ∈ (attempts kind mkExec mkWait exec waitCancel execS wait k rem last ctx).1, cz e = false) →
        (attempts kind mkExec mkWait exec waitCancel execS wait k rem last ctx).2.1 = .live ∧
        ∀ kd, (attempts kind mkExec mkWait exec waitCancel execS wait k rem last ctx).2.2 ≠ .cancelled kd) ∧
    (∀ kd, (attempts kind mkExec mkWait exec waitCancel execS wait k rem last ctx).2.2 = .cancelled kd →
        (attempts kind mkExec mkWait exec waitCancel execS wait k rem last ctx).2.1 = .done kd) := by
  have hw : ∀ k, cz (mkWait k true) = false := fun k => hW k true
  induction k, rem, last, ctx using attempts_induct kind mkExec mkWait exec waitCancel execS wait with
  | zero k last ctx => exact ⟨.nil, nofun, fun hc _ => ⟨hc, by cases last <;> nofun⟩, by cases last <;> nofun⟩
  | done => exact ⟨.nil, nofun, nofun, fun kd h => by cases h; rfl⟩
  | cut k => exact ⟨List.pairwise_singleton _ _, fun _ _ _ => rfl, by simp [hW], fun kd h => by cases h; rfl⟩
  | absent k =>
    refine ⟨?_, fun e he hc => ?_, fun _ _ => ⟨rfl, nofun⟩, nofun⟩
    · unfold wev; split <;> simp
    · rw [mem_wev _ _ he, hw] at hc; cases hc
  | ok k =>
    refine ⟨round_pairwise (hw k), fun e he hc => ?_, fun _ hall => ?_, nofun⟩
    · rcases List.mem_append.1 he with he | he
      · rw [mem_wev _ _ he, hw] at hc; cases hc
      · rw [List.mem_singleton.1 he, hE] at hc; rw [hc]; rfl
    · have := hall (mkExec k) (by simp)
      rw [hE] at this
      rw [this]; exact ⟨rfl, nofun⟩
  | err k rem _ e0 t _ _ _ ht ih =>
    obtain ⟨ih1, ih2, ih3, ih4⟩ := ih
    -- a cancelling attempt leaves the context done: the rest of the loop does nothing
    have hcz : ∀ a ∈ wev mkWait wait k ++ [mkExec k], cz a = true → t.1 = [] ∧ t.2.1 = .done kind :=
      round_forall (fun hc => by rw [hw] at hc; cases hc) fun hc => by
        rw [hE] at hc; rw [ht, hc]; exact attempts_done _ _ _ _
    refine ⟨?_, fun a ha hc => ?_, fun _ hall => ih3 ?_ fun a ha => hall a (List.mem_append_right _ ha), ih4⟩
    · refine List.pairwise_append.2 ⟨round_pairwise (hw k), ih1, fun a ha b hb => ?_⟩
      cases hc : cz a with
      | false => rfl
      | true => rw [(hcz a ha hc).1] at hb; cases hb
    · rcases List.mem_append.1 ha with ha | ha
      · exact (hcz a ha hc).2
      · exact ih2 a ha hc
    · have := hall (mkExec k) (by simp)
      rw [hE] at this
      rw [this]; rfl

theorem attempts_cancelled (k rem : Nat) (last : Option Nat) (ctx : Ctx) :
    ∀ kd, (attempts kind mkExec mkWait exec waitCancel execS wait k rem last ctx).2.2 = .cancelled kd →
      (attempts kind mkExec mkWait exec waitCancel execS wait k rem last ctx).2.1 = .done kd := by
  induction k, rem, last, ctx using attempts_induct kind mkExec mkWait exec waitCancel execS wait with
  | zero k last ctx => cases last <;> nofun
  | done | cut => intro kd h; cases h; rfl
  | absent | ok => nofun
  | err _ _ _ _ _ _ _ _ _ ih => exact ih

theorem attempts_noCancel (hx : ∀ j, (exec j).cancels = false) (hw : wait = 0 ∨ ∀ j, waitCancel j = false)
    (k rem : Nat) (last : Option Nat) (ctx : Ctx) : ctx = .live →
    (attempts kind mkExec mkWait exec waitCancel execS wait k rem last ctx).2.1 = .live ∧
    ∀ kd, (attempts kind mkExec mkWait exec waitCancel execS wait k rem last ctx).2.2 ≠ .cancelled kd := by
  induction k, rem, last, ctx using attempts_induct kind mkExec mkWait exec waitCancel execS wait with
  | zero k last ctx => exact fun hc => ⟨hc, by cases last <;> nofun⟩
  | done => nofun
  | cut k _ _ h =>
    refine fun _ => absurd h ?_
    rcases hw with hw | hw
    · omega
    · simp [hw k]
  | absent => exact fun _ => ⟨rfl, nofun⟩
  | ok k => rw [hx k]; exact fun _ => ⟨rfl, nofun⟩
  | err k _ _ _ _ _ _ _ _ ih => exact fun _ => ih (by rw [hx k]; rfl)

/-- **a loop that was not cut by cancellation does not depend on the cancellation flags**: the same loop over
    the scripts with every `cancels` flag cleared and no asynchronous cancel produces the same events and result. -/
theorem attempts_cleared (k rem : Nat) (last : Option Nat) (ctx : Ctx) :
    (∀ kd, (attempts kind mkExec mkWait exec waitCancel execS wait k rem last ctx).2.2 ≠ .cancelled kd) →
    attempts kind mkExec mkWait (fun j => clearOut (exec j)) (fun _ => false) execS wait k rem last .live =
      ((attempts kind mkExec mkWait exec waitCancel execS wait k rem last ctx).1, .live,
       (attempts kind mkExec mkWait exec waitCancel execS wait k rem last ctx).2.2) := by
  have hf : ∀ k, ¬ (k > 0 ∧ wait > 0 ∧ (fun _ : Nat => false) k = true) := fun k h => nomatch h.2.2
  induction k, rem, last, ctx using attempts_induct kind mkExec mkWait exec waitCancel execS wait with
  | zero => exact fun _ => rfl
  | done _ _ _ kd | cut => exact fun h => absurd rfl (h _)
  | absent k _ _ _ hs => exact fun _ => attempts_absent _ _ _ _ _ _ _ _ _ _ (hf k) hs
  | ok k _ _ _ _ hs hr => exact fun _ => attempts_ok _ _ _ _ _ _ _ _ _ _ (hf k) hs hr
  | err k _ _ _ t _ hs hr _ ih =>
    intro hnc
    rw [attempts_err kind mkExec mkWait (fun j => clearOut (exec j)) (fun _ => false) execS wait k _ _ (hf k) hs hr]
    simp only [clearOut_cancels, after_live_false, ih hnc]

end
end Flyt.Proofs
