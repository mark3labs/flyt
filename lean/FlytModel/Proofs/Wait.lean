import FlytModel.Spec.Wait
import FlytModel.Proofs.BatchSeq
import FlytModel.Proofs.L.Leaf
import FlytModel.Proofs.L.Item
/-!
# Helper lemmas for property C20 (retry wait honoured and interruptible)

`AttShape` is the set of event lists the retry loop `attempts` can produce, written as an inductive
predicate; `attempts_shape` shows, round by round (`attempts_induct`), that `attempts` only produces
such lists.  Everything C20 says is then derived from `AttShape`, chiefly through `shape_split`, which
says where an event of such a list stands.  `Around` places such a list inside the trace of a run
(`runLeaf_struct`, `runItem_struct`); `ItemsRun` places the items' runs inside a batch run.
-/
namespace Flyt.Proofs.Wait
open Flyt Flyt.Spec
export Flyt.Proofs.Leaf (leafExec leafWait)
export Flyt.Proofs.Item (itemExec itemWait)

/-- Event lists of the retry loop from attempt `k` on.  The `Bool` index says whether the list ends
    with an interrupted wait.  `stop k` = "the wait before attempt k is reached and cancelled". -/
inductive AttShape (mkExec : Nat → Ev) (mkWait : Nat → Bool → Ev) (w : Nat) (wc stop : Nat → Bool) :
    Nat → List Ev → Bool → Prop
  | done {k} : (k = 0 ∨ stop k = false) → AttShape mkExec mkWait w wc stop k [] false
  | plain {k t c} : (k = 0 ∨ w = 0) → AttShape mkExec mkWait w wc stop (k + 1) t c →
      AttShape mkExec mkWait w wc stop k (mkExec k :: t) c
  | waited {k t c} : 0 < k → 0 < w → wc k = false → AttShape mkExec mkWait w wc stop (k + 1) t c →
      AttShape mkExec mkWait w wc stop k (mkWait k true :: mkExec k :: t) c
  | cut {k} : 0 < k → 0 < w → wc k = true → AttShape mkExec mkWait w wc stop k [mkWait k false] true

theorem stopAt_eq_true {w budget : Nat} {exec : Nat → Out Val} {wc : Nat → Bool} {k : Nat} :
    stopAt w budget exec wc k = true ↔
      0 < k ∧ (∃ e, (exec (k - 1)).res = .error e) ∧ (exec (k - 1)).cancels = false ∧ k < budget ∧ 0 < w ∧
        wc k = true := by
  unfold stopAt
  cases (exec (k - 1)).res <;> simp [and_assoc]

theorem adjacent_cons {e : Ev} (he : e.isWait = false) (t : List Ev) :
    firedWaitsAdjacent (e :: t) = firedWaitsAdjacent t := by
  cases e with
  | wait => cases he
  | bwait => cases he
  | _ => rfl

theorem adjacent_append_left {p x : List Ev} (hp : ∀ e ∈ p, e.isWait = false) :
    firedWaitsAdjacent (p ++ x) = firedWaitsAdjacent x := by
  induction p with
  | nil => rfl
  | cons e p ih =>
    rw [List.cons_append, adjacent_cons (hp e (List.mem_cons_self ..)),
      ih fun e' he' => hp e' (List.mem_cons_of_mem _ he')]

section shape
variable {mkExec : Nat → Ev} {mkWait : Nat → Bool → Ev} {w : Nat} {wc stop : Nat → Bool}

theorem AttShape.step {k : Nat} {t : List Ev} {c : Bool} (hwc : ¬(k > 0 ∧ w > 0 ∧ wc k = true))
    (h : AttShape mkExec mkWait w wc stop (k + 1) t c) :
    AttShape mkExec mkWait w wc stop k (wev mkWait w k ++ [mkExec k] ++ t) c := by
  unfold wev
  by_cases hw : k > 0 ∧ w > 0
  · rw [if_pos hw]
    exact .waited hw.1 hw.2 (by simpa [hw] using hwc) h
  · rw [if_neg hw]
    exact .plain (by omega) h

/-- **The retry loop only produces `AttShape` lists** (and an interrupted wait makes it return the
    context's error with the context done).  The hypotheses are the loop's invariant: the budget left, no
    retry without an exec callback, and the previous attempt failed, the context being live iff that attempt
    did not cancel it. -/
theorem attempts_shape (kind : CtxKind) (mkExec : Nat → Ev) (mkWait : Nat → Bool → Ev)
    (exec : Nat → Out Val) (wc : Nat → Bool) (execS : Style) (w budget : Nat)
    (k rem : Nat) (last : Option Nat) (ctx : Ctx) :
      budget = k + rem →
      (execS ≠ .absent ∨ k = 0) →
      (k = 0 ∨ ((∃ e, (exec (k - 1)).res = .error e) ∧ (ctx = .live ↔ (exec (k - 1)).cancels = false))) →
      ∃ c, AttShape mkExec mkWait w wc (stopAt w budget exec wc) k
              (attempts kind mkExec mkWait exec wc execS w k rem last ctx).1 c
        ∧ (c = true →
            (attempts kind mkExec mkWait exec wc execS w k rem last ctx).2.2 = .cancelled kind
            ∧ (attempts kind mkExec mkWait exec wc execS w k rem last ctx).2.1 = .done kind) := by
  induction k, rem, last, ctx using attempts_induct kind mkExec mkWait exec wc execS w with
  | zero k =>
    refine fun hb _ _ => ⟨false, .done (.inr (Bool.eq_false_iff.2 fun h => ?_)), nofun⟩
    obtain ⟨_, _, _, hlt, _⟩ := stopAt_eq_true.1 h
    omega
  | done k =>
    -- the previous attempt cancelled the context itself
    refine fun _ _ hpre => ⟨false, .done (hpre.imp_right fun ⟨_, hc⟩ => Bool.eq_false_iff.2 fun h => ?_), nofun⟩
    obtain ⟨_, _, hnc, _⟩ := stopAt_eq_true.1 h
    exact absurd (hc.2 hnc) nofun
  | cut k _ _ hcond => exact fun _ _ _ => ⟨true, .cut hcond.1 hcond.2.1 hcond.2.2, fun _ => ⟨rfl, rfl⟩⟩
  | absent k _ _ _ hS =>
    intro _ habs _
    obtain rfl : k = 0 := habs.resolve_left (absurd hS)
    exact ⟨false, .done (.inl rfl), nofun⟩
  | ok k _ _ x hcond _ hres =>
    refine fun _ _ _ => ⟨false, ?_, nofun⟩
    rw [← List.append_nil (_ ++ [mkExec k])]
    refine .step hcond (.done (.inr (Bool.eq_false_iff.2 fun h => ?_)))
    obtain ⟨_, ⟨e, he⟩, _⟩ := stopAt_eq_true.1 h
    rw [Nat.add_sub_cancel, hres] at he
    cases he
  | err k _ _ e _ hcond _ hres _ ih =>
    intro hb _ _
    obtain ⟨c, hs, hc⟩ := ih (by omega) (.inl (by assumption)) (.inr ⟨⟨e, hres⟩, by
      rw [Nat.add_sub_cancel]; cases (exec k).cancels <;> simp [Ctx.after]⟩)
    exact ⟨c, .step hcond hs, hc⟩

/-- the loop reports an interruption only if its last event is an interrupted wait -/
theorem shape_cut_ends {k : Nat} {t : List Ev} {c : Bool}
    (h : AttShape mkExec mkWait w wc stop k t c) (hc : c = true) :
    ∃ pre j, k ≤ j ∧ t = pre ++ [mkWait j false] := by
  induction h with
  | done _ => simp at hc
  | @plain k t c _ _ ih =>
    obtain ⟨pre, j, hj, rfl⟩ := ih hc
    exact ⟨mkExec k :: pre, j, by omega, by simp⟩
  | @waited k t c _ _ _ _ ih =>
    obtain ⟨pre, j, hj, rfl⟩ := ih hc
    exact ⟨mkWait k true :: mkExec k :: pre, j, by omega, by simp⟩
  | @cut k _ _ _ => exact ⟨[], k, Nat.le_refl _, by simp⟩

variable {k : Nat} {t : List Ev} {c : Bool}

/-- **Where an event `x` of a retry loop's list stands.**  It is attempt `j`: right before it stands its fired
    wait exactly when one is due (`0 < j`, `0 < w`), before that the earlier attempts' events (none if
    `j = k`), and after it a loop's list from `j + 1` on.  Or it is the fired wait before attempt `j`, which
    follows immediately.  Or it is the interrupted wait: the last event, and the loop says so. -/
theorem shape_split (h : AttShape mkExec mkWait w wc stop k t c) :
    ∀ {pre post : List Ev} {x : Ev}, t = pre ++ x :: post →
    ∃ j, k ≤ j ∧
      ((x = mkExec j ∧ AttShape mkExec mkWait w wc stop (j + 1) post c ∧
          ∃ pre', pre = pre' ++ (if 0 < j ∧ 0 < w then [mkWait j true] else []) ∧ (j = k → pre' = []))
       ∨ (x = mkWait j true ∧ 0 < j ∧ 0 < w ∧ wc j = false ∧ ∃ t', post = mkExec j :: t')
       ∨ (x = mkWait j false ∧ 0 < j ∧ 0 < w ∧ wc j = true ∧ post = [] ∧ c = true)) := by
  induction h with
  | done _ => intro pre post x ht; simp at ht
  | @plain k t c hk hs ih =>
    intro pre post x ht
    cases pre with
    | nil =>
      obtain ⟨rfl, rfl⟩ := List.cons.inj ht
      exact ⟨k, Nat.le_refl k, .inl ⟨rfl, hs, [], by simp [show ¬(0 < k ∧ 0 < w) by omega], fun _ => rfl⟩⟩
    | cons p pre =>
      obtain ⟨rfl, ht'⟩ := List.cons.inj ht
      obtain ⟨j, hj, hx⟩ := ih ht'
      exact ⟨j, by omega, hx.imp_left fun ⟨hx, hs', pre', hp, _⟩ =>
        ⟨hx, hs', mkExec k :: pre', by simp [hp], fun h => absurd h (by omega)⟩⟩
  | @waited k t c hk hw hwc hs ih =>
    intro pre post x ht
    match pre, ht with
    | [], ht =>
      obtain ⟨rfl, rfl⟩ := List.cons.inj ht
      exact ⟨k, Nat.le_refl k, .inr (.inl ⟨rfl, hk, hw, hwc, t, rfl⟩)⟩
    | [p], ht =>
      obtain ⟨rfl, ht'⟩ := List.cons.inj ht
      obtain ⟨rfl, rfl⟩ := List.cons.inj ht'
      exact ⟨k, Nat.le_refl k, .inl ⟨rfl, hs, [], by simp [hk, hw], fun _ => rfl⟩⟩
    | p :: q :: pre, ht =>
      obtain ⟨rfl, ht'⟩ := List.cons.inj ht
      obtain ⟨rfl, ht''⟩ := List.cons.inj ht'
      obtain ⟨j, hj, hx⟩ := ih ht''
      exact ⟨j, by omega, hx.imp_left fun ⟨hx, hs', pre', hp, _⟩ =>
        ⟨hx, hs', mkWait k true :: mkExec k :: pre', by simp [hp], fun h => absurd h (by omega)⟩⟩
  | @cut k hk hw hwc =>
    intro pre post x ht
    cases pre with
    | nil =>
      obtain ⟨rfl, rfl⟩ := List.cons.inj ht
      exact ⟨k, Nat.le_refl k, .inr (.inr ⟨rfl, hk, hw, hwc, rfl, rfl⟩)⟩
    | cons p pre => simp at ht

theorem shape_events (h : AttShape mkExec mkWait w wc stop k t c) :
    ∀ e ∈ t, (∃ j, e = mkExec j) ∨ (∃ j f, 0 < w ∧ e = mkWait j f) := by
  intro e he
  obtain ⟨pre, post, ht⟩ := List.append_of_mem he
  obtain ⟨j, _, ⟨rfl, _⟩ | ⟨rfl, _, hw, _⟩ | ⟨rfl, _, hw, _⟩⟩ := shape_split h ht
  · exact .inl ⟨j, rfl⟩
  · exact .inr ⟨j, true, hw, rfl⟩
  · exact .inr ⟨j, false, hw, rfl⟩

/-- **liveness of the interruption**: where the oracle says the wait before attempt `k` is reached and
    cancelled, the loop's list from `k` on is that interrupted wait -/
theorem shape_stopped (h : AttShape mkExec mkWait w wc stop k t c)
    (hs : stop k = true) (hk : 0 < k) (hw : 0 < w) (hwc : wc k = true) : t = [mkWait k false] ∧ c = true := by
  cases h with
  | done h0 => rcases h0 with h0 | h0 <;> simp_all
  | plain h0 _ => omega
  | waited _ _ h0 _ => simp [hwc] at h0
  | cut _ _ _ => exact ⟨rfl, rfl⟩

/-- a loop's list in front does not matter for adjacency: its fired waits stand before their attempts -/
theorem shape_adjacent (hE : ∀ k, (mkExec k).isWait = false)
    (hW : ∀ k t, firedWaitsAdjacent (mkWait k true :: mkExec k :: t) = firedWaitsAdjacent t)
    (hC : ∀ k t, firedWaitsAdjacent (mkWait k false :: t) = firedWaitsAdjacent t)
    (h : AttShape mkExec mkWait w wc stop k t c) (rest : List Ev) :
    firedWaitsAdjacent (t ++ rest) = firedWaitsAdjacent rest := by
  induction h with
  | done _ => rfl
  | plain _ _ ih => rw [List.cons_append, adjacent_cons (hE _), ih]
  | waited _ _ _ _ ih => rw [List.cons_append, List.cons_append, hW, ih]
  | cut _ _ _ => exact hC _ _

theorem endsCut_ex_cons (k : Nat) (s : List AEv) : endsCut (.ex k :: s) = endsCut s := by
  cases s <;> simp [endsCut, List.getLast?_cons_cons]

theorem endsCut_fired_cons (k d : Nat) (s : List AEv) : endsCut (.wt k d true :: s) = endsCut s := by
  cases s <;> simp [endsCut, List.getLast?_cons_cons]

section spec
variable {proj : Ev → Option AEv}
variable (hpe : ∀ k, proj (mkExec k) = some (.ex k)) (hpw : ∀ k f, proj (mkWait k f) = some (.wt k w f))
include hpe hpw

theorem shape_stream (h : AttShape mkExec mkWait w wc stop k t c) :
    waitStream w stop k (t.filterMap proj) = true ∧ firedIff wc (t.filterMap proj) = true ∧
      endsCut (t.filterMap proj) = c := by
  unfold firedIff
  induction h with
  | done h0 => rcases h0 with h0 | h0 <;> simp [waitStream, endsCut, h0]
  | plain h0 _ ih => rcases h0 with h0 | h0 <;> simpa [hpe, waitStream, endsCut_ex_cons, h0] using ih
  | waited h0 h1 hwc _ ih =>
    simpa [hpe, hpw, waitStream, endsCut_ex_cons, endsCut_fired_cons, h0, h1, hwc] using ih
  | cut h0 h1 hwc => simp [hpw, waitStream, endsCut, h0, h1, hwc]

end spec
end shape

theorem strip_prefix {α : Type} {x : α} {A L pre post : List α} (hA : x ∉ A) (h : A ++ L = pre ++ x :: post) :
    ∃ p, pre = A ++ p ∧ L = p ++ x :: post := by
  rcases List.append_eq_append_iff.1 h with ⟨p, hp, hL⟩ | ⟨a, ha, hx⟩
  · exact ⟨p, hp, hL⟩
  · cases a with
    | nil => exact ⟨[], by simpa using ha.symm, hx.symm⟩
    | cons y a =>
      obtain ⟨rfl, _⟩ := List.cons.inj hx
      exact absurd (ha ▸ by simp : x ∈ A) hA

theorem strip_suffix {α : Type} {x : α} {L C pre post : List α} (hC : x ∉ C) (h : L ++ C = pre ++ x :: post) :
    ∃ q, L = pre ++ x :: q ∧ post = q ++ C := by
  rcases List.append_eq_append_iff.1 h with ⟨a, _, hc⟩ | ⟨a, hL, hx⟩
  · exact absurd (hc ▸ by simp : x ∈ C) hC
  · cases a with
    | nil => exact absurd (hx ▸ by simp : x ∈ [] ++ C) (by simpa using hC)
    | cons y a =>
      obtain ⟨rfl, hpost⟩ := List.cons.inj hx
      exact ⟨a, hL, hpost⟩

/-- `tr` is `pev`, then a retry loop's list `aev` from attempt 0, then `tail`, where `pev` and `tail` hold
    neither waits nor events that `proj` reads -/
structure Around (mkExec : Nat → Ev) (mkWait : Nat → Bool → Ev) (w : Nat) (wc stop : Nat → Bool)
    (proj : Ev → Option AEv) (tr pev aev tail : List Ev) (c : Bool) : Prop where
  eq : tr = pev ++ aev ++ tail
  shape : AttShape mkExec mkWait w wc stop 0 aev c
  before : ∀ e ∈ pev, proj e = none ∧ e.isWait = false
  after : ∀ e ∈ tail, proj e = none ∧ e.isWait = false

namespace Around
variable {mkExec : Nat → Ev} {mkWait : Nat → Bool → Ev} {w : Nat} {wc stop : Nat → Bool}
  {proj : Ev → Option AEv} {tr pev aev tail : List Ev} {c : Bool}
  (h : Around mkExec mkWait w wc stop proj tr pev aev tail c)
include h

theorem split {pre post : List Ev} {x : Ev} (ht : tr = pre ++ x :: post) (hx : proj x ≠ none) :
    ∃ p q, aev = p ++ x :: q ∧ pre = pev ++ p ∧ post = q ++ tail := by
  obtain ⟨p, hpre, h'⟩ := strip_prefix (A := pev) (L := aev ++ tail)
    (fun hm => hx (h.before x hm).1) (by rw [← List.append_assoc, ← h.eq, ht])
  obtain ⟨q, haev, hpost⟩ := strip_suffix (fun hm => hx (h.after x hm).1) h'
  exact ⟨p, q, haev, hpre, hpost⟩

theorem stream (hpe : ∀ k, proj (mkExec k) = some (.ex k)) (hpw : ∀ k f, proj (mkWait k f) = some (.wt k w f)) :
    waitStream w stop 0 (tr.filterMap proj) = true ∧ firedIff wc (tr.filterMap proj) = true ∧
      endsCut (tr.filterMap proj) = c := by
  have hN : ∀ l : List Ev, (∀ e ∈ l, proj e = none ∧ e.isWait = false) → l.filterMap proj = [] := fun l hl =>
    List.filterMap_eq_nil_iff.2 fun e he => (hl e he).1
  rw [h.eq, List.filterMap_append, List.filterMap_append, hN pev h.before, hN tail h.after, List.nil_append,
    List.append_nil]
  exact shape_stream hpe hpw h.shape

theorem adjacent (hadj : ∀ rest, firedWaitsAdjacent (aev ++ rest) = firedWaitsAdjacent rest) (rest : List Ev) :
    firedWaitsAdjacent (tr ++ rest) = firedWaitsAdjacent rest := by
  rw [h.eq, List.append_assoc, List.append_assoc,
    adjacent_append_left fun e he => (h.before e he).2, hadj, adjacent_append_left fun e he => (h.after e he).2]

theorem no_wait (hw : w = 0) (hE : ∀ j, (mkExec j).isWait = false) : ∀ e ∈ tr, e.isWait = false := by
  intro e he
  rw [h.eq] at he
  simp only [List.mem_append] at he
  rcases he with (he | he) | he
  · exact (h.before e he).2
  · rcases shape_events h.shape e he with ⟨j, rfl⟩ | ⟨j, f, h2, _⟩
    · exact hE j
    · omega
  · exact (h.after e he).2

end Around

section leaf
variable (kind : CtxKind) (n v sid : Nat) (cfg : LeafCfg) (scr : LeafScript)

/-- `r` has the structure of a plain node's run: prep event (if any), then the retry loop's events, which
    form an `AttShape` list from attempt 0, then the fallback / post events (no waits); an interrupted wait makes the run end
    there with the context's error. -/
def LeafRun (r : List Ev × Ctx × Outcome) : Prop :=
  ∃ (pev aev tail : List Ev) (pv : Val) (c : Bool),
    Around (leafExec n v (execArg cfg.execS pv)) (leafWait n v cfg.effWait) cfg.effWait scr.waitCancel
        (stopAt cfg.effWait cfg.effBudget scr.exec scr.waitCancel) leafAEv r.1 pev aev tail c
    ∧ (pev = [] ∨ pev = [.prep n v sid])
    ∧ (c = true → tail = [] ∧ r.2.2 = .err (.ctx kind) ∧ r.2.1 = .done kind)

theorem runLeaf_struct (ctx : Ctx) : LeafRun kind n v sid cfg scr (runLeaf kind n v sid cfg scr ctx) := by
  have prep : ∀ {pev : List Ev}, (pev = [] ∨ pev = [.prep n v sid]) → ∀ e ∈ pev, leafAEv e = none ∧ e.isWait = false := by
    rintro _ (rfl | rfl) e he
    · cases he
    · rw [List.mem_singleton.1 he]
      exact ⟨rfl, rfl⟩
  have trivialCase : ∀ r : List Ev × Ctx × Outcome, (r.1 = [] ∨ r.1 = [.prep n v sid]) → LeafRun kind n v sid cfg scr r :=
    fun r hr => ⟨r.1, [], [], Val.nil, false,
      ⟨by simp, .done (Or.inl rfl), prep hr, nofun⟩, hr, nofun⟩
  have afterPrep : ∀ pev pv, (pev = [] ∨ pev = [.prep n v sid]) →
      LeafRun kind n v sid cfg scr (Leaf.afterPrep kind n v sid cfg scr pev pv) := by
    intro pev pv hpev
    obtain ⟨c, hs, hc⟩ := attempts_shape kind (leafExec n v (execArg cfg.execS pv)) (leafWait n v cfg.effWait)
      scr.exec scr.waitCancel cfg.execS cfg.effWait cfg.effBudget 0 cfg.effBudget none .live (by simp)
      (Or.inr rfl) (Or.inl rfl)
    unfold Leaf.afterPrep Attempts.execPhase
    simp only []
    generalize attempts kind (leafExec n v (execArg cfg.execS pv)) (leafWait n v cfg.effWait)
      scr.exec scr.waitCancel cfg.execS cfg.effWait 0 cfg.effBudget none .live = a at hs hc ⊢
    cases c with
    | true =>
      obtain ⟨h1, h2⟩ := hc rfl
      rw [h1, h2]
      exact ⟨pev, a.1, [], pv, true,
        ⟨by simp [fallbackPhase, leafFinish], hs, prep hpev, nofun⟩, hpev,
        fun _ => ⟨rfl, rfl, rfl⟩⟩
    | false =>
      have hf := fallbackPhase_events kind cfg.fb (Leaf.leafFb n v pv) scr.fb a.2.1 a.2.2
      generalize fallbackPhase kind cfg.fb (Leaf.leafFb n v pv) scr.fb a.2.1 a.2.2 = f at hf ⊢
      obtain ⟨posts, hp, hpost⟩ := Leaf.leafFinish_postEnd kind n v sid cfg scr (pev ++ (a.1 ++ f.1)) pv f.2.1 f.2.2
      refine ⟨pev, a.1, f.1 ++ posts, pv, false, ⟨by rw [hp]; simp, hs, prep hpev, fun e he => ?_⟩, hpev, nofun⟩
      rcases List.mem_append.1 he with he | he
      · obtain ⟨k, rfl⟩ := hf e he
        exact ⟨rfl, rfl⟩
      · rcases Leaf.postEnd_posts hpost with rfl | ⟨x, y, rfl⟩
        · cases he
        · rw [List.mem_singleton.1 he]
          exact ⟨rfl, rfl⟩
  cases ctx with
  | done k => exact trivialCase _ (Or.inl rfl)
  | live =>
    rw [Leaf.runLeaf_live_eq]
    by_cases hp : cfg.prepS = .absent
    · rw [if_pos hp]; exact afterPrep _ _ (.inl rfl)
    · rw [if_neg hp]
      cases scr.prep.res with
      | error e => exact trivialCase _ (.inr rfl)
      | ok x =>
        cases scr.prep.cancels with
        | true => exact trivialCase _ (.inr rfl)
        | false => exact afterPrep _ _ (.inr rfl)

end leaf

/-- events of item `j`'s processing: all carry the item index `j` -/
def isItemEvOf (n v j : Nat) (e : Ev) : Prop :=
  (∃ k a, e = .bexec n v j k a) ∨ (∃ k d f, e = .bwait n v j k d f) ∨ (∃ a err, e = .bfb n v j a err)

theorem itemEvOf_proj_other {n v j i : Nat} {e : Ev} (h : isItemEvOf n v j e) (hji : j ≠ i) : itemAEv i e = none := by
  rcases h with ⟨k, a, rfl⟩ | ⟨k, d, f, rfl⟩ | ⟨a, b, rfl⟩ <;> simp [itemAEv, hji]

theorem itemEvOf_not_post {n v j : Nat} {e : Ev} (h : isItemEvOf n v j e) : BatchSeq.isBpost e = false := by
  rcases h with ⟨k, a, rfl⟩ | ⟨k, d, f, rfl⟩ | ⟨a, b, rfl⟩ <;> rfl

theorem c20Item_congr {kind : CtxKind} {cfg : BatchCfg} {scr : ItemScript} {i : Nat} {tr tr' : List Ev} {slot : Option Val}
    (h : tr.filterMap (itemAEv i) = tr'.filterMap (itemAEv i)) :
    c20Item kind cfg scr i tr slot = c20Item kind cfg scr i tr' slot := by
  unfold c20Item
  simp only [h]

theorem c20Item_slot_none {kind : CtxKind} {cfg : BatchCfg} {scr : ItemScript} {i : Nat} {tr : List Ev} {slot : Option Val}
    (h : c20Item kind cfg scr i tr slot = true) : c20Item kind cfg scr i tr none = true := by
  unfold c20Item at h ⊢
  simp only [Bool.and_eq_true] at h ⊢
  exact ⟨h.1, by simp⟩

section item
variable (kind : CtxKind) (n v : Nat) (cfg : BatchCfg) (i : Nat) (item : Result) (scr : ItemScript) (ctx : Ctx)

/-- **Structure of one batch item's processing**: the retry loop's events (an `AttShape` list from
    attempt 0), then a tail of fallback events of item `i` only; an interrupted wait makes it end there with
    the context's error. -/
theorem runItem_struct :
    ∃ (aev tail : List Ev) (c : Bool),
      Around (itemExec n v i (execArg cfg.execS item.box)) (itemWait n v i cfg.wait) cfg.wait scr.waitCancel
          (stopAt cfg.wait cfg.budget scr.exec scr.waitCancel) (itemAEv i) (runItem kind n v cfg i item scr ctx).1 [] aev tail c
      ∧ (∀ e ∈ tail, ∃ x err, e = .bfb n v i x err)
      ∧ (c = true → tail = [] ∧ (runItem kind n v cfg i item scr ctx).2.2 = .error (.ctx kind)
            ∧ (runItem kind n v cfg i item scr ctx).2.1 = .done kind) := by
  obtain ⟨c, hs, hc⟩ := attempts_shape kind (itemExec n v i (execArg cfg.execS item.box)) (itemWait n v i cfg.wait)
    scr.exec scr.waitCancel cfg.execS cfg.wait cfg.budget 0 cfg.budget none ctx (by simp) (Or.inr rfl) (Or.inl rfl)
  rw [BatchSeq.runItem_eq]
  simp only []
  generalize attempts kind (itemExec n v i (execArg cfg.execS item.box)) (itemWait n v i cfg.wait)
    scr.exec scr.waitCancel cfg.execS cfg.wait 0 cfg.budget none ctx = a at hs hc ⊢
  refine ⟨a.1, _, c, ⟨rfl, hs, nofun, fun e he => ?_⟩, fun e he => ?_, fun hct => ?_⟩
  · obtain ⟨k, rfl⟩ := fallbackPhase_events _ _ _ _ _ _ e he
    exact ⟨rfl, rfl⟩
  · obtain ⟨k, rfl⟩ := fallbackPhase_events _ _ _ _ _ _ e he
    exact ⟨_, _, rfl⟩
  · obtain ⟨h1, h2⟩ := hc hct
    rw [h1, h2]
    exact ⟨rfl, rfl, rfl⟩

theorem runItem_events :
    ∀ e ∈ (runItem kind n v cfg i item scr ctx).1, isItemEvOf n v i e := by
  intro e he
  obtain ⟨aev, tail, c, ha, htail, _⟩ := runItem_struct kind n v cfg i item scr ctx
  rw [ha.eq] at he
  rcases List.mem_append.mp he with he | he
  · rcases shape_events ha.shape e he with ⟨k, rfl⟩ | ⟨k, f, _, rfl⟩
    · exact Or.inl ⟨k, _, rfl⟩
    · exact Or.inr (Or.inl ⟨k, _, f, rfl⟩)
  · obtain ⟨a, b, rfl⟩ := htail e he
    exact Or.inr (Or.inr ⟨a, b, rfl⟩)

theorem runItem_c20Item :
    c20Item kind cfg scr i (runItem kind n v cfg i item scr ctx).1
      (some (slotOfItemRes (runItem kind n v cfg i item scr ctx).2.2).box) = true := by
  obtain ⟨aev, tail, c, ha, _, hc⟩ := runItem_struct kind n v cfg i item scr ctx
  obtain ⟨h1, h2, h3⟩ := ha.stream (fun _ => by simp [itemAEv]) (fun _ _ => by simp [itemAEv])
  unfold c20Item c20Stream
  simp only [h1, h2, h3, Bool.and_true, Bool.true_and]
  cases c with
  | false => rfl
  | true => simp [(hc rfl).2.1, slotOfItemRes]

theorem runItem_adjacent (rest : List Ev) :
    firedWaitsAdjacent ((runItem kind n v cfg i item scr ctx).1 ++ rest) = firedWaitsAdjacent rest := by
  obtain ⟨aev, tail, c, ha, _⟩ := runItem_struct kind n v cfg i item scr ctx
  exact ha.adjacent (shape_adjacent (fun _ => rfl) (fun _ _ => by simp [firedWaitsAdjacent]) (fun _ _ => rfl) ha.shape) rest

end item

/-- What the item executors `itemsSeq` and `itemsAllLive` produce (`itemsSerialPool … false` is `itemsSeq`,
    `BatchSeq.itemsSerialPool_eq_seq`): item after
    item from index `i` on, each either processed by `runItem` (its events, its slot) or skipped (no
    events, some slot). -/
inductive ItemsRun (kind : CtxKind) (n v : Nat) (cfg : BatchCfg) (scr : BatchScript) :
    Nat → List Result → List Ev → List Result → Prop
  | nil (i : Nat) : ItemsRun kind n v cfg scr i [] [] []
  | skip {i : Nat} {it : Result} {rest : List Result} {evs : List Ev} {sl : List Result} (s : Result) :
      ItemsRun kind n v cfg scr (i + 1) rest evs sl → ItemsRun kind n v cfg scr i (it :: rest) evs (s :: sl)
  | run {i : Nat} {it : Result} {rest : List Result} {evs : List Ev} {sl : List Result} (ctx : Ctx) :
      ItemsRun kind n v cfg scr (i + 1) rest evs sl →
      ItemsRun kind n v cfg scr i (it :: rest)
        ((runItem kind n v cfg i it (scr.item i) ctx).1 ++ evs)
        (slotOfItemRes (runItem kind n v cfg i it (scr.item i) ctx).2.2 :: sl)

section itemsRun
variable {kind : CtxKind} {n v : Nat} {cfg : BatchCfg} {scr : BatchScript}

theorem itemsRun_skipAll (f : Result → Result) : ∀ (rest : List Result) (i : Nat),
    ItemsRun kind n v cfg scr i rest [] (rest.map f)
  | [], i => .nil i
  | it :: rest, i => .skip (f it) (itemsRun_skipAll f rest (i + 1))

theorem itemsSeq_run (items : List Result) (i : Nat) (ctx : Ctx) :
    ItemsRun kind n v cfg scr i items (itemsSeq kind n v cfg scr items i ctx).1 (itemsSeq kind n v cfg scr items i ctx).2.2 := by
  have slot : ∀ r, BatchSeq.slotOfRes r = slotOfItemRes r := fun r => by cases r <;> rfl
  induction items, i, ctx using BatchSeq.itemsSeq_induct kind n v cfg scr with
  | nil i => exact .nil i
  | done items i => exact itemsRun_skipAll _ items i
  | cont it rest i r t hr _ _ ih => rw [hr, slot]; exact .run .live ih
  | stop _ it rest i r e hr he =>
    have := ItemsRun.run (it := it) .live (itemsRun_skipAll (kind := kind) (n := n) (v := v) (cfg := cfg) (scr := scr)
      (fun _ => BatchSeq.stoppedSlot) rest (i + 1))
    rwa [← hr, he, List.append_nil] at this

theorem itemsAllLive_run : ∀ (items : List Result) (i : Nat),
    ItemsRun kind n v cfg scr i items (itemsAllLive kind n v cfg scr items i).1 (itemsAllLive kind n v cfg scr items i).2.2
  | [], i => .nil i
  | _ :: rest, i => .run .live (itemsAllLive_run rest (i + 1))

theorem itemsRun_length {i0 : Nat} {items : List Result} {evs : List Ev} {sl : List Result}
    (h : ItemsRun kind n v cfg scr i0 items evs sl) : sl.length = items.length := by
  induction h with
  | nil i => rfl
  | skip s _ ih => simp [ih]
  | run ctx _ ih => simp [ih]

variable {i0 : Nat} {items : List Result} {evs : List Ev} {sl : List Result}

theorem itemsRun_events (h : ItemsRun kind n v cfg scr i0 items evs sl) : ∀ e ∈ evs, ∃ j, i0 ≤ j ∧ isItemEvOf n v j e := by
  induction h with
  | nil i => intro e he; simp at he
  | skip s _ ih =>
    intro e he
    obtain ⟨j, hj, hev⟩ := ih e he
    exact ⟨j, by omega, hev⟩
  | @run i it rest evs sl ctx _ ih =>
    intro e he
    rcases List.mem_append.mp he with he | he
    · exact ⟨i, Nat.le_refl _, runItem_events kind n v cfg i it (scr.item i) ctx e he⟩
    · obtain ⟨j, hj, hev⟩ := ih e he
      exact ⟨j, by omega, hev⟩

variable {β : Type} {g : Ev → Option β} {i : Nat}

abbrev ReadsItem (n v : Nat) (g : Ev → Option β) (i : Nat) : Prop := ∀ j e, isItemEvOf n v j e → j ≠ i → g e = none

theorem itemsRun_proj_below (hg : ReadsItem n v g i) (h : ItemsRun kind n v cfg scr i0 items evs sl) (hi : i < i0) :
    evs.filterMap g = [] := by
  refine List.filterMap_eq_nil_iff.2 fun e he => ?_
  obtain ⟨j, hj, hev⟩ := itemsRun_events h e he
  exact hg j e hev (by omega)

/-- inside an executor's run, what `g` reads of item `i` is what it reads of `runItem` on that item, and the item's slot
    holds `runItem`'s result (or `g` reads nothing: the item was skipped) -/
theorem itemsRun_item (hg : ReadsItem n v g i) (h : ItemsRun kind n v cfg scr i0 items evs sl) : ∀ d, i = i0 + d →
    evs.filterMap g = [] ∨
      ∃ it ctx, items[d]? = some it ∧
        evs.filterMap g = (runItem kind n v cfg i it (scr.item i) ctx).1.filterMap g ∧
        sl[d]? = some (slotOfItemRes (runItem kind n v cfg i it (scr.item i) ctx).2.2) := by
  induction h with
  | nil i0 => exact fun _ _ => .inl rfl
  | @skip i0 it rest evs sl s h' ih =>
    rintro (_ | d) hi
    · exact .inl (itemsRun_proj_below hg h' (by omega))
    · simp only [List.getElem?_cons_succ]
      exact ih d (by omega)
  | @run i0 it rest evs sl ctx h' ih =>
    rintro (_ | d) hi
    · obtain rfl : i = i0 := hi
      exact .inr ⟨it, ctx, rfl,
        by rw [List.filterMap_append, itemsRun_proj_below hg h' (by omega), List.append_nil], rfl⟩
    · have hother : (runItem kind n v cfg i0 it (scr.item i0) ctx).1.filterMap g = [] :=
        List.filterMap_eq_nil_iff.2 fun e he =>
          hg i0 e (runItem_events kind n v cfg i0 it (scr.item i0) ctx e he) (by omega)
      rw [List.filterMap_append, hother, List.nil_append]
      simp only [List.getElem?_cons_succ]
      exact ih d (by omega)

theorem itemsRun_adjacent (h : ItemsRun kind n v cfg scr i0 items evs sl) (rest : List Ev) :
    firedWaitsAdjacent (evs ++ rest) = firedWaitsAdjacent rest := by
  induction h with
  | nil i => rfl
  | skip s _ ih => exact ih
  | @run i it items evs sl ctx _ ih =>
    rw [List.append_assoc, runItem_adjacent, ih]

end itemsRun

theorem postSlots_append_post (xs : List Ev) (n v sid : Nat) (a b : List Val) :
    postSlots (xs ++ [.bpost n v sid a b]) = some b := by
  simp [postSlots, List.foldl_append]

theorem postSlots_none_of_noPost {xs : List Ev} (h : ∀ e ∈ xs, BatchSeq.isBpost e = false) :
    postSlots xs = none := by
  unfold postSlots
  induction xs with
  | nil => rfl
  | cons e xs ih =>
    have he := h e (List.mem_cons_self ..)
    rw [List.foldl_cons]
    cases e with
    | bpost => cases he
    | _ => exact ih fun e' he' => h e' (List.mem_cons_of_mem _ he')

section batch
variable (kind : CtxKind) (n v sid : Nat) (cfg : BatchCfg) (scr : BatchScript)

/-- `tr` has the form of a batch run's trace: the prep event, an executor's events, at most the post event
    with the executor's slots -/
def BatchForm (tr : List Ev) : Prop :=
  ∃ (items : List Result) (iev : List Ev) (slots : List Result) (its : List Val) (hasPost : Bool),
    ItemsRun kind n v cfg scr 0 items iev slots ∧
    tr = [.bprep n v sid] ++ iev ++ (if hasPost then [.bpost n v sid its (slots.map Result.box)] else [])

theorem runBatch_form' (ctx : Ctx) :
    (∃ e, scr.prep.res = .error e ∧ (runBatch kind n v sid cfg scr ctx).1 = [.bprep n v sid]) ∨
    (∃ l iev slots post, scr.prep.res = .ok l ∧
      ItemsRun kind n v cfg scr 0 (normItems cfg.shape l) iev slots ∧
      (runBatch kind n v sid cfg scr ctx).1 = [.bprep n v sid] ++ iev ++ post ∧
      (post = [] ∨ post = [.bpost n v sid ((normItems cfg.shape l).map Result.box) (slots.map Result.box)])) := by
  cases hp : scr.prep.res with
  | error e => exact .inl ⟨e, rfl, by simp [runBatch, hp]⟩
  | ok l =>
    have hrun := itemsSeq_run (kind := kind) (n := n) (v := v) (cfg := cfg) (scr := scr) (normItems cfg.shape l) 0
      (ctx.after kind scr.prep.cancels)
    rw [BatchSeq.runBatch_ok kind n v cfg scr sid ctx hp]
    cases cfg.hasPost
    · exact .inr ⟨l, _, _, [], rfl, hrun, (List.append_nil _).symm, .inl rfl⟩
    · exact .inr ⟨l, _, _, _, rfl, hrun, rfl, .inr rfl⟩

theorem runBatch_form (ctx : Ctx) : BatchForm kind n v sid cfg scr (runBatch kind n v sid cfg scr ctx).1 := by
  rcases runBatch_form' kind n v sid cfg scr ctx with ⟨_, _, h⟩ | ⟨l, iev, slots, _, _, hrun, h, rfl | rfl⟩
  · exact ⟨[], [], [], [], false, .nil 0, h⟩
  · exact ⟨_, iev, slots, [], false, hrun, h⟩
  · exact ⟨_, iev, slots, _, true, hrun, h⟩

theorem runBatchW_form (ctx : Ctx) : BatchForm kind n v sid cfg scr (runBatchW kind n v sid cfg scr ctx).1 := by
  unfold runBatchW
  by_cases hc : cfg.conc < 2
  · rw [if_pos hc]
    exact runBatch_form kind n v sid cfg scr ctx
  · rw [if_neg hc]
    cases scr.prep.res with
    | error e => exact ⟨[], [], [], [], false, .nil 0, rfl⟩
    | ok l =>
      simp only []
      by_cases hemp : (normItems cfg.shape l).isEmpty = true
      · rw [if_pos hemp]
        exact runBatch_form kind n v sid cfg scr ctx
      · rw [if_neg hemp]
        refine ⟨_, _, _, (normItems cfg.shape l).map Result.box, cfg.hasPost,
          itemsAllLive_run (normItems cfg.shape l) 0, ?_⟩
        cases cfg.hasPost
        · simp
        · cases scr.post.res <;> simp

end batch

theorem form_proj {n v sid : Nat} {iev : List Ev} {its sl : List Val} {hasPost : Bool} (i : Nat) :
    ([Ev.bprep n v sid] ++ iev ++ (if hasPost then [Ev.bpost n v sid its sl] else [])).filterMap (itemAEv i)
      = iev.filterMap (itemAEv i) := by
  cases hasPost <;> simp [List.filterMap_cons, itemAEv]

theorem c20Batch_of_form {kind : CtxKind} {n v sid : Nat} {cfg : BatchCfg} {scr : BatchScript} {tr : List Ev}
    (h : BatchForm kind n v sid cfg scr tr) (nItems : Nat) (ordered : Bool) :
    c20Batch kind cfg scr nItems ordered tr = true := by
  obtain ⟨items, iev, slots, its, hasPost, h, rfl⟩ := h
  unfold c20Batch
  simp only [Bool.and_eq_true, List.all_eq_true, List.mem_range]
  constructor
  · intro i _
    rw [c20Item_congr (form_proj i)]
    rcases itemsRun_item (fun _ _ => itemEvOf_proj_other) h i (Nat.zero_add i).symm with h0 | ⟨it, ctx, _, hev, hsl⟩
    · rw [c20Item_congr (tr' := []) h0]
      rfl
    · have hitem := runItem_c20Item kind n v cfg i it (scr.item i) ctx
      rw [c20Item_congr hev]
      cases hasPost with
      | true =>
        simp only [if_true, postSlots_append_post, Option.bind_some, List.getElem?_map, hsl]
        exact hitem
      | false =>
        have hps : postSlots ([Ev.bprep n v sid] ++ iev) = none := postSlots_none_of_noPost (xs := iev) fun e he =>
          let ⟨_, _, hev⟩ := itemsRun_events h e he
          itemEvOf_not_post hev
        simp only [Bool.false_eq_true, if_false, List.append_nil, hps, Option.bind_none]
        exact c20Item_slot_none hitem
  · cases ordered with
    | false => rfl
    | true =>
      simp only [Bool.not_true, Bool.false_or]
      rw [List.append_assoc, adjacent_append_left (by intro e he; rw [List.mem_singleton.1 he]; rfl), itemsRun_adjacent h]
      cases hasPost <;> rfl

end Flyt.Proofs.Wait
