import FlytModel.Proofs.SpecBridge
/-!
# Bridge to `Spec.c03` (the predicate the driver evaluates for C03 on flat flows)
-/
namespace Flyt.Proofs
open Flyt

/-- the driver's store log: nodes whose prep callback received the store, in order -/
def storeLog (tr : List Ev) : List Nat :=
  tr.filterMap fun e => match e with | .prep n _ _ => some n | .bprep n _ _ => some n | _ => none

theorem storeLog_append (l1 l2 : List Ev) : storeLog (l1 ++ l2) = storeLog l1 ++ storeLog l2 := by
  simp [storeLog]

theorem segments_block_append {k : NodeId × Nat} {l rest : List Ev} (hne : l ≠ []) (hk : ∀ e ∈ l, Spec.evKey e = k)
    (hrest : ∀ k2 g r, Spec.segments rest = (k2, g) :: r → k2 ≠ k) :
    Spec.segments (l ++ rest) = (k, l) :: Spec.segments rest := by
  induction l with
  | nil => exact absurd rfl hne
  | cons e t ih =>
    have he : Spec.evKey e = k := hk e (by simp)
    cases t with
    | nil =>
      simp only [List.cons_append, List.nil_append, Spec.segments]
      cases hs : Spec.segments rest with
      | nil => simp [he]
      | cons p r =>
        obtain ⟨k2, g⟩ := p
        have := hrest k2 g r hs
        simp [he, this]
    | cons e2 t2 =>
      have := ih (by simp) (fun x hx => hk x (by simp [hx]))
      rw [List.cons_append, Spec.segments, this]
      simp [he]

theorem segments_block {k : NodeId × Nat} {l : List Ev} (hne : l ≠ []) (hk : ∀ e ∈ l, Spec.evKey e = k) :
    Spec.segments l = [(k, l)] := by
  simpa [Spec.segments] using segments_block_append (rest := []) hne hk (by simp [Spec.segments])

theorem visitSeq_noWaits (tr : List Ev) : Spec.visitSeq (Spec.noWaits tr) = Spec.visitSeq tr := by
  simp only [Spec.visitSeq, noWaits_idem]

def storeTag (e : Ev) : Option Nat :=
  match e with | .prep n _ _ => some n | .bprep n _ _ => some n | _ => none

theorem storeLog_eq (l : List Ev) : storeLog l = l.filterMap storeTag := rfl

theorem leaf_head {kind n v sid cfg scr evs c out} (h : runLeaf kind n v sid cfg scr .live = (evs, c, out))
    (hp : cfg.prepS ≠ .absent) : evs.head? = some (.prep n v sid) ∧ ∀ e ∈ evs.tail, storeTag e = none := by
  have body : ∀ {pev pv aev c2 ares fev c3 eres}, PrepOk kind n v sid cfg scr pev pv →
      ExecPhase kind n v cfg scr pv aev c2 ares fev c3 eres →
      pev = [.prep n v sid] ∧ ∀ e ∈ aev ++ fev, storeTag e = none := by
    intro pev pv aev c2 ares fev c3 eres hP hE
    refine ⟨hP.elim (fun h0 => absurd h0.1 hp) (·.2.1), fun e he => ?_⟩
    rcases List.mem_append.mp he with he | he
    · rcases (execPhase_mem hE).1 e he with ⟨k, a, rfl⟩ | ⟨k, d, f, rfl⟩ <;> rfl
    · obtain ⟨a, err, rfl⟩ := (execPhase_mem hE).2 e he; rfl
  cases leafShape_of_runLeaf h with
  | prepErr => simp
  | prepCancel => simp
  | execErr hP hE => obtain ⟨rfl, hs⟩ := body hP hE; exact ⟨rfl, hs⟩
  | noPost hP hE _ => obtain ⟨rfl, hs⟩ := body hP hE; exact ⟨rfl, hs⟩
  | postErr hP hE _ _ =>
    obtain ⟨rfl, hs⟩ := body hP hE
    exact ⟨rfl, List.forall_mem_append.mpr ⟨hs, by simp [storeTag]⟩⟩
  | postOk hP hE _ _ =>
    obtain ⟨rfl, hs⟩ := body hP hE
    exact ⟨rfl, List.forall_mem_append.mpr ⟨hs, by simp [storeTag]⟩⟩

theorem itemEv_storeTag {n v e} (h : ItemEv n v e) : storeTag e = none := by
  cases e <;> simp_all [ItemEv, storeTag]

theorem batch_head {kind n v sid cfg scr ctx evs c out} (h : runBatch kind n v sid cfg scr ctx = (evs, c, out)) :
    evs.head? = some (.bprep n v sid) ∧ ∀ e ∈ evs.tail, storeTag e = none := by
  have items : ∀ {l ctx1 iev c2 slots}, batchItems kind n v cfg scr l ctx1 = (iev, c2, slots) →
      ∀ e ∈ iev, storeTag e = none := fun hbi e he => itemEv_storeTag (batchItems_mem' hbi e he)
  cases batchShape_of_runBatch h with
  | prepErr => simp
  | noPost _ hbi _ => exact ⟨rfl, items hbi⟩
  | postErr _ hbi _ _ => exact ⟨rfl, List.forall_mem_append.mpr ⟨items hbi, by simp [storeTag]⟩⟩
  | postOk _ hbi _ _ => exact ⟨rfl, List.forall_mem_append.mpr ⟨items hbi, by simp [storeTag]⟩⟩

/-- node of a flat flow: a leaf with a prep callback (the instrumented nodes count visits there), or a batch node -/
def FlatNode (env : Env) (n : NodeId) : Prop :=
  (∃ cfg, env.arena n = .leaf cfg ∧ cfg.prepS ≠ .absent) ∨ (∃ cfg, env.arena n = .batch cfg)

/-- action a result presents to the routing -/
def actOf : Outcome → Option Action
  | .ok a => some a
  | _ => none

theorem actOf_ok (a : Action) : actOf (.ok a) = some a := rfl

/-- a visit of node `n` (a `leafStep` / `batchStep` over the node's run `r`) whose first event writes the store
    log and is the only one that does: what the trace and the counters show of it -/
theorem head_visit {st st' : RunSt} {n : NodeId} {r : List Ev × Ctx × Outcome} {evs out} {e : Ev}
    (h : (r.1, { (st.bumpIf (!r.1.isEmpty) n) with ctx := r.2.1 }, r.2.2) = (evs, st', out))
    (hr : evs.head? = some e ∧ ∀ x ∈ evs.tail, storeTag x = none) (he : storeTag e = some n)
    (hw : e.isWait = false) :
    Spec.noWaits evs ≠ [] ∧ storeLog evs = [n] ∧
    st'.visits = (fun m => if m = n then st.visits m + 1 else st.visits m) := by
  cases h
  obtain ⟨hh, ht⟩ := hr
  cases hl : r.1 with
  | nil => rw [hl] at hh; cases hh
  | cons x t =>
    rw [hl] at hh ht
    cases hh
    refine ⟨by simp [Spec.noWaits, hw], ?_, by simp [RunSt.bumpIf, RunSt.bump]⟩
    rw [storeLog_eq, List.filterMap_cons_some he, (List.filterMap_eq_nil_iff (l := t)).mpr ht]

theorem flat_visit_facts {env : Env} {n st evs st' out} (hb : Big env 0 (.node n) st evs st' out)
    (hf : FlatNode env n) (hc : st.ctx = .live) :
    (Spec.noWaits evs ≠ [] ∧ storeLog evs = [n] ∧
      st'.visits = (fun m => if m = n then st.visits m + 1 else st.visits m)) ∧
    (∀ e ∈ evs, Spec.evKey e = (n, st.visits n)) ∧
    Spec.visitAction env n (st.visits n) = actOf out := by
  have hnf : ∀ s ops, env.arena n ≠ .flow s ops := by
    intro s ops h
    rcases hf with ⟨cfg, h', _⟩ | ⟨cfg, h'⟩ <;> (rw [h] at h'; cases h')
  have hkeys := big_own_events hb hnf
  cases hb with
  | flowDone hA | flowNoStart hA | flowOk hA | flowFail hA => exact absurd hA (hnf _ _)
  | @leaf _ cfg _ _ _ _ hA h =>
    have hp : cfg.prepS ≠ .absent := by
      rcases hf with ⟨cfg', h', hp⟩ | ⟨cfg', h'⟩ <;> rw [hA] at h' <;> cases h'
      exact hp
    have hr := leafStep_ctx h
    rw [hc] at hr
    refine ⟨head_visit h (leaf_head hr hp) rfl rfl, hkeys, ?_⟩
    simp only [Spec.visitAction, hA, hr]
    cases out <;> rfl
  | batch hA h =>
    have hr := batchStep_ctx h
    rw [hc] at hr
    refine ⟨head_visit h (batch_head hr) rfl rfl, hkeys, ?_⟩
    simp only [Spec.visitAction, hA, hr]
    cases out <;> rfl

theorem next_some_mem {ops : List ConnOp} {n a nxt} (h : next ops n a = some (some nxt)) :
    nxt ∈ ops.filterMap (·.dst) := by
  unfold next at h
  cases hf : ops.reverse.find? (fun o => o.src = n ∧ o.action = a) with
  | none => rw [hf] at h; cases h
  | some o =>
    rw [hf] at h
    simp only [Option.map_some, Option.some.injEq] at h
    have := List.mem_of_find?_eq_some hf
    rw [List.mem_filterMap]
    exact ⟨o, by simpa using this, h⟩

def vkey (v : Visit) : NodeId × Nat := (v.node, v.pre.visits v.node)

/-- a path through flat nodes that ends on a live context is the reference path `Spec.specPath` (for every fuel that is
    at least its length), and the trace shows it: one group of events and one store-log entry per visit -/
theorem spec_of_isPath {env : Env} {ops : List ConnOp} (hflat : ∀ n ∈ ops.filterMap (·.dst), FlatNode env n) :
    ∀ (vs : List Visit) (cur : NodeId) (st st' : RunSt) (out : Outcome), IsPath ops cur st vs st' out →
      FlatNode env cur → st'.ctx = .live →
      (∀ v ∈ vs, Big env 0 (.node v.node) v.pre v.evs v.post v.out) →
      (∀ F, vs.length ≤ F → Spec.specPath env ops F cur st.visits = (vs.map vkey, actOf out)) ∧
      Spec.visitSeq (vs.flatMap (·.evs)) = vs.map vkey ∧
      storeLog (vs.flatMap (·.evs)) = vs.map (·.node) ∧
      (∀ v ∈ vs, FlatNode env v.node) ∧
      (vs.map vkey).head? = some (cur, st.visits cur) := by
  intro vs
  induction vs with
  | nil => intro cur st st' out hp _ hfin; exact absurd rfl (hp.ne_nil hfin)
  | cons v vs ih =>
    intro cur st st' out hp hcur hfin hg
    obtain ⟨hn, hpre, hc, hcase⟩ := hp.cons_inv
    have hbv := hg v (by simp)
    rw [hn, hpre] at hbv
    obtain ⟨⟨hne1, hsl, hvis⟩, hk1, hact⟩ := flat_visit_facts hbv hcur hc
    have hkey : vkey v = (cur, st.visits cur) := by simp [vkey, hn, hpre]
    have hblock : ∀ e ∈ Spec.noWaits v.evs, Spec.evKey e = (cur, st.visits cur) :=
      fun e he => hk1 e (mem_noWaits.mp he).1
    have hnode : ∀ u ∈ v :: vs, (∀ u ∈ vs, FlatNode env u.node) → FlatNode env u.node := by
      intro u hu hvs
      rcases List.mem_cons.mp hu with rfl | hu
      · rw [hn]; exact hcur
      · exact hvs u hu
    rcases hcase with ⟨a, nxt, ho, hx, hrest⟩ | ⟨rfl, _, hout, hstop⟩
    · obtain ⟨i1, i2, i3, i4, i5⟩ :=
        ih nxt v.post st' out hrest (hflat nxt (next_some_mem hx)) hfin (fun u hu => hg u (by simp [hu]))
      -- the next group of events has another key: if it is of the same node, its visit number is one more
      have hhead : ∀ k2 g r, Spec.segments (Spec.noWaits (vs.flatMap (·.evs))) = (k2, g) :: r →
          k2 ≠ (cur, st.visits cur) := by
        intro k2 g r hs hk
        rw [Spec.visitSeq, hs, List.map_cons] at i2
        rw [← i2, List.head?_cons, hk, hvis] at i5
        simp only [Option.some.injEq, Prod.mk.injEq] at i5
        obtain ⟨rfl, h2⟩ := i5
        simp at h2
      refine ⟨fun F hF => ?_, ?_, ?_, fun u hu => hnode u hu i4, by simp [hkey]⟩
      · cases F with
        | zero => simp at hF
        | succ F =>
          simp only [Spec.specPath, hact, ho, actOf_ok, hx, List.map_cons, hkey]
          rw [← hvis, i1 F (by simpa using hF)]
      · rw [Spec.visitSeq] at i2 ⊢
        rw [List.flatMap_cons, noWaits_append, segments_block_append hne1 hblock hhead, List.map_cons, i2,
          List.map_cons, hkey]
      · simp only [List.flatMap_cons, storeLog_append, hsl, i3, List.map_cons, hn]
        rfl
    · refine ⟨fun F hF => ?_, ?_, by simp [hsl, hn], fun u hu => hnode u hu (by simp), by simp [hkey]⟩
      · cases F with
        | zero => simp at hF
        | succ F =>
          simp only [Spec.specPath, hact, List.map_cons, List.map_nil, hkey, hout]
          cases ho : v.out with
          | ok a =>
            simp only [actOf]
            split
            · next nxt hx => exact absurd hx (hstop a ho nxt)
            · rfl
          | _ => rfl
      · simp [Spec.visitSeq, segments_block hne1 hblock, hkey]

theorem flatNode_of_isFlat {env : Env} {ops : List ConnOp} {s : NodeId}
    (hprep : ∀ n cfg, env.arena n = .leaf cfg → cfg.prepS ≠ .absent)
    (hflat : Spec.isFlatFlow env ops s = true) :
    FlatNode env s ∧ ∀ n ∈ ops.filterMap (·.dst), FlatNode env n := by
  unfold Spec.isFlatFlow at hflat
  rw [List.all_eq_true] at hflat
  have key : ∀ n, n ∈ s :: (ops.map (·.src) ++ ops.filterMap (·.dst)) → FlatNode env n := by
    intro n hn
    have := hflat n hn
    cases hA : env.arena n with
    | leaf cfg => exact .inl ⟨cfg, hA, hprep n cfg hA⟩
    | batch cfg => exact .inr ⟨cfg, hA⟩
    | flow st o => rw [hA] at this; simp at this
  exact ⟨key s (by simp), fun n hn => key n (by simp [hn])⟩

/-- a run of a flat flow from its start node `s`, without cancellation, cut into its visits `vs`: fewer than the fuel,
    `r` the outcome of the flow's loop -/
theorem flat_run_visits {env : Env} {fuel : Nat} {root : NodeId} {st : RunSt} {evs st' out s ops}
    (hprep : ∀ n cfg, env.arena n = .leaf cfg → cfg.prepS ≠ .absent)
    (hlive : st.ctx = .live) (h : runNode env fuel root 0 st = (evs, st', out)) (hfuel : out ≠ .fuel)
    (hnc : ∀ e ∈ evs, cancelsAt env e = false)
    (hA : env.arena root = .flow (some s) ops) (hflat : Spec.isFlatFlow env ops s = true) :
    ∃ (vs : List Visit) (r : Outcome), vs.length < fuel ∧ out = presentOut r ∧
      (∀ F, vs.length ≤ F → Spec.specPath env ops F s st.visits = (vs.map vkey, actOf r)) ∧
      Spec.visitSeq evs = vs.map vkey ∧ storeLog evs = vs.map (·.node) ∧ ∀ v ∈ vs, FlatNode env v.node := by
  obtain ⟨hs, hdst⟩ := flatNode_of_isFlat hprep hflat
  have hfin : st'.ctx = .live := (big_track (big_of_runNode h hfuel)).quiet hlive hnc
  obtain ⟨vs, r, hlen, hp, rfl, hg, hout⟩ := path_of_runFlow hA hlive h hfuel
  obtain ⟨j1, j2, j3, j4, _⟩ := spec_of_isPath hdst vs s st st' r hp hs hfin hg
  exact ⟨vs, r, hlen, hout, j1, j2, j3, j4⟩

/-- **C03 as the driver evaluates it** (`Spec.c03`: flat flow, no cancellation, store 0) on the model's own
    observation. -/
theorem spec_c03_of_run (env : Env) (fuel : Nat) (root : NodeId) (st : RunSt) {evs st' out}
    (hprep : ∀ n cfg, env.arena n = .leaf cfg → cfg.prepS ≠ .absent)
    (hlive : st.ctx = .live) (h : runNode env fuel root 0 st = (evs, st', out)) (hfuel : out ≠ .fuel)
    (hnc : ∀ e ∈ evs, cancelsAt env e = false) :
    Spec.c03 env root st.visits fuel ⟨Spec.noWaits evs, out, storeLog evs⟩ = true := by
  unfold Spec.c03
  cases hA : env.arena root with
  | leaf cfg => rfl
  | batch cfg => rfl
  | flow start ops =>
    cases start with
    | none => rfl
    | some s =>
      simp only
      split
      · next hflat =>
        have hpr := big_proper (big_of_runNode h hfuel)
        obtain ⟨vs, r, hlen, rfl, hpath, hseq, hstore, hfn⟩ := flat_run_visits hprep hlive h hfuel hnc hA hflat
        have hnodes : (vs.map vkey).map (·.1) = vs.map (·.node) := by
          rw [List.map_map]; rfl
        simp only [hpath fuel (Nat.le_of_lt hlen), visitSeq_noWaits, hseq, hstore]
        -- every visited node of a flat flow writes the store log
        rw [List.filter_eq_self.mpr (by
          intro x hx
          obtain ⟨v, hv, rfl⟩ := List.mem_map.mp hx
          rcases hfn v hv with ⟨cfg, hc, hp'⟩ | ⟨cfg, hc⟩
          · simp [vkey, hc, hp']
          · simp [vkey, hc]), hnodes]
        cases r with
        | ok a => simp [actOf, presentOut]
        | err e => simp [actOf, presentOut]
        | both a e => simp [presentOut, Outcome.Proper] at hpr
        | fuel => exact absurd rfl hfuel
      · rfl

end Flyt.Proofs
