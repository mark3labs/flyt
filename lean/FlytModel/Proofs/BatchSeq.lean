import FlytModel.Model.Batch
import FlytModel.Proofs.Attempts
/-!
# Sequential / serial batch execution: lemmas by induction over the item list

Helper lemmas for `Props/C06.lean`, `C07.lean`, `C09.lean`, `C11.lean` about `runItem`, `itemsSeq`,
`itemsSerialPool` and `runBatch` (Model/Batch.lean). Nothing here is bounded: all statements hold for
every item list, index offset, configuration, script and context.
-/
namespace Flyt.Bridge

/-- after every element satisfying `cancels`, no element satisfying `bad` follows -/
def QAfter {α : Type} (cancels bad : α → Bool) : List α → Prop
  | [] => True
  | e :: t => (cancels e = true → ∀ x ∈ t, bad x = false) ∧ QAfter cancels bad t

theorem qafter_single {α : Type} (a b : α → Bool) (e : α) : QAfter a b [e] :=
  ⟨fun _ x hx => by simp at hx, trivial⟩

theorem qafter_append {α : Type} (cancels bad : α → Bool) (a b : List α) :
    QAfter cancels bad (a ++ b) ↔
      QAfter cancels bad a ∧ QAfter cancels bad b ∧ ((∃ e ∈ a, cancels e = true) → ∀ x ∈ b, bad x = false) := by
  induction a with
  | nil => simp [QAfter]
  | cons e t ih =>
    -- both sides become the same five facts, in a different order
    simp only [List.cons_append, QAfter, ih, List.mem_append, List.mem_cons, or_and_right, exists_or, exists_eq_left, or_imp,
      forall_and]
    constructor
    · rintro ⟨⟨h1, h2⟩, h3, h4, h5⟩
      exact ⟨⟨h1, h3⟩, h4, h2, h5⟩
    · rintro ⟨⟨h1, h3⟩, h4, h2, h5⟩
      exact ⟨⟨h1, h2⟩, h3, h4, h5⟩

theorem qafter_split {α : Type} {cancels bad : α → Bool} {pre post : List α} {e : α}
    (h : QAfter cancels bad (pre ++ e :: post)) (hc : cancels e = true) : ∀ x ∈ post, bad x = false :=
  ((qafter_append cancels bad pre (e :: post)).1 h).2.1.1 hc

theorem qafter_snoc {α : Type} {cancels bad : α → Bool} {l : List α} (h : QAfter cancels bad l) {e : α} (he : bad e = false) :
    QAfter cancels bad (l ++ [e]) :=
  (qafter_append cancels bad l [e]).2 ⟨h, qafter_single _ _ _, fun _ x hx => by rw [List.mem_singleton.1 hx]; exact he⟩

end Flyt.Bridge

namespace Flyt.BatchSeq
open Flyt

/-- the item index a per-item batch event belongs to -/
def evItem : Ev → Option Nat
  | .bexec _ _ i _ _ => some i
  | .bwait _ _ i _ _ _ => some i
  | .bfb _ _ i _ _ => some i
  | _ => none

def isBexec : Ev → Bool | .bexec .. => true | _ => false
def isBwait : Ev → Bool | .bwait .. => true | _ => false
def isBfb : Ev → Bool | .bfb .. => true | _ => false
def isBpost : Ev → Bool | .bpost .. => true | _ => false

def itemEvents (j : Nat) (evs : List Ev) : List Ev := evs.filter (fun e => evItem e == some j)

/-- what `runBatch*` writes into the slot for an item whose processing returned `r` -/
def slotOfRes : ItemRes → Result
  | .slot r => r
  | .error e => newErrorResult e

@[simp] theorem slotOfRes_slot (r : Result) : slotOfRes (.slot r) = r := rfl
@[simp] theorem slotOfRes_error (e : ErrRoot) : slotOfRes (.error e) = newErrorResult e := rfl

/-- the marker a never-processed item gets -/
def isMarker (stop : Bool) (r : Result) : Prop :=
  (r = newErrorResult (.fw .batchStopped) ∧ stop = true) ∨ r = newErrorResult (.fw .batchCancelled)

theorem isMarker_isError {stop : Bool} {r : Result} (h : isMarker stop r) : r.isError = true := by
  rcases h with ⟨h, _⟩ | h <;> subst h <;> rfl

@[simp] theorem itemEvents_nil (j : Nat) : itemEvents j [] = [] := rfl
@[simp] theorem itemEvents_append (j : Nat) (a b : List Ev) :
    itemEvents j (a ++ b) = itemEvents j a ++ itemEvents j b := by simp [itemEvents]

theorem itemEvents_eq_self {j : Nat} {evs : List Ev} (h : ∀ e ∈ evs, evItem e = some j) :
    itemEvents j evs = evs := by
  simp only [itemEvents, List.filter_eq_self]
  intro e he; simp [h e he]

theorem itemEvents_eq_nil {j : Nat} {evs : List Ev} (h : ∀ e ∈ evs, evItem e ≠ some j) :
    itemEvents j evs = [] := by
  simp only [itemEvents, List.filter_eq_nil_iff]
  intro e he; simpa using h e he

section attempts
variable (kind : CtxKind) (mkExec : Nat → Ev) (mkWait : Nat → Bool → Ev)
  (exec : Nat → Out Val) (wc : Nat → Bool) (execS : Style) (wait : Nat)

export Flyt.Proofs (wev mem_wev attempts_waitCancel attempts_absent attempts_ok attempts_err fallbackPhase_events)

theorem attempts_done (k rem : Nat) (last : Option Nat) (kd : CtxKind) :
    attempts kind mkExec mkWait exec wc execS wait k (rem + 1) last (.done kd) = ([], .done kd, .cancelled kd) :=
  rfl

theorem attempts_events (k rem : Nat) (last : Option Nat) (ctx : Ctx) :
    ∀ e ∈ (attempts kind mkExec mkWait exec wc execS wait k rem last ctx).1,
      (∃ k', e = mkExec k') ∨ (∃ k' f, e = mkWait k' f) := fun e he =>
  (Proofs.attempts_mem k rem last ctx e he).imp (fun ⟨j, _, _, h, _⟩ => ⟨j, h⟩) (fun ⟨j, b, _, _, h⟩ => ⟨j, b, h⟩)

end attempts

section item
variable (kind : CtxKind) (n : NodeId) (v : Nat) (cfg : BatchCfg)

/-- context and result of the retry loop followed by the fallback do not depend on how events are rendered, nor does
    the number of events -/
theorem phase_indep (fb : FbKind) (mkExec mkExec' : Nat → Ev) (mkWait mkWait' : Nat → Bool → Ev) (mkFb mkFb' : Nat → Ev)
    (exec : Nat → Out Val) (wc : Nat → Bool) (execS : Style) (wait : Nat) (fbOut : Out Val) (k rem : Nat) (last : Option Nat)
    (ctx : Ctx) :
    let a := attempts kind mkExec mkWait exec wc execS wait k rem last ctx
    let a' := attempts kind mkExec' mkWait' exec wc execS wait k rem last ctx
    let f := fallbackPhase kind fb mkFb fbOut a.2.1 a.2.2
    let f' := fallbackPhase kind fb mkFb' fbOut a'.2.1 a'.2.2
    f.2 = f'.2 ∧ (a.1 ++ f.1).length = (a'.1 ++ f'.1).length := by
  have hwl : ∀ k, (wev mkWait wait k).length = (wev mkWait' wait k).length := fun k => by unfold wev; split <;> rfl
  have hf : ∀ c r, (fallbackPhase kind fb mkFb fbOut c r).2 = (fallbackPhase kind fb mkFb' fbOut c r).2 ∧
      (fallbackPhase kind fb mkFb fbOut c r).1.length = (fallbackPhase kind fb mkFb' fbOut c r).1.length := fun c r => by
    unfold fallbackPhase
    cases r with
    | failed e' =>
      cases fb with
      | custom => simp only []; cases fbOut.res <;> exact ⟨rfl, rfl⟩
      | _ => exact ⟨rfl, rfl⟩
    | _ => exact ⟨rfl, rfl⟩
  induction k, rem, last, ctx using Proofs.attempts_induct kind mkExec mkWait exec wc execS wait with
  | zero | done => exact hf _ _
  | cut k _ _ h => simp [attempts_waitCancel _ _ _ _ _ _ _ _ _ _ h, hf]
  | absent k _ _ h hs => simp [attempts_absent _ _ _ _ _ _ _ _ _ _ h hs, hwl, hf]
  | ok k _ _ _ h hs hr => simp [attempts_ok _ _ _ _ _ _ _ _ _ _ h hs hr, hwl, hf]
  | err k _ _ _ _ h hs hr ht ih =>
    subst ht
    simp only [attempts_err _ _ _ _ _ _ _ _ _ _ h hs hr, List.length_append, List.length_singleton, hwl] at ih ⊢
    exact ⟨ih.1, by omega⟩

theorem runItem_eq (i : Nat) (item : Result) (scr : ItemScript) (ctx : Ctx) :
    runItem kind n v cfg i item scr ctx =
      (let a := attempts kind (fun k => .bexec n v i k (execArg cfg.execS item.box)) (fun k f => .bwait n v i k cfg.wait f)
          scr.exec scr.waitCancel cfg.execS cfg.wait 0 cfg.budget none ctx
       let f := fallbackPhase kind cfg.fb (fun e => .bfb n v i item.box (.user e)) scr.fb a.2.1 a.2.2
       (a.1 ++ f.1, f.2.1, match f.2.2 with | .ok x => .slot (slotOfVal x) | .error e => .error e)) := by
  unfold runItem
  simp only []
  split <;> rename_i h <;> simp only [h]

theorem runItem_evItem (i : Nat) (item : Result) (scr : ItemScript) (ctx : Ctx) :
    ∀ e ∈ (runItem kind n v cfg i item scr ctx).1, evItem e = some i := by
  intro e he
  rw [runItem_eq] at he
  rcases List.mem_append.1 he with he | he
  · rcases attempts_events _ _ _ _ _ _ _ _ _ _ _ e he with ⟨k, rfl⟩ | ⟨k, f, rfl⟩ <;> rfl
  · obtain ⟨e', rfl⟩ := fallbackPhase_events _ _ _ _ _ _ e he
    rfl

/-- the outcome (context afterwards, result) of an item's processing depends only on the configuration,
    the item's own script and the context at entry – not on node, visit, index or payload -/
theorem runItem_snd_indep (n' : NodeId) (v' : Nat) (i i' : Nat) (item item' : Result) (scr : ItemScript) (ctx : Ctx) :
    (runItem kind n v cfg i item scr ctx).2 = (runItem kind n' v' cfg i' item' scr ctx).2 := by
  rw [runItem_eq, runItem_eq]
  simp only []
  rw [(phase_indep kind cfg.fb _ (fun k => .bexec n' v' i' k (execArg cfg.execS item'.box)) _ (fun k f => .bwait n' v' i' k cfg.wait f)
    _ (fun e => .bfb n' v' i' item'.box (.user e)) _ _ _ _ _ _ _ _ _).1]

theorem runItem_done (hb : 0 < cfg.budget) (i : Nat) (item : Result) (scr : ItemScript) (kd : CtxKind) :
    runItem kind n v cfg i item scr (.done kd) = ([], .done kd, .error (.ctx kd)) := by
  rw [runItem_eq]
  obtain ⟨b, hb'⟩ := Nat.exists_eq_add_one_of_ne_zero (Nat.ne_of_gt hb)
  simp [hb', attempts_done, fallbackPhase]

theorem runItem_live_first (hb : 0 < cfg.budget) (hex : cfg.execS ≠ .absent) (i : Nat) (item : Result) (scr : ItemScript) :
    ∃ t, (runItem kind n v cfg i item scr .live).1 = .bexec n v i 0 (execArg cfg.execS item.box) :: t := by
  rw [runItem_eq]
  obtain ⟨b, hb'⟩ := Nat.exists_eq_add_one_of_ne_zero (Nat.ne_of_gt hb)
  simp only [hb', Proofs.attempts_live_succ _ _ _ _ _ _ _ hex, wev, gt_iff_lt, Nat.lt_irrefl, false_and, if_false]
  cases (scr.exec 0).res <;> simp

theorem runItem_no_events_isError (hb : 0 < cfg.budget) (hex : cfg.execS ≠ .absent) (i : Nat) (item : Result)
    (scr : ItemScript) (ctx : Ctx) (h : (runItem kind n v cfg i item scr ctx).1 = []) :
    (slotOfRes (runItem kind n v cfg i item scr ctx).2.2).isError = true := by
  cases ctx with
  | live =>
    obtain ⟨t, ht⟩ := runItem_live_first kind n v cfg hb hex i item scr
    rw [ht] at h; simp at h
  | done kd => rw [runItem_done kind n v cfg hb]; rfl

/-- the single-node counterpart of a batch item: a retryable leaf node with the batch's retry budget, wait,
    fallback and exec style, no prep and no post function -/
def leafOf : LeafCfg :=
  { retryable := true, budget := cfg.budget, wait := cfg.wait, fb := cfg.fb, prepS := .absent, execS := cfg.execS,
    postS := .absent }

def leafScriptOf (s : ItemScript) : LeafScript :=
  { prep := { res := .ok Val.nil }, exec := s.exec, waitCancel := s.waitCancel, fb := s.fb, post := { res := .ok "" } }

/-- **An item gets exactly the retry / fallback treatment of a single node run** (`flyt.Run`): same context
    afterwards, same number of callback events (attempts, waits, fallback), and it fails with the same error /
    succeeds exactly when the node run does. -/
theorem runItem_like_runLeaf (i : Nat) (item : Result) (s : ItemScript) (sid : StoreId) :
    (runLeaf kind n v sid (leafOf cfg) (leafScriptOf s) .live).2.1 = (runItem kind n v cfg i item s .live).2.1 ∧
    (runLeaf kind n v sid (leafOf cfg) (leafScriptOf s) .live).1.length = (runItem kind n v cfg i item s .live).1.length ∧
    (runLeaf kind n v sid (leafOf cfg) (leafScriptOf s) .live).2.2 =
      (match (runItem kind n v cfg i item s .live).2.2 with
       | .slot _ => .ok defaultAction
       | .error e => .err e) := by
  rw [runItem_eq]
  obtain ⟨h1, h2⟩ := phase_indep kind cfg.fb (fun k => .exec n v k (execArg cfg.execS Val.nil))
    (fun k => .bexec n v i k (execArg cfg.execS item.box)) (fun k f => .wait n v k cfg.wait f) (fun k f => .bwait n v i k cfg.wait f)
    (fun e => .fb n v Val.nil (.user e)) (fun e => .bfb n v i item.box (.user e)) s.exec s.waitCancel cfg.execS cfg.wait s.fb
    0 cfg.budget none .live
  simp only [runLeaf, leafOf, leafScriptOf, LeafCfg.effBudget, LeafCfg.effWait, if_true, List.nil_append] at h1 h2 ⊢
  simp only [h1]
  split <;> rename_i h <;> simp [h2, h]

end item

section seq
variable (kind : CtxKind) (n : NodeId) (v : Nat) (cfg : BatchCfg) (scr : BatchScript)

abbrev cancelledSlot : Result := newErrorResult (.fw .batchCancelled)
abbrev stoppedSlot : Result := newErrorResult (.fw .batchStopped)

@[simp] theorem itemsSeq_nil (i : Nat) (ctx : Ctx) : itemsSeq kind n v cfg scr [] i ctx = ([], ctx, []) := by
  simp [itemsSeq]

theorem itemsSeq_done (items : List Result) (i : Nat) (kd : CtxKind) :
    itemsSeq kind n v cfg scr items i (.done kd) = ([], .done kd, items.map (fun _ => cancelledSlot)) := by
  induction items generalizing i with
  | nil => simp
  | cons it rest ih => cases hs : cfg.stop <;> simp [itemsSeq, ih]

theorem itemsSeq_live_cont (it : Result) (rest : List Result) (i : Nat)
    (h : cfg.stop = true → ∃ s, (runItem kind n v cfg i it (scr.item i) .live).2.2 = .slot s) :
    itemsSeq kind n v cfg scr (it :: rest) i .live =
      (let r := runItem kind n v cfg i it (scr.item i) .live
       let t := itemsSeq kind n v cfg scr rest (i + 1) r.2.1
       (r.1 ++ t.1, t.2.1, slotOfRes r.2.2 :: t.2.2)) := by
  rw [itemsSeq]
  generalize runItem kind n v cfg i it (scr.item i) .live = r at h
  obtain ⟨a, b, c⟩ := r
  cases c with
  | slot s => rfl
  | error e =>
    cases hs : cfg.stop with
    | false => simp
    | true => obtain ⟨s, hs'⟩ := h hs; cases hs'

theorem itemsSeq_live_stop (hs : cfg.stop = true) (it : Result) (rest : List Result) (i : Nat) {e : ErrRoot}
    (h : (runItem kind n v cfg i it (scr.item i) .live).2.2 = .error e) :
    itemsSeq kind n v cfg scr (it :: rest) i .live =
      (let r := runItem kind n v cfg i it (scr.item i) .live
       (r.1, r.2.1, newErrorResult e :: rest.map (fun _ => stoppedSlot))) := by
  rw [itemsSeq]
  generalize runItem kind n v cfg i it (scr.item i) .live = r at h
  obtain ⟨a, b, c⟩ := r
  simp only [] at h; subst h; simp [hs]

/-- Induction over the sequential item loop: one case per way `runBatchSequential` treats an item. `r` is the processing
    of the item at hand, `t` the rest of the loop. -/
theorem itemsSeq_induct {P : List Result → Nat → Ctx → List Ev × Ctx × List Result → Prop}
    (nil : ∀ i ctx, P [] i ctx ([], ctx, []))
    (done : ∀ items i kd, P items i (.done kd) ([], .done kd, items.map (fun _ => cancelledSlot)))
    (cont : ∀ it rest i r t, r = runItem kind n v cfg i it (scr.item i) .live →
      (cfg.stop = true → ∃ s, r.2.2 = .slot s) → t = itemsSeq kind n v cfg scr rest (i + 1) r.2.1 →
      P rest (i + 1) r.2.1 t → P (it :: rest) i .live (r.1 ++ t.1, t.2.1, slotOfRes r.2.2 :: t.2.2))
    (stop : cfg.stop = true → ∀ it rest i r e, r = runItem kind n v cfg i it (scr.item i) .live → r.2.2 = .error e →
      P (it :: rest) i .live (r.1, r.2.1, newErrorResult e :: rest.map (fun _ => stoppedSlot)))
    (items : List Result) (i : Nat) (ctx : Ctx) : P items i ctx (itemsSeq kind n v cfg scr items i ctx) := by
  induction items generalizing i ctx with
  | nil => simpa using nil i ctx
  | cons it rest ih =>
    cases ctx with
    | done kd => rw [itemsSeq_done]; exact done _ _ _
    | live =>
      by_cases h : cfg.stop = true → ∃ s, (runItem kind n v cfg i it (scr.item i) .live).2.2 = .slot s
      · rw [itemsSeq_live_cont _ _ _ _ _ _ _ _ h]; exact cont _ _ _ _ _ rfl h rfl (ih _ _)
      · obtain ⟨hs, hn⟩ := Classical.not_imp.1 h
        cases hr : (runItem kind n v cfg i it (scr.item i) .live).2.2 with
        | slot s => exact absurd ⟨s, hr⟩ hn
        | error e => rw [itemsSeq_live_stop _ _ _ _ _ hs _ _ _ hr]; exact stop hs _ _ _ _ _ rfl hr

theorem itemsSeq_length (items : List Result) (i : Nat) (ctx : Ctx) :
    (itemsSeq kind n v cfg scr items i ctx).2.2.length = items.length := by
  induction items, i, ctx using itemsSeq_induct kind n v cfg scr with
  | nil => rfl
  | cont _ _ _ _ _ _ _ _ ih => simp [ih]
  | done | stop => simp

theorem itemsSeq_evItem (items : List Result) (i : Nat) (ctx : Ctx) :
    ∀ e ∈ (itemsSeq kind n v cfg scr items i ctx).1, ∃ j, evItem e = some j ∧ i ≤ j ∧ j < i + items.length := by
  induction items, i, ctx using itemsSeq_induct kind n v cfg scr with
  | nil | done => simp
  | cont it rest i r t hr _ _ ih =>
    intro e he
    rcases List.mem_append.1 he with he | he
    · exact ⟨i, runItem_evItem _ _ _ _ _ _ _ _ e (hr ▸ he), by omega, by simp⟩
    · obtain ⟨j, h1, h2, h3⟩ := ih e he
      exact ⟨j, h1, by omega, by simp; omega⟩
  | stop _ it rest i r e' hr _ =>
    intro e he
    exact ⟨i, runItem_evItem _ _ _ _ _ _ _ _ e (hr ▸ he), by omega, by simp⟩

theorem itemEvents_runItem_self (i : Nat) (item : Result) (s : ItemScript) (ctx : Ctx) :
    itemEvents i (runItem kind n v cfg i item s ctx).1 = (runItem kind n v cfg i item s ctx).1 :=
  itemEvents_eq_self (runItem_evItem _ _ _ _ _ _ _ _)

theorem itemEvents_runItem_ne {i j : Nat} (h : j ≠ i) (item : Result) (s : ItemScript) (ctx : Ctx) :
    itemEvents j (runItem kind n v cfg i item s ctx).1 = [] :=
  itemEvents_eq_nil (fun e he => by rw [runItem_evItem _ _ _ _ _ _ _ _ e he]; simpa using Ne.symm h)

theorem itemEvents_itemsSeq_lt {i j : Nat} (h : j < i) (items : List Result) (ctx : Ctx) :
    itemEvents j (itemsSeq kind n v cfg scr items i ctx).1 = [] :=
  itemEvents_eq_nil (fun e he => by
    obtain ⟨j', h1, h2, _⟩ := itemsSeq_evItem _ _ _ _ _ _ _ _ e he
    rw [h1]; simp; omega)

/-- What happened to the item at position `pos` (index `idx`, payload `it`) of a loop that produced events
    `evs` and slots `slots`: either it was processed — its events are exactly those of `runItem` on *its own*
    script (entered with a live context; any cancellation that cuts it comes from its own callbacks / its own
    retry wait), and its slot is that processing's outcome — or it was never processed: no event carries its
    index and its slot is an error marker ("batch stopped", only in stop mode, or "context cancelled"). -/
def Own (evs : List Ev) (slots : List Result) (pos idx : Nat) (it : Result) : Prop :=
  (itemEvents idx evs = (runItem kind n v cfg idx it (scr.item idx) .live).1 ∧
      slots[pos]? = some (slotOfRes (runItem kind n v cfg idx it (scr.item idx) .live).2.2))
  ∨ (itemEvents idx evs = [] ∧ ∃ r, slots[pos]? = some r ∧ isMarker cfg.stop r)

theorem itemsSeq_own (items : List Result) (i : Nat) (ctx : Ctx) :
    ∀ j (hj : j < items.length),
      Own kind n v cfg scr (itemsSeq kind n v cfg scr items i ctx).1 (itemsSeq kind n v cfg scr items i ctx).2.2
        j (i + j) items[j] := by
  induction items, i, ctx using itemsSeq_induct kind n v cfg scr with
  | nil => intro j hj; simp at hj
  | done items i kd => intro j hj; exact .inr ⟨rfl, cancelledSlot, by simp [hj], .inr rfl⟩
  | cont it rest i r t hr _ ht ih =>
    intro j hj
    subst hr ht
    cases j with
    | zero =>
      refine .inl ⟨?_, rfl⟩
      rw [Nat.add_zero, itemEvents_append, itemEvents_runItem_self, itemEvents_itemsSeq_lt _ _ _ _ _ (by omega), List.append_nil]
      rfl
    | succ j =>
      rw [show i + (j + 1) = i + 1 + j by omega]
      simpa only [Own, itemEvents_append, itemEvents_runItem_ne _ _ _ _ (show i + 1 + j ≠ i by omega), List.nil_append,
        List.getElem_cons_succ, List.getElem?_cons_succ] using ih j (Nat.lt_of_succ_lt_succ hj)
  | stop hs it rest i r e hr he =>
    intro j hj
    subst hr
    cases j with
    | zero => exact .inl ⟨itemEvents_runItem_self kind n v cfg i it _ _, by simp [he]⟩
    | succ j =>
      exact .inr ⟨itemEvents_runItem_ne _ _ _ _ (by omega) _ _ _, stoppedSlot, by simp [Nat.lt_of_succ_lt_succ hj], .inl ⟨rfl, hs⟩⟩

theorem itemsSerialPool_eq (items : List Result) (i : Nat) (stopped : Bool) (ctx : Ctx) :
    itemsSerialPool kind n v cfg scr items i stopped ctx =
      if stopped = true ∧ cfg.stop = true then ([], ctx, items.map (fun _ => stoppedSlot))
      else itemsSeq kind n v cfg scr items i ctx := by
  induction items generalizing i stopped ctx with
  | nil => simp [itemsSerialPool]
  | cons it rest ih =>
    rw [itemsSerialPool.eq_def]
    simp only [ih]
    by_cases hc : stopped = true ∧ cfg.stop = true
    · simp [hc]
    · simp only [if_neg hc]
      cases ctx with
      | done kd => simp [itemsSeq_done]
      | live =>
        rw [itemsSeq]
        generalize runItem kind n v cfg i it (scr.item i) .live = r
        obtain ⟨a, b, c⟩ := r
        cases c with
        | slot s => simp
        | error e => cases hs : cfg.stop <;> simp [hs] at hc ⊢

theorem itemsSerialPool_eq_seq (items : List Result) (i : Nat) (ctx : Ctx) :
    itemsSerialPool kind n v cfg scr items i false ctx = itemsSeq kind n v cfg scr items i ctx := by
  rw [itemsSerialPool_eq]; simp

/-- the item's script never cancels the run's context (no `cancel()` from inside a callback, no
    asynchronous cancellation during a retry wait) -/
def Quiet (s : ItemScript) : Prop :=
  (∀ k, (s.exec k).cancels = false) ∧ (∀ k, s.waitCancel k = false) ∧ s.fb.cancels = false

theorem runItem_quiet {s : ItemScript} (hq : Quiet s) (i : Nat) (item : Result) :
    (runItem kind n v cfg i item s .live).2.1 = .live := by
  rw [runItem_eq]
  simp only []
  rw [(Proofs.attempts_noCancel hq.1 (.inr hq.2.1) 0 cfg.budget none _ rfl).1]
  unfold fallbackPhase
  split
  · rfl
  · rfl
  · split
    · rfl
    · rfl
    · simp only [hq.2.2, Ctx.after]
      split <;> rfl

/-- every item processed on its own, from a live context -/
def itemRuns (items : List Result) (i : Nat) : List (List Ev × Ctx × ItemRes) :=
  (items.zipIdx i).map fun p => runItem kind n v cfg p.2 p.1 (scr.item p.2) .live

@[simp] theorem itemRuns_nil (i : Nat) : itemRuns kind n v cfg scr [] i = [] := rfl
@[simp] theorem itemRuns_cons (it : Result) (rest : List Result) (i : Nat) :
    itemRuns kind n v cfg scr (it :: rest) i =
      runItem kind n v cfg i it (scr.item i) .live :: itemRuns kind n v cfg scr rest (i + 1) := by
  simp [itemRuns, List.zipIdx_cons]

theorem itemRuns_length (items : List Result) (i : Nat) : (itemRuns kind n v cfg scr items i).length = items.length := by
  simp [itemRuns]

theorem itemRuns_getElem? (items : List Result) (i j : Nat) :
    (itemRuns kind n v cfg scr items i)[j]? =
      items[j]?.map fun it => runItem kind n v cfg (i + j) it (scr.item (i + j)) .live := by
  simp [itemRuns, List.getElem?_map, List.getElem?_zipIdx]
  cases items[j]? <;> simp

theorem itemEvents_itemRuns_lt {i j : Nat} (h : j < i) (items : List Result) :
    itemEvents j ((itemRuns kind n v cfg scr items i).flatMap (·.1)) = [] := by
  induction items generalizing i with
  | nil => rfl
  | cons it rest ih =>
    rw [itemRuns_cons, List.flatMap_cons, itemEvents_append, itemEvents_runItem_ne _ _ _ _ (by omega), ih (by omega)]
    rfl

theorem itemEvents_itemRuns (items : List Result) (i j : Nat) :
    itemEvents (i + j) ((itemRuns kind n v cfg scr items i).flatMap (·.1)) =
      (((itemRuns kind n v cfg scr items i)[j]?).map (·.1)).getD [] := by
  induction items generalizing i j with
  | nil => simp
  | cons it rest ih =>
    simp only [itemRuns_cons, List.flatMap_cons, itemEvents_append]
    cases j with
    | zero =>
      simp only [Nat.add_zero, List.getElem?_cons_zero, Option.map_some, Option.getD_some]
      rw [itemEvents_runItem_self, itemEvents_itemRuns_lt _ _ _ _ _ (by omega), List.append_nil]
    | succ j =>
      rw [itemEvents_runItem_ne _ _ _ _ (by omega), List.nil_append, List.getElem?_cons_succ,
        show i + (j + 1) = i + 1 + j by omega]
      exact ih (i + 1) j

/-- **No item stops the batch, no cancellation — closed form.** The loop's events are the concatenation, in item
    order, of each item's own processing from a live context, and slot `j` is the outcome of item `j`'s own
    processing: nothing about item `j` depends on any other item. -/
theorem itemsSeq_noStop (hq : ∀ j, Quiet (scr.item j)) (items : List Result) (i : Nat)
    (hok : cfg.stop = true → ∀ j (hj : j < items.length),
      ∃ s, (runItem kind n v cfg (i + j) items[j] (scr.item (i + j)) .live).2.2 = .slot s) :
    itemsSeq kind n v cfg scr items i .live =
      ((itemRuns kind n v cfg scr items i).flatMap (·.1), .live,
       (itemRuns kind n v cfg scr items i).map (fun r => slotOfRes r.2.2)) := by
  induction items generalizing i with
  | nil => simp
  | cons it rest ih =>
    have hl := runItem_quiet kind n v cfg (hq i) i it
    rw [itemsSeq_live_cont kind n v cfg scr it rest i fun hs => hok hs 0 (Nat.zero_lt_succ _)]
    have ih' := ih (i + 1) fun hs j hj => Nat.succ_add_eq_add_succ i j ▸ hok hs (j + 1) (Nat.succ_lt_succ hj)
    simp only [hl, ih', itemRuns_cons, List.flatMap_cons, List.map_cons]

theorem itemsSeq_continue (hs : cfg.stop = false) (hq : ∀ j, Quiet (scr.item j)) (items : List Result) (i : Nat) :
    itemsSeq kind n v cfg scr items i .live =
      ((itemRuns kind n v cfg scr items i).flatMap (·.1), .live,
       (itemRuns kind n v cfg scr items i).map (fun r => slotOfRes r.2.2)) :=
  itemsSeq_noStop kind n v cfg scr hq items i fun h => by rw [hs] at h; cases h

/-- **No failing item, no cancellation — closed form in either mode.** -/
theorem itemsSeq_allOk (hq : ∀ j, Quiet (scr.item j)) (items : List Result) (i : Nat)
    (hok : ∀ j (hj : j < items.length), ∃ s, (runItem kind n v cfg (i + j) items[j] (scr.item (i + j)) .live).2.2 = .slot s) :
    itemsSeq kind n v cfg scr items i .live =
      ((itemRuns kind n v cfg scr items i).flatMap (·.1), .live,
       (itemRuns kind n v cfg scr items i).map (fun r => slotOfRes r.2.2)) :=
  itemsSeq_noStop kind n v cfg scr hq items i fun _ => hok

/-- **Stop mode, no cancellation — closed form.** If `f` is the first item whose processing returns an
    error, exactly the items `0..f` are processed (each on its own script), and every later slot holds the
    "batch stopped" error. -/
theorem itemsSeq_stop (hs : cfg.stop = true) (hq : ∀ j, Quiet (scr.item j)) (items : List Result) (i f : Nat)
    (hf : f < items.length)
    (hfail : ∃ e, (runItem kind n v cfg (i + f) items[f] (scr.item (i + f)) .live).2.2 = .error e)
    (hpre : ∀ j (hj : j < f), ∃ s, (runItem kind n v cfg (i + j) (items[j]'(by omega)) (scr.item (i + j)) .live).2.2 = .slot s) :
    itemsSeq kind n v cfg scr items i .live =
      ((itemRuns kind n v cfg scr (items.take (f + 1)) i).flatMap (·.1), .live,
       (itemRuns kind n v cfg scr (items.take (f + 1)) i).map (fun r => slotOfRes r.2.2)
         ++ List.replicate (items.length - (f + 1)) stoppedSlot) := by
  induction items generalizing i f with
  | nil => simp at hf
  | cons it rest ih =>
    have hl := runItem_quiet kind n v cfg (hq i) i it
    cases f with
    | zero =>
      obtain ⟨e, hr⟩ := hfail
      simp only [Nat.add_zero, List.getElem_cons_zero] at hr
      rw [itemsSeq_live_stop _ _ _ _ _ hs _ _ _ hr]
      simp [hl, hr, slotOfRes, List.map_const']
    | succ f =>
      rw [itemsSeq_live_cont kind n v cfg scr it rest i fun _ => hpre 0 (by omega)]
      have ih' := ih (i + 1) f (by simpa using hf) (Nat.succ_add_eq_add_succ i f ▸ hfail)
        (fun j hj => Nat.succ_add_eq_add_succ i j ▸ hpre (j + 1) (by omega))
      simp only [hl, ih', List.take_succ_cons, itemRuns_cons, List.flatMap_cons, List.map_cons,
        List.length_cons, List.cons_append, Nat.add_sub_add_right]

/-- Does this callback invocation cancel the run's context, according to the scripts? A retry wait that
    did not fire (`fired = false`) records an asynchronous cancellation arriving during the wait. -/
def evCancels : Ev → Bool
  | .bprep .. => scr.prep.cancels
  | .bexec _ _ i k _ => ((scr.item i).exec k).cancels
  | .bfb _ _ i _ _ => (scr.item i).fb.cancels
  | .bwait _ _ _ _ _ fired => !fired
  | .bpost .. => scr.post.cancels
  | _ => false

/-- a new exec attempt, or a retry wait leading to one -/
def isAttempt (e : Ev) : Bool := isBexec e || isBwait e

/-- after every cancelling event, no exec attempt and no retry wait follows -/
def QuietAfterCancel : List Ev → Prop
  | [] => True
  | e :: t => (evCancels scr e = true → ∀ x ∈ t, isAttempt x = false) ∧ QuietAfterCancel t

theorem quietAfterCancel_qafter (evs : List Ev) :
    QuietAfterCancel scr evs ↔ Bridge.QAfter (evCancels scr) isAttempt evs := by
  induction evs with
  | nil => exact Iff.rfl
  | cons e t ih => exact and_congr_right fun _ => ih

/-- A trace segment produced from context `ctx`, ending in context `ctx'`: (dead) on a finished context it
    contains no exec attempt and the context stays finished; (quiet) no attempt follows a cancelling event
    inside it; (kills) a cancelling event leaves the context finished. -/
structure Seg (ctx : Ctx) (evs : List Ev) (ctx' : Ctx) : Prop where
  dead : ctx.isDone = true → (∀ x ∈ evs, isAttempt x = false) ∧ ctx'.isDone = true
  quiet : QuietAfterCancel scr evs
  kills : (∃ e ∈ evs, evCancels scr e = true) → ctx'.isDone = true

theorem Seg.nil (ctx : Ctx) : Seg scr ctx [] ctx :=
  ⟨fun h => ⟨by simp, h⟩, trivial, by simp⟩

theorem Seg.append {c0 c1 c2 : Ctx} {a b : List Ev} (h1 : Seg scr c0 a c1) (h2 : Seg scr c1 b c2) :
    Seg scr c0 (a ++ b) c2 := by
  refine ⟨fun hd => ?_, ?_, ?_⟩
  · obtain ⟨ha, hc1⟩ := h1.dead hd
    obtain ⟨hb, hc2⟩ := h2.dead hc1
    exact ⟨fun x hx => (List.mem_append.1 hx).elim (ha x) (hb x), hc2⟩
  · rw [quietAfterCancel_qafter, Bridge.qafter_append]
    exact ⟨(quietAfterCancel_qafter scr a).1 h1.quiet, (quietAfterCancel_qafter scr b).1 h2.quiet,
      fun hc => (h2.dead (h1.kills hc)).1⟩
  · rintro ⟨e, he, hc⟩
    rcases List.mem_append.1 he with he | he
    · exact (h2.dead (h1.kills ⟨e, he, hc⟩)).2
    · exact h2.kills ⟨e, he, hc⟩

theorem after_isDone_of_done {c : Ctx} (h : c.isDone = true) (b : Bool) : (c.after kind b).isDone = true := by
  cases c <;> simp_all [Ctx.after, Ctx.isDone]

theorem Seg.callback (ctx : Ctx) (e : Ev) (hna : isAttempt e = false) :
    Seg scr ctx [e] (ctx.after kind (evCancels scr e)) := by
  refine ⟨fun hd => ⟨by simpa using hna, after_isDone_of_done kind hd _⟩, ⟨by simp, trivial⟩, ?_⟩
  rintro ⟨e', he', hc⟩
  simp only [List.mem_singleton] at he'; subst he'
  cases ctx <;> simp [Ctx.after, Ctx.isDone, hc]

theorem Seg.attempt (e : Ev) : Seg scr .live [e] (Ctx.live.after kind (evCancels scr e)) := by
  refine ⟨by simp [Ctx.isDone], ⟨by simp, trivial⟩, ?_⟩
  rintro ⟨e', he', hc⟩
  simp only [List.mem_singleton] at he'; subst he'
  simp [Ctx.after, Ctx.isDone, hc]

theorem attempts_seg (i : Nat) (arg : Val) (s : ItemScript) (hs : s = scr.item i) (k rem : Nat) (last : Option Nat) (ctx : Ctx) :
    Seg scr ctx
      (attempts kind (fun k => .bexec n v i k arg) (fun k f => .bwait n v i k cfg.wait f)
        s.exec s.waitCancel cfg.execS cfg.wait k rem last ctx).1
      (attempts kind (fun k => .bexec n v i k arg) (fun k f => .bwait n v i k cfg.wait f)
        s.exec s.waitCancel cfg.execS cfg.wait k rem last ctx).2.1 := by
  have hwev : ∀ k, Seg scr .live (wev (fun k f => Ev.bwait n v i k cfg.wait f) cfg.wait k) .live := by
    intro k
    unfold wev
    split
    · simpa [evCancels, Ctx.after] using Seg.attempt kind scr (.bwait n v i k cfg.wait true)
    · exact Seg.nil scr _
  have hex : ∀ k, Seg scr .live [Ev.bexec n v i k arg] (Ctx.live.after kind (s.exec k).cancels) := fun k => by
    simpa [evCancels, hs] using Seg.attempt kind scr (.bexec n v i k arg)
  induction k, rem, last, ctx using Proofs.attempts_induct kind (fun k => Ev.bexec n v i k arg)
    (fun k f => Ev.bwait n v i k cfg.wait f) s.exec s.waitCancel cfg.execS cfg.wait with
  | zero | done => exact Seg.nil scr _
  | cut k => simpa [evCancels, Ctx.after] using Seg.attempt kind scr (.bwait n v i k cfg.wait false)
  | absent k => exact hwev k
  | ok k => exact (hwev k).append scr (hex k)
  | err k _ _ _ _ _ _ _ _ ih => exact ((hwev k).append scr (hex k)).append scr ih

theorem fallbackPhase_seg (i : Nat) (arg : Val) (ctx : Ctx) (r : AttemptRes) :
    Seg scr ctx
      (fallbackPhase kind cfg.fb (fun e => .bfb n v i arg (.user e)) (scr.item i).fb ctx r).1
      (fallbackPhase kind cfg.fb (fun e => .bfb n v i arg (.user e)) (scr.item i).fb ctx r).2.1 := by
  unfold fallbackPhase
  cases r with
  | failed e =>
    cases cfg.fb with
    | custom => simp only []; cases (scr.item i).fb.res <;> exact Seg.callback kind scr ctx (.bfb n v i arg (.user e)) rfl
    | _ => exact Seg.nil scr ctx
  | _ => exact Seg.nil scr ctx

theorem runItem_seg (i : Nat) (item : Result) (ctx : Ctx) :
    Seg scr ctx (runItem kind n v cfg i item (scr.item i) ctx).1 (runItem kind n v cfg i item (scr.item i) ctx).2.1 := by
  rw [runItem_eq]
  exact (attempts_seg kind n v cfg scr i _ _ rfl _ _ _ _).append scr (fallbackPhase_seg kind n v cfg scr i _ _ _)

theorem itemsSeq_seg (items : List Result) (i : Nat) (ctx : Ctx) :
    Seg scr ctx (itemsSeq kind n v cfg scr items i ctx).1 (itemsSeq kind n v cfg scr items i ctx).2.1 := by
  induction items, i, ctx using itemsSeq_induct kind n v cfg scr with
  | nil | done => exact Seg.nil scr _
  | cont it rest i r t hr _ _ ih => subst hr; exact (runItem_seg kind n v cfg scr i it .live).append scr ih
  | stop _ it rest i r e hr _ => subst hr; exact runItem_seg kind n v cfg scr i it .live

/-- `runBatch` after a successful prep, in one equation for every concurrency setting (the concurrent path
    through its serial schedule), every item list (empty or not): prep event, the item loop, then — iff the
    node has a post function — exactly one post event carrying all items and all slots. -/
theorem runBatch_ok (sid : StoreId) (ctx : Ctx) {l : List Val} (hp : scr.prep.res = .ok l) :
    runBatch kind n v sid cfg scr ctx =
      (let items := normItems cfg.shape l
       let r := itemsSeq kind n v cfg scr items 0 (ctx.after kind scr.prep.cancels)
       if cfg.hasPost then
         (.bprep n v sid :: r.1 ++ [.bpost n v sid (items.map Result.box) (r.2.2.map Result.box)],
          r.2.1.after kind scr.post.cancels,
          match scr.post.res with | .error e => .err (.user e) | .ok a => .ok (norm a))
       else (.bprep n v sid :: r.1, r.2.1, .ok defaultAction)) := by
  unfold runBatch
  simp only [hp, itemsSerialPool_eq_seq, ite_self]
  cases normItems cfg.shape l <;> cases cfg.hasPost <;> cases scr.post.res <;> simp

theorem runBatch_seg (sid : StoreId) (ctx : Ctx) :
    Seg scr ctx (runBatch kind n v sid cfg scr ctx).1 (runBatch kind n v sid cfg scr ctx).2.1 := by
  have hprep := Seg.callback kind scr ctx (.bprep n v sid) rfl
  cases hp : scr.prep.res with
  | error e => unfold runBatch; simp only [hp]; exact hprep
  | ok l =>
    rw [runBatch_ok kind n v cfg scr sid ctx hp]
    have h1 := hprep.append scr (itemsSeq_seg kind n v cfg scr (normItems cfg.shape l) 0 (ctx.after kind scr.prep.cancels))
    cases cfg.hasPost with
    | false => simpa using h1
    | true =>
      simpa [evCancels] using h1.append scr (Seg.callback kind scr _ (.bpost n v sid ((normItems cfg.shape l).map Result.box)
        ((itemsSeq kind n v cfg scr (normItems cfg.shape l) 0 (ctx.after kind scr.prep.cancels)).2.2.map Result.box)) rfl)

end seq

end Flyt.BatchSeq

