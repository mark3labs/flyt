import FlytModel.Proofs.StoreHeap
import FlytModel.Spec.Store
/-!
# The value machine is a plain map: simulation with the function-level reference of `Spec/Store.lean`
-/
namespace Flyt.Store
open Flyt Flyt.Spec.Store

theorem mem_addDom (x k : Key) (d : List Key) : x ∈ addDom k d ↔ x = k ∨ x ∈ d := by
  unfold addDom
  split
  · rename_i h
    have hk : k ∈ d := List.contains_iff_mem.1 h
    constructor
    · exact Or.inr
    · rintro (e | e)
      · exact e ▸ hk
      · exact e
  · simp

theorem nodup_addDom (k : Key) {d : List Key} (h : d.Nodup) : (addDom k d).Nodup := by
  unfold addDom
  split
  · exact h
  · rename_i hk
    rw [List.nodup_cons]
    exact ⟨fun hm => hk (List.contains_iff_mem.2 hm), h⟩

theorem mem_foldr_addDom (x : Key) (g d : List Key) : x ∈ g.foldr addDom d ↔ x ∈ g ∨ x ∈ d := by
  induction g with
  | nil => simp
  | cons a t ih => simp only [List.foldr_cons, mem_addDom, ih, List.mem_cons, or_assoc]

theorem nodup_foldr_addDom (g : List Key) {d : List Key} (h : d.Nodup) : (g.foldr addDom d).Nodup := by
  induction g with
  | nil => exact h
  | cons a t ih => exact nodup_addDom a ih

/-- `dom` is duplicate-free and covers the support -/
structure WF (F : FMap) : Prop where
  nodup : F.dom.Nodup
  supp : ∀ k, (F.f k).isSome = true → k ∈ F.dom

theorem wf_empty : WF FMap.empty := ⟨by simp [FMap.empty], by simp [FMap.empty]⟩

theorem wf_set {F : FMap} (h : WF F) (k : Key) (v : Val) : WF (F.set k v) := by
  refine ⟨nodup_addDom k h.nodup, ?_⟩
  intro x hx
  simp only [FMap.set] at hx ⊢
  rw [mem_addDom]
  by_cases e : x = k
  · exact Or.inl e
  · rw [if_neg e] at hx; exact Or.inr (h.supp x hx)

theorem wf_del {F : FMap} (h : WF F) (k : Key) : WF (F.del k) := by
  refine ⟨h.nodup, ?_⟩
  intro x hx
  simp only [FMap.del] at hx ⊢
  by_cases e : x = k
  · rw [if_pos e] at hx; simp at hx
  · rw [if_neg e] at hx; exact h.supp x hx

theorem wf_merge {F G : FMap} (h : WF F) (g : WF G) : WF (F.merge G) := by
  refine ⟨nodup_foldr_addDom _ h.nodup, ?_⟩
  intro x hx
  simp only [FMap.merge] at hx ⊢
  rw [mem_foldr_addDom]
  cases e : G.f x with
  | none => rw [e] at hx; exact Or.inr (h.supp x hx)
  | some v => exact Or.inl (g.supp x (by simp [e]))

/-- the association list `m` and the function-level map `F` are the same map -/
structure Sim (m : KV) (F : FMap) : Prop where
  look : ∀ k, lookup k m = F.f k
  wf : WF F
  nd : NodupKeys m

theorem sim_empty : Sim [] FMap.empty := ⟨fun _ => rfl, wf_empty, nodupKeys_nil⟩

theorem sim_put {m : KV} {F : FMap} (h : Sim m F) (k : Key) (v : Val) : Sim (put m k v) (F.set k v) :=
  ⟨fun x => by simp only [lookup_put, FMap.set, h.look], wf_set h.wf k v, nodupKeys_put k v h.nd⟩

theorem sim_erase {m : KV} {F : FMap} (h : Sim m F) (k : Key) : Sim (erase k m) (F.del k) :=
  ⟨fun x => by simp only [lookup_erase, FMap.del, h.look], wf_del h.wf k, nodupKeys_erase k h.nd⟩

theorem sim_merge {m a : KV} {F G : FMap} (h : Sim m F) (g : Sim a G) : Sim (mergeInto m a) (F.merge G) :=
  ⟨fun x => by
      rw [lookup_mergeInto, h.look, g.look]; rfl,
    wf_merge h.wf g.wf, nodupKeys_mergeInto a h.nd⟩

theorem sim_ofList (l : KV) : Sim (mergeInto [] l) (FMap.ofList l) := by
  induction l with
  | nil => exact sim_empty
  | cons p t ih => obtain ⟨k, v⟩ := p; exact sim_put ih k v

theorem sim_copy {m : KV} {F : FMap} (h : Sim m F) : Sim (mergeInto [] m) F := by
  rw [mergeInto_nil_self h.nd]; exact h

theorem mem_support {F : FMap} (h : WF F) (k : Key) : k ∈ F.support ↔ (F.f k).isSome = true := by
  simp only [FMap.support, List.mem_filter]
  exact ⟨fun hk => hk.2, fun hk => ⟨h.supp k hk, hk⟩⟩

theorem sim_mem_iff {m : KV} {F : FMap} (h : Sim m F) (k : Key) : k ∈ keysOf m ↔ k ∈ F.support := by
  rw [mem_support h.wf, mem_keysOf_iff, h.look]

theorem nodup_support {F : FMap} (h : WF F) : F.support.Nodup :=
  List.Nodup.sublist List.filter_sublist h.nodup

/-- `Len` is the number of present keys -/
theorem sim_length {m : KV} {F : FMap} (h : Sim m F) : m.length = F.support.length := by
  rw [← length_keysOf]
  exact ((List.perm_ext_iff_of_nodup h.nd (nodup_support h.wf)).2 (sim_mem_iff h)).length_eq

theorem sim_keysOK {m : KV} {F : FMap} (h : Sim m F) : F.keysOK (keysOf m) = true := by
  simp only [FMap.keysOK, Bool.and_eq_true, decide_eq_true_eq, List.all_eq_true, beq_iff_eq,
    List.contains_iff_mem]
  refine ⟨⟨⟨h.nd, ?_⟩, ?_⟩, ?_⟩
  · intro k hk; rw [← h.look]; exact (mem_keysOf_iff k m).1 hk
  · intro k hk; exact (sim_mem_iff h k).2 hk
  · rw [length_keysOf]; exact sim_length h

theorem lookup_of_mem {m : KV} (h : NodupKeys m) {k : Key} {v : Val} (hm : (k, v) ∈ m) : lookup k m = some v := by
  induction m with
  | nil => cases hm
  | cons p t ih =>
    obtain ⟨a, w⟩ := p
    simp only [NodupKeys, keysOf_cons, List.nodup_cons] at h
    rw [lookup_cons]
    rcases List.mem_cons.1 hm with e | e
    · cases e; simp
    · have hne : a ≠ k := by
        intro e'
        subst e'
        exact h.1 (List.mem_map.2 ⟨(a, v), e, rfl⟩)
      rw [if_neg hne]; exact ih h.2 e

theorem sim_mapOK {m : KV} {F : FMap} (h : Sim m F) : F.mapOK m = true := by
  simp only [FMap.mapOK, Bool.and_eq_true, sim_keysOK h, List.all_eq_true, beq_iff_eq, true_and]
  intro p hp
  rw [← h.look]
  exact lookup_of_mem h.nd hp

/-- value-machine state `vs` and reference state `fs` (+ the caller's keys slices `ks`) agree -/
structure SimV (vs : VSt) (fs : FSt) (ks : List (List Key)) : Prop where
  cur : Sim vs.m fs.cur
  len : vs.snaps.length = fs.snaps.length
  snaps : ∀ (j : Nat) (a : KV) (F : FMap), vs.snaps[j]? = some a → fs.snaps[j]? = some F → Sim a F
  ks : vs.ksnaps = ks

theorem simV_init : SimV VSt.init FSt.init [] :=
  ⟨sim_empty, rfl, by simp [VSt.init], rfl⟩

theorem simV_push {vs : VSt} {fs : FSt} {ks : List (List Key)} (h : SimV vs fs ks) {a : KV} {F : FMap}
    (ha : Sim a F) :
    ∀ (j : Nat) (b : KV) (G : FMap), (vs.snaps ++ [a])[j]? = some b → (fs.snaps ++ [F])[j]? = some G → Sim b G := by
  intro j b G hb hG
  by_cases hj : j < vs.snaps.length
  · rw [List.getElem?_append_left hj] at hb
    rw [List.getElem?_append_left (h.len ▸ hj)] at hG
    exact h.snaps j b G hb hG
  · have hj' : ¬ j < fs.snaps.length := h.len ▸ hj
    rw [List.getElem?_append_right (by omega)] at hb
    rw [List.getElem?_append_right (by omega)] at hG
    have : j - vs.snaps.length = 0 := by
      cases hx : j - vs.snaps.length with
      | zero => rfl
      | succ n => rw [hx] at hb; simp at hb
    rw [this] at hb
    rw [← h.len, this] at hG
    simp only [List.getElem?_cons_zero, Option.some.injEq] at hb hG
    subst hb; subst hG; exact ha

theorem simV_set {vs : VSt} {fs : FSt} {ks : List (List Key)} (h : SimV vs fs ks) {i : Nat} {a : KV} {F : FMap}
    (ha : Sim a F) :
    ∀ (j : Nat) (b : KV) (G : FMap), (vs.snaps.set i a)[j]? = some b → (fs.snaps.set i F)[j]? = some G → Sim b G := by
  intro j b G hb hG
  by_cases hij : i = j
  · subst hij
    rw [List.getElem?_set, if_pos rfl] at hb hG
    split at hb <;> cases hb
    split at hG <;> cases hG
    exact ha
  · rw [List.getElem?_set_ne hij] at hb
    rw [List.getElem?_set_ne hij] at hG
    exact h.snaps j b G hb hG

theorem handle_cases {vs : VSt} {fs : FSt} {ks : List (List Key)} (h : SimV vs fs ks) (j : Nat) :
    (vs.snaps[j]? = none ∧ fs.snaps[j]? = none ∧ ¬ j < fs.snaps.length) ∨
    (∃ a F, vs.snaps[j]? = some a ∧ fs.snaps[j]? = some F ∧ j < fs.snaps.length ∧ Sim a F) := by
  by_cases hj : j < vs.snaps.length
  · right
    have hj' : j < fs.snaps.length := h.len ▸ hj
    refine ⟨vs.snaps[j], fs.snaps[j], List.getElem?_eq_getElem hj, List.getElem?_eq_getElem hj', hj', ?_⟩
    exact h.snaps j _ _ (List.getElem?_eq_getElem hj) (List.getElem?_eq_getElem hj')
  · left
    have hj' : ¬ j < fs.snaps.length := h.len ▸ hj
    exact ⟨List.getElem?_eq_none (by omega), List.getElem?_eq_none (by omega), hj'⟩

/-- One step: the value machine's answer is accepted by the reference, and the states stay related. -/
theorem simV_step {vs : VSt} {fs : FSt} {ks : List (List Key)} (h : SimV vs fs ks) (op : Op) :
    respOK fs ks op (vstep vs op).2 = true ∧
    SimV (vstep vs op).1 (fstep fs op) (ksStep ks op (vstep vs op).2) := by
  cases op with
  | get k | has k => exact ⟨by simp [respOK, vstep, h.cur.look], h⟩
  | len => exact ⟨by simp [respOK, vstep, sim_length h.cur], h⟩
  | mergeNil => exact ⟨by simp [respOK, vstep], h⟩
  | set k v => exact ⟨by simp [respOK, vstep], ⟨sim_put h.cur k v, h.len, h.snaps, h.ks⟩⟩
  | delete k => exact ⟨by simp [respOK, vstep], ⟨sim_erase h.cur k, h.len, h.snaps, h.ks⟩⟩
  | clear => exact ⟨by simp [respOK, vstep], ⟨sim_empty, h.len, h.snaps, h.ks⟩⟩
  | getAll =>
    refine ⟨by simp [respOK, vstep, sim_mapOK (sim_copy h.cur)], ⟨h.cur, ?_, ?_, h.ks⟩⟩
    · simp [vstep, fstep, h.len]
    · exact simV_push h (sim_copy h.cur)
  | mergeLit l =>
    refine ⟨by simp [respOK, vstep], ⟨sim_merge h.cur (sim_ofList l), ?_, ?_, h.ks⟩⟩
    · simp [vstep, fstep, h.len]
    · exact simV_push h (sim_ofList l)
  | keys =>
    refine ⟨by simp [respOK, vstep, sim_keysOK h.cur], ⟨h.cur, h.len, h.snaps, ?_⟩⟩
    simp [vstep, ksStep, h.ks]
  | mergeSnap j =>
    rcases handle_cases h j with ⟨hv, hf, hj⟩ | ⟨a, F, hv, hf, hj, hs⟩
    · simp only [respOK, vstep, fstep, ksStep, hv, hf, if_neg hj]
      exact ⟨by simp, h⟩
    · simp only [respOK, vstep, fstep, ksStep, hv, hf, if_pos hj]
      exact ⟨by simp, ⟨sim_merge h.cur hs, h.len, h.snaps, h.ks⟩⟩
  | snapSet j k v =>
    rcases handle_cases h j with ⟨hv, hf, hj⟩ | ⟨a, F, hv, hf, hj, hs⟩
    · simp only [respOK, vstep, fstep, ksStep, hv, hf, if_neg hj]
      exact ⟨by simp, h⟩
    · simp only [respOK, vstep, fstep, ksStep, hv, hf, if_pos hj]
      exact ⟨by simp, ⟨h.cur, by simp [h.len], simV_set h (sim_put hs k v), h.ks⟩⟩
  | snapDel j k =>
    rcases handle_cases h j with ⟨hv, hf, hj⟩ | ⟨a, F, hv, hf, hj, hs⟩
    · simp only [respOK, vstep, fstep, ksStep, hv, hf, if_neg hj]
      exact ⟨by simp, h⟩
    · simp only [respOK, vstep, fstep, ksStep, hv, hf, if_pos hj]
      exact ⟨by simp, ⟨h.cur, by simp [h.len], simV_set h (sim_erase hs k), h.ks⟩⟩
  | readSnap j =>
    rcases handle_cases h j with ⟨hv, hf, hj⟩ | ⟨a, F, hv, hf, hj, hs⟩
    · simp only [respOK, vstep, fstep, ksStep, hv, hf]
      exact ⟨by simp, h⟩
    · simp only [respOK, vstep, fstep, ksStep, hv, hf]
      exact ⟨sim_mapOK hs, h⟩
  | keysRepl j old new =>
    obtain ⟨hc, hl, hs, hk⟩ := h
    subst hk
    cases hv : vs.ksnaps[j]? with
    | none =>
      have hlt : ¬ j < vs.ksnaps.length := Nat.not_lt.mpr (List.getElem?_eq_none_iff.mp hv)
      simp only [respOK, vstep, fstep, ksStep, hv, if_neg hlt]
      exact ⟨by simp, ⟨hc, hl, hs, rfl⟩⟩
    | some l =>
      have hlt : j < vs.ksnaps.length := (List.getElem?_eq_some_iff.mp hv).1
      simp only [respOK, vstep, fstep, ksStep, hv, if_pos hlt]
      exact ⟨by simp, ⟨hc, hl, hs, rfl⟩⟩
  | readKeys j =>
    obtain ⟨hc, hl, hs, hk⟩ := h
    subst hk
    cases hv : vs.ksnaps[j]? with
    | none =>
      simp only [respOK, vstep, fstep, ksStep, hv]
      exact ⟨by simp, ⟨hc, hl, hs, rfl⟩⟩
    | some l =>
      simp only [respOK, vstep, fstep, ksStep, hv]
      exact ⟨List.isPerm_iff.2 (List.Perm.refl l), ⟨hc, hl, hs, rfl⟩⟩

/-- every answer of the value machine, for every operation sequence, is accepted by the reference -/
theorem check_vrun {vs : VSt} {fs : FSt} {ks : List (List Key)} (h : SimV vs fs ks) (ops : List Op) :
    check fs ks ops (vrun vs ops) = true := by
  induction ops generalizing vs fs ks with
  | nil => rfl
  | cons op t ih =>
    simp only [vrun, check, Bool.and_eq_true]
    exact ⟨(simV_step h op).1, ih (simV_step h op).2⟩

/-- after every operation sequence the value machine's map and the reference's function are the same map -/
theorem sim_vexec {vs : VSt} {fs : FSt} {ks : List (List Key)} (h : SimV vs fs ks) (ops : List Op) :
    ∃ ks', SimV (vexec vs ops) (fexec fs ops) ks' := by
  induction ops generalizing vs fs ks with
  | nil => exact ⟨ks, h⟩
  | cons op t ih => exact ih (simV_step h op).2

end Flyt.Store
