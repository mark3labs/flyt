import FlytModel.Spec.Value
/-!
# Helper lemmas for property C15 (typed accessors)

`wrap64` arithmetic, the store lemmas, every accessor read off what it converts, the closed forms of
the slice accessors, interface-equality facts, well-formedness. Core Lean only.
-/
namespace Flyt.Value

theorem wrap64_of_inRange {n : Int} (h1 : -two63 ≤ n) (h2 : n < two63) : wrap64 n = n := by
  unfold wrap64 two63 two64 at *; omega

theorem wrap64_range (n : Int) : -two63 ≤ wrap64 n ∧ wrap64 n < two63 := by
  unfold wrap64 two63 two64; omega

theorem wrap64_congr (n : Int) : (wrap64 n - n) % two64 = 0 := by
  unfold wrap64 two63 two64; omega

theorem wrap64_high {n : Int} (h1 : two63 ≤ n) (h2 : n < two64) : wrap64 n = n - two64 := by
  unfold wrap64 two63 two64 at *; omega

theorem wrap64_idem (n : Int) : wrap64 (wrap64 n) = wrap64 n :=
  wrap64_of_inRange (wrap64_range n).1 (wrap64_range n).2

theorem get_set (s : Store) (k : String) (v : GoVal) : (Store.set s k v).get k = some v := by
  simp [Store.get, Store.set]

theorem get_set_ne (s : Store) (k k' : String) (v : GoVal) (h : k' ≠ k) :
    (Store.set s k v).get k' = s.get k' := by
  have hb : (k' == k) = false := by simpa using h
  simp [Store.get, Store.set, List.lookup, hb]

theorem get_scStore (v : GoVal) : (scStore v).get keyK = some v := get_set _ _ _

theorem get_scStore_miss (v : GoVal) : (scStore v).get keyMiss = none := by
  simp [scStore, Store.get, Store.set, List.lookup, keyMiss, keyK]

theorem ite_bnot {α} (b : Bool) (x y : α) : (if !b then x else y) = if b then y else x := by
  cases b <;> rfl

theorem asStringOr_eq (v : GoVal) (d : String) :
    asStringOr v d = if (asString v).2 then (asString v).1 else d := ite_bnot _ _ _
theorem mustString_eq (v : GoVal) :
    mustString v = if (asString v).2 then .ok (asString v).1 else .panic := ite_bnot _ _ _

theorem asIntOr_eq (c : Conv) (v : GoVal) (d : Option Int) :
    asIntOr c v d = if (asInt c v).2 then (asInt c v).1 else d := ite_bnot _ _ _
theorem mustInt_eq (c : Conv) (v : GoVal) :
    mustInt c v = if (asInt c v).2 then .ok (asInt c v).1 else .panic := ite_bnot _ _ _

theorem asFloat64Or_eq (c : Conv) (v : GoVal) (d : Nat) :
    asFloat64Or c v d = if (asFloat64 c v).2 then (asFloat64 c v).1 else d := ite_bnot _ _ _
theorem mustFloat64_eq (c : Conv) (v : GoVal) :
    mustFloat64 c v = if (asFloat64 c v).2 then .ok (asFloat64 c v).1 else .panic := ite_bnot _ _ _

theorem asBoolOr_eq (v : GoVal) (d : Bool) :
    asBoolOr v d = if (asBool v).2 then (asBool v).1 else d := ite_bnot _ _ _
theorem mustBool_eq (v : GoVal) :
    mustBool v = if (asBool v).2 then .ok (asBool v).1 else .panic := ite_bnot _ _ _

theorem asMapOr_eq (v : GoVal) (d : MapV) :
    asMapOr v d = if (asMap v).2 then (asMap v).1 else d := ite_bnot _ _ _
theorem mustMap_eq (v : GoVal) :
    mustMap v = if (asMap v).2 then .ok (asMap v).1 else .panic := ite_bnot _ _ _

/-! ## store getter = result accessor (the duplicated type switches agree).
`h : s.get k = some v` — the store holds `v` under `k` (in particular after `Set k v`, `get_set`).
Only the constructors a switch has cases for need to be taken apart down to the predeclared types. -/

theorem getStringOr_of_get (s : Store) (k : String) (v : GoVal) (d : String) (h : s.get k = some v) :
    getStringOr s k d = asStringOr v d := by
  unfold getStringOr; rw [h]
  cases v with
  | str t x => cases t with
    | basic b => cases b <;> rfl
    | _ => rfl
  | _ => rfl

theorem getString_of_get (s : Store) (k : String) (v : GoVal) (h : s.get k = some v) :
    getString s k = asStringOr v "" :=
  getStringOr_of_get s k v "" h

theorem getIntOr_of_get (c : Conv) (s : Store) (k : String) (v : GoVal) (d : Option Int) (h : s.get k = some v) :
    getIntOr c s k d = asIntOr c v d := by
  unfold getIntOr; rw [h]
  cases v with
  | int t n => cases t with
    | basic b => cases b <;> rfl
    | _ => rfl
  | float t x => cases t with
    | basic b => cases b <;> rfl
    | _ => rfl
  | _ => rfl

theorem getFloat64Or_of_get (c : Conv) (s : Store) (k : String) (v : GoVal) (d : Nat) (h : s.get k = some v) :
    getFloat64Or c s k d = asFloat64Or c v d := by
  unfold getFloat64Or; rw [h]
  cases v with
  | int t n => cases t with
    | basic b => cases b <;> rfl
    | _ => rfl
  | float t x => cases t with
    | basic b => cases b <;> rfl
    | _ => rfl
  | _ => rfl

theorem getBoolOr_of_get (s : Store) (k : String) (v : GoVal) (d : Bool) (h : s.get k = some v) :
    getBoolOr s k d = asBoolOr v d := by
  unfold getBoolOr; rw [h]
  cases v with
  | bool t x => cases t with
    | basic b => cases b <;> rfl
    | _ => rfl
  | _ => rfl

theorem getMapOr_of_get (s : Store) (k : String) (v : GoVal) (d : MapV) (h : s.get k = some v) :
    getMapOr s k d = asMapOr v d := by
  unfold getMapOr; rw [h]
  cases v with
  | map t id => simp only [asMapOr, asMap]; split <;> rfl
  | _ => rfl

theorem getString_miss (s : Store) (k : String) (h : s.get k = none) : getString s k = "" := by
  unfold getString; rw [h]
theorem getStringOr_miss (s : Store) (k : String) (d : String) (h : s.get k = none) :
    getStringOr s k d = d := by
  unfold getStringOr; rw [h]
theorem getIntOr_miss (c : Conv) (s : Store) (k : String) (d : Option Int) (h : s.get k = none) :
    getIntOr c s k d = d := by
  unfold getIntOr; rw [h]
theorem getFloat64Or_miss (c : Conv) (s : Store) (k : String) (d : Nat) (h : s.get k = none) :
    getFloat64Or c s k d = d := by
  unfold getFloat64Or; rw [h]
theorem getBoolOr_miss (s : Store) (k : String) (d : Bool) (h : s.get k = none) : getBoolOr s k d = d := by
  unfold getBoolOr; rw [h]
theorem getMapOr_miss (s : Store) (k : String) (d : MapV) (h : s.get k = none) : getMapOr s k d = d := by
  unfold getMapOr; rw [h]
theorem getSliceOrWith_miss (test : SliceTest) (s : Store) (k : String) (d : SliceV) (h : s.get k = none) :
    getSliceOrWith test s k d = .ok d := by
  unfold getSliceOrWith; rw [h]

/-! ## what an accessor converts

Each `AsX` is read off an `Option`: `some x` where the type switch has a case for the value, and
then `x` is the conversion. For strings, bools and maps that option is the specification's expected
outcome; for the two numeric accessors it is `toInt?` / `toFloat64?`, which agree with the
specification on well-formed values (`toInt?_eq_exp`, `toFloat64?_eq_exp`). -/

theorem asString_exp (v : GoVal) : asString v = ((Spec.expString v).getD "", (Spec.expString v).isSome) := by
  cases v with
  | str t s => cases t with
    | basic b => cases b <;> rfl
    | _ => rfl
  | _ => rfl

theorem asBool_exp (v : GoVal) : asBool v = ((Spec.expBool v).getD false, (Spec.expBool v).isSome) := by
  cases v with
  | bool t x => cases t with
    | basic b => cases b <;> rfl
    | _ => rfl
  | _ => rfl

theorem asMap_exp (v : GoVal) : asMap v = ((Spec.expMap v).getD none, (Spec.expMap v).isSome) := by
  cases v with
  | map t id => simp only [asMap, Spec.expMap]; split <;> rfl
  | _ => rfl

/-- `int(v)` where `AsInt` has a case for `v`: an `int` is returned as it is, the other nine integer
    types are converted, the two float types go through Go's own conversion -/
def toInt? (c : Conv) : GoVal → Option (Option Int)
  | .int (.basic b) n => if b.isDocInt then some (some (if b = .int then n else wrap64 n)) else none
  | .float (.basic b) x => if b.isFloat then some (c.f2i (b == .float32) x) else none
  | _ => none

/-- `float64(v)` where `AsFloat64` has a case for `v` -/
def toFloat64? (c : Conv) : GoVal → Option Nat
  | .int (.basic b) n => if b.isDocInt then some (c.i2f n) else none
  | .float (.basic b) x => if b.isFloat then some (if b = .float64 then x else c.f32to64 x) else none
  | _ => none

theorem asInt_eq (c : Conv) (v : GoVal) : asInt c v = ((toInt? c v).getD (some 0), (toInt? c v).isSome) := by
  cases v with
  | int t n => cases t with
    | basic b => cases b <;> rfl
    | _ => rfl
  | float t x => cases t with
    | basic b => cases b <;> rfl
    | _ => rfl
  | _ => rfl

theorem asFloat64_eq (c : Conv) (v : GoVal) :
    asFloat64 c v = ((toFloat64? c v).getD 0, (toFloat64? c v).isSome) := by
  cases v with
  | int t n => cases t with
    | basic b => cases b <;> rfl
    | _ => rfl
  | float t x => cases t with
    | basic b => cases b <;> rfl
    | _ => rfl
  | _ => rfl

theorem assertAnys_eq (v : GoVal) (s : SliceV) (h : assertAnys v = some s) :
    v.kind = .slice ∧ toSlice v = s := by
  cases v <;> simp [assertAnys] at h
  case slice t isNil elems =>
    obtain ⟨ht, hs⟩ := h
    subst ht
    refine ⟨rfl, ?_⟩
    simp [toSlice, ← hs]

theorem asSlice_closed (v : GoVal) :
    asSlice v = .ok (if v.kind = .slice then (toSlice v, true) else (none, false)) := by
  unfold asSlice asSliceWith
  cases v with
  | nil => rfl
  | slice t isNil elems =>
    simp only []
    cases h : assertAnys (.slice t isNil elems) with
    | some s => simp [(assertAnys_eq _ _ h).2, GoVal.kind]
    | none => simp [kindTest, GoVal.kind]
  | _ => rfl

theorem asSliceOr_closed (v : GoVal) (d : SliceV) :
    asSliceOr v d = .ok (if v.kind = .slice then toSlice v else d) := by
  have h := asSlice_closed v
  unfold asSlice at h
  unfold asSliceOr asSliceOrWith
  rw [h]
  by_cases hk : v.kind = .slice <;> simp [hk]

theorem mustSlice_closed (v : GoVal) :
    mustSlice v = if v.kind = .slice then .ok (toSlice v) else .panic := by
  have h := asSlice_closed v
  unfold asSlice at h
  unfold mustSlice mustSliceWith
  rw [h]
  by_cases hk : v.kind = .slice <;> simp [hk]

theorem getSliceOrWith_of_get (test : SliceTest) (s : Store) (k : String) (v : GoVal) (d : SliceV) (h : s.get k = some v) :
    getSliceOrWith test s k d = asSliceOrWith test v d := by
  unfold getSliceOrWith asSliceOrWith asSliceWith
  rw [h]
  cases v with
  | nil => rfl
  | _ =>
    simp only []
    split
    · rfl
    · split <;> rfl

theorem getSliceOr_of_get (s : Store) (k : String) (v : GoVal) (d : SliceV) (h : s.get k = some v) :
    getSliceOr s k d = .ok (if v.kind = .slice then toSlice v else d) :=
  (getSliceOrWith_of_get _ s k v d h).trans (asSliceOr_closed v d)

theorem getSlice_of_get (s : Store) (k : String) (v : GoVal) (h : s.get k = some v) :
    getSlice s k = .ok (if v.kind = .slice then toSlice v else none) := by
  have := getSliceOr_of_get s k v none h
  unfold getSliceOr at this
  unfold getSlice getSliceWith
  exact this

/-- the four typed fast paths and the reflection fallback copy the elements alike; only `[]any` is
    handed back as it is, nil or not -/
theorem toSlice_slice (t : GoType) (isNil : Bool) (es : GoVals) :
    toSlice (.slice t isNil es)
      = if t = tAnys then (if isNil then none else some es.toList) else some (sliceElems isNil es) := by
  simp only [toSlice, ite_self]

theorem elemsOf_toSlice (v : GoVal) : Spec.elemsOf (toSlice v) = Spec.specElems v := by
  cases v with
  | slice t isNil es =>
    rw [toSlice_slice]; unfold Spec.specElems sliceElems
    split <;> cases isNil <;> rfl
  | _ => rfl

theorem typeGuard_self_noncomparable (t : GoType) (k : EqRes) (h : t.comparable = false) :
    typeGuard t t k = .panic := by
  simp [typeGuard, h]

theorem typeGuard_self_comparable (t : GoType) (k : EqRes) (h : t.comparable = true) :
    typeGuard t t k = k := by
  simp [typeGuard, h]

theorem typeGuard_ne (t u : GoType) (k : EqRes) (h : t ≠ u) : typeGuard t u k = .ne := by
  simp [typeGuard, h]

/-- identical non-comparable dynamic type, same representation kind: the comparison panics, whatever the contents -/
theorem ifaceEq_noncomparable (a b : GoVal) (t : GoType) (ha : a.typeOf? = some t) (hb : b.typeOf? = some t)
    (hk : a.kind = b.kind) (h : t.comparable = false) : ifaceEq a b = .panic := by
  cases a <;> cases b <;> cases hk <;> cases ha <;> cases hb <;> exact typeGuard_self_noncomparable _ _ h

theorem ifaceEq_self_noncomparable (v : GoVal) (t : GoType) (hv : v.typeOf? = some t)
    (h : t.comparable = false) : ifaceEq v v = .panic :=
  ifaceEq_noncomparable v v t hv hv rfl h

/-- values of different dynamic types are unequal, without panic -/
theorem ifaceEq_type_ne (a b : GoVal) (h : a.typeOf? ≠ b.typeOf?) : ifaceEq a b = .ne := by
  unfold ifaceEq
  split
  case h_1 => exact absurd rfl h
  case h_14 => rfl
  all_goals exact typeGuard_ne _ _ _ fun e => h (congrArg some e)

theorem floatEq_nan (w : Bool) (x : Nat) (h : isNaN w x = true) : floatEq w x x = false := by
  simp [floatEq, h]

theorem nonslice_paths (v : GoVal) (hn : v ≠ .nil) (hk : v.kind ≠ .slice) :
    assertAnys v = none ∧ toSlice v = some [v] := by
  cases v <;> first | exact ⟨rfl, rfl⟩ | (exfalso; exact hn rfl) | (exfalso; exact hk rfl)

/-- what the heuristic `len(result) == 1 && result[0] == value` computes on a non-slice -/
theorem Legacy.eqTest_nonslice (v : GoVal) :
    Legacy.eqTest (some [v]) v
      = match ifaceEq v v with | .eq => .ok true | .ne => .ok false | .panic => .panic := by
  simp only [Legacy.eqTest, Option.getD]
  cases ifaceEq v v <;> rfl

theorem Legacy.asSlice_nonslice (v : GoVal) (hn : v ≠ .nil) (hk : v.kind ≠ .slice) :
    Legacy.asSlice v
      = match ifaceEq v v with
        | .eq => .ok (none, false) | .ne => .ok (some [v], true) | .panic => .panic := by
  obtain ⟨ha, ht⟩ := nonslice_paths v hn hk
  unfold Legacy.asSlice asSliceWith
  cases v with
  | nil => exact absurd rfl hn
  | _ => simp only [ha, ht, Legacy.eqTest_nonslice]; cases ifaceEq _ _ <;> rfl

theorem Legacy.getSliceOr_nonslice (s : Store) (k : String) (d : SliceV) (v : GoVal) (h : s.get k = some v)
    (hn : v ≠ .nil) (hk : v.kind ≠ .slice) :
    Legacy.getSliceOr s k d
      = match ifaceEq v v with
        | .eq => .ok d | .ne => .ok (some [v]) | .panic => .panic := by
  rw [Legacy.getSliceOr, getSliceOrWith_of_get _ s k v d h, asSliceOrWith,
    show asSliceWith Legacy.eqTest v = _ from Legacy.asSlice_nonslice v hn hk]
  cases ifaceEq v v <;> rfl

theorem GoType.kind_underlying (t : GoType) : t.underlying.kind = t.kind := by
  induction t <;> simp_all [GoType.underlying, GoType.kind]

theorem GoType.comparable_underlying (t : GoType) : t.underlying.comparable = t.comparable := by
  induction t <;> simp_all [GoType.underlying, GoType.comparable]

/-- for a well-formed value the representation determines `reflect.Kind` exactly as the type does -/
theorem wf_shapeOK (v : GoVal) (h : v.wf = true) : v.shapeOK = true := by
  cases v with
  | nil => rfl
  | ptr t _ | map t _ | chan t _ | func t _ => exact h
  | int t _ =>
    simp only [GoVal.shapeOK, GoVal.typeOf?, GoVal.kind, ← GoType.kind_underlying t]
    simp only [GoVal.wf] at h
    split at h
    · rename_i b hb; rw [hb]; cases b <;> simp_all [Basic.range, GoType.kind, Basic.kind]
    · cases h
  | float t _ | complex t _ _ | slice t _ _ | array t _ =>
    simp only [GoVal.shapeOK, GoVal.typeOf?, GoVal.kind, ← GoType.kind_underlying t]
    simp only [GoVal.wf] at h
    split at h <;> simp_all [GoType.kind, Basic.kind]
  | str t _ | bool t _ =>
    simp only [GoVal.shapeOK, GoVal.typeOf?, GoVal.kind, ← GoType.kind_underlying t]
    simp only [GoVal.wf, beq_iff_eq] at h
    simp [h, GoType.kind, Basic.kind]
  | struct t fs =>
    simp only [GoVal.shapeOK, GoVal.typeOf?, GoVal.kind, ← GoType.kind_underlying t]
    simp only [GoVal.wf] at h
    cases fs <;> cases hu : t.underlying <;> simp_all [GoVals.wfFields, GoType.kind]

theorem wf_kind (v : GoVal) (t : GoType) (h : v.wf = true) (ht : v.typeOf? = some t) : t.kind = v.kind := by
  have := wf_shapeOK v h
  simpa [GoVal.shapeOK, ht] using this

theorem result_wf (v e : GoVal) : (GoVal.result v e).wf = (v.wf && e.wf) := by
  simp [GoVal.result, GoVal.wf, tResult, tError, GoType.underlying, GoVals.wfFields, slotOK, GoType.kind]

/-- `Result{v, e} == Result{v, e}`: the struct type is comparable, the fields are compared in order -/
theorem result_ifaceEq (v e : GoVal) :
    ifaceEq (GoVal.result v e) (GoVal.result v e) = match ifaceEq v v with | .eq => ifaceEq e e | x => x := by
  simp only [GoVal.result, ifaceEq, elemsEq]
  have hc : tResult.comparable = true := by decide
  rw [typeGuard_self_comparable _ _ hc]
  cases ifaceEq v v <;> simp
  cases ifaceEq e e <;> rfl

/-- no accessor has a case for it; `ToSlice` takes the single-item path -/
theorem result_accessors (c : Conv) (v e : GoVal) :
    asString (GoVal.result v e) = ("", false) ∧ asInt c (GoVal.result v e) = (some 0, false)
    ∧ asFloat64 c (GoVal.result v e) = (0, false) ∧ asBool (GoVal.result v e) = (false, false)
    ∧ asMap (GoVal.result v e) = (none, false) ∧ asSlice (GoVal.result v e) = .ok (none, false)
    ∧ toSlice (GoVal.result v e) = some [GoVal.result v e] := by
  refine ⟨rfl, rfl, rfl, rfl, rfl, ?_, rfl⟩
  rw [asSlice_closed]; rfl

namespace Basic

theorem mem_intSources {b : Basic} : b ∈ Spec.intSources ↔ b.isDocInt = true ∨ b.isFloat = true := by
  cases b <;> decide

theorem mem_floatSources {b : Basic} : b ∈ Spec.floatSources ↔ b ∈ Spec.intSources := by
  cases b <;> decide

theorem kind_of_isDocInt {b : Basic} (h : b.isDocInt = true) : b.kind = .int := by
  revert h; cases b <;> decide

theorem kind_of_isFloat {b : Basic} (h : b.isFloat = true) : b.kind = .float := by
  revert h; cases b <;> decide

theorem contains_sources_of_int {b : Basic} (h : b.kind = .int) :
    Spec.intSources.contains b = b.isDocInt ∧ Spec.floatSources.contains b = b.isDocInt := by
  revert h; cases b <;> decide

theorem float_cases {b : Basic} (h : b.kind = .float) : b = .float32 ∨ b = .float64 := by
  revert h; cases b <;> decide

end Basic

theorem wrap64_of_wf_int {n : Int} (h : (GoVal.int (.basic .int) n).wf = true) : wrap64 n = n := by
  simp [GoVal.wf, GoType.underlying, Basic.range] at h
  exact wrap64_of_inRange (by unfold two63; omega) (by unfold two63; omega)

theorem wf_basic (v : GoVal) (h : v.wf = true) (b : Basic) (ht : v.typeOf? = some (.basic b)) :
    (b.kind = .int → ∃ n, v = .int (.basic b) n) ∧ (b.kind = .float → ∃ x, v = .float (.basic b) x) := by
  have hk : b.kind = v.kind := wf_kind v _ h ht
  constructor
  all_goals
    intro hb
    rw [hb] at hk
    cases v <;> cases hk
    cases ht
    exact ⟨_, rfl⟩

theorem toInt?_eq_exp (c : Conv) (v : GoVal) (h : v.wf = true) : toInt? c v = Spec.expInt c v := by
  cases v with
  | int t n => cases t with
    | basic b =>
      simp only [toInt?, Spec.expInt, (Basic.contains_sources_of_int (wf_kind _ _ h rfl)).1]
      by_cases hb : b = .int
      · subst hb; rw [if_pos rfl, wrap64_of_wf_int h]
      · rw [if_neg hb]
    | _ => rfl
  | float t x => cases t with
    | basic b => rcases Basic.float_cases (wf_kind _ _ h rfl) with rfl | rfl <;> rfl
    | _ => rfl
  | _ => rfl

theorem toFloat64?_eq_exp (c : Conv) (v : GoVal) (h : v.wf = true) : toFloat64? c v = Spec.expFloat c v := by
  cases v with
  | int t n => cases t with
    | basic b => simp only [toFloat64?, Spec.expFloat, (Basic.contains_sources_of_int (wf_kind _ _ h rfl)).2]
    | _ => rfl
  | float t x => cases t with
    | basic b => rcases Basic.float_cases (wf_kind _ _ h rfl) with rfl | rfl <;> rfl
    | _ => rfl
  | _ => rfl

theorem isSome_toFloat64? (c : Conv) (v : GoVal) : (toFloat64? c v).isSome = (toInt? c v).isSome := by
  unfold toFloat64? toInt?
  split
  · split <;> rfl
  · split <;> rfl
  · rfl

theorem typeOf?_none_iff (v : GoVal) : v.typeOf? = none ↔ v = .nil := by
  cases v <;> simp [GoVal.typeOf?]

theorem asT_exp (t : GoType) (v : GoVal) :
    (asT t v).2 = Spec.expAs t v ∧ (asT t v).1 = (if Spec.expAs t v then v else zeroOf t) := by
  unfold asT Spec.expAs
  cases h : v.typeOf? with
  | none =>
    have := (typeOf?_none_iff v).1 h
    subst this; simp
  | some u =>
    have hn : v ≠ .nil := by intro e; subst e; simp [GoVal.typeOf?] at h
    by_cases hc : t = .any ∨ u = t
    · simp [hc, hn]
    · have hc' := hc
      simp only [not_or] at hc'
      simp [hc'.1, hc'.2]

theorem mustT_eq (t : GoType) (v : GoVal) :
    mustT t v = if (asT t v).2 then .ok (asT t v).1 else .panic := by
  unfold mustT; cases h : (asT t v).2 <;> simp [h]

theorem genOK1_model (t : GoType) (v : GoVal) : Spec.genOK1 t v (.ok (asT t v), mustT t v) = true := by
  obtain ⟨h1, h2⟩ := asT_exp t v
  simp only [Spec.genOK1, mustT_eq, h1, h2]
  cases Spec.expAs t v <;> simp

theorem all_zip_map {α β} (l : List α) (f : α → β) (g : α × β → Bool) (h : ∀ a, g (a, f a) = true) :
    (l.zip (l.map f)).all g = true := by
  induction l with
  | nil => rfl
  | cons a l ih => simp only [List.map_cons, List.zip_cons_cons, List.all_cons, h a, ih, Bool.and_self]

theorem genOK_model (v : GoVal) : Spec.genOK v (genTargets.map fun t => (.ok (asT t v), mustT t v)) = true := by
  simp only [Spec.genOK, List.length_map, beq_self_eq_true, Bool.true_and]
  exact all_zip_map _ _ _ (fun t => genOK1_model t v)

/-- a family in which only `MustX` can panic (exactly when `AsX` fails): `AsX` is read off `e`, `AsXOr` is `AsX` with the default
    substituted, the getters are `AsXOr` on the stored value -/
theorem Spec.famOK_plain {α} [DecidableEq α] (z d : α) (e : Option α) (as_ : α × Bool) (orF : α → α)
    (must : Ret α) (get getOr getMiss getOrMiss : α)
    (he : as_ = (e.getD z, e.isSome)) (hor : ∀ d, orF d = if as_.2 then as_.1 else d)
    (hmust : must = if as_.2 then .ok as_.1 else .panic) (hget : get = orF z) (hgetOr : getOr = orF d)
    (hmiss : getMiss = z) (hormiss : getOrMiss = d) :
    Spec.famOK id z d e ⟨.ok as_, .ok (orF d), must, .ok get, .ok getOr, .ok getMiss, .ok getOrMiss⟩ = true := by
  subst he hget hgetOr hmiss hormiss hmust
  cases e <;> simp [Spec.famOK, Spec.total, Spec.consistent, Spec.faithful, Ret.isPanic, hor]

end Flyt.Value
