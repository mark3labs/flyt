import FlytModel.Model.Pool
/-!
# Invariants of the worker-pool LTS, for every reachable state (every schedule)
-/
namespace Flyt.Pool

structure Inv (p : Pool) : Prop where
  /-- the WaitGroup counts exactly the tasks that are submitted and not finished -/
  wgEq : p.wg = p.pend.length + p.queue.length + p.running.length
  /-- every worker is idle, running exactly one task, or gone -/
  workers : p.running.length + p.idle + p.exited = p.w
  /-- the channel never holds more than its capacity -/
  qcap : p.queue.length ≤ p.cap
  /-- a task is in exactly one place: never duplicated -/
  nodup : (p.pend ++ p.queue ++ p.running ++ p.finished).Nodup

/-- all tasks ever submitted (ghost): the union of the four places -/
def Pool.tasks (p : Pool) : List Nat := p.pend ++ p.queue ++ p.running ++ p.finished

/-- `apply` as a relation: per label, the guard it tests and the state it answers. Proofs about a step go by cases on this. -/
inductive Fires : Pool → Label → Pool → Prop
  | add {p} (t) : fresh p t = true → Fires p (.add t) { p with pend := p.pend ++ [t], wg := p.wg + 1 }
  | send {p} (t) : t ∈ p.pend → p.queue.length < p.cap →
      Fires p (.send t) { p with pend := p.pend.erase t, queue := p.queue ++ [t], submitRet := p.submitRet + 1 }
  | take {p t r} : p.queue = t :: r → p.idle > 0 →
      Fires p .take { p with queue := r, running := t :: p.running, idle := p.idle - 1 }
  | finish {p} (t) : t ∈ p.running →
      Fires p (.finish t)
        { p with running := p.running.erase t, finished := t :: p.finished, wg := p.wg - 1, idle := p.idle + 1 }
  | callWait {p} : Fires p .callWait { p with waiters := p.waiters + 1 }
  | waitRet {p} : p.waiters > 0 → p.wg = 0 →
      Fires p .waitRet { p with waiters := p.waiters - 1, waitDone := p.waitDone + 1 }
  | close {p} : p.closed = false → Fires p .close { p with closed := true }
  | exit {p} : p.closed = true → p.idle > 0 → Fires p .exit { p with idle := p.idle - 1, exited := p.exited + 1 }

theorem fires_of_apply {p q : Pool} {l : Label} (hs : apply p l = some q) : Fires p l q := by
  cases l with
  | take =>
    simp only [apply] at hs
    split at hs
    · cases hs
    · rename_i hq
      simp only [Option.ite_none_right_eq_some, Option.some.injEq] at hs
      obtain ⟨hi, rfl⟩ := hs
      exact .take hq hi
  | callWait => cases hs; exact .callWait
  | add t =>
    simp only [apply, Option.ite_none_right_eq_some, Option.some.injEq] at hs
    obtain ⟨hc, rfl⟩ := hs
    exact .add t hc
  | send t =>
    simp only [apply, Option.ite_none_right_eq_some, Option.some.injEq, List.contains_iff_mem] at hs
    obtain ⟨hc, rfl⟩ := hs
    exact .send t hc.1 hc.2
  | finish t =>
    simp only [apply, Option.ite_none_right_eq_some, Option.some.injEq, List.contains_iff_mem] at hs
    obtain ⟨hc, rfl⟩ := hs
    exact .finish t hc
  | waitRet =>
    simp only [apply, Option.ite_none_right_eq_some, Option.some.injEq] at hs
    obtain ⟨hc, rfl⟩ := hs
    exact .waitRet hc.1 hc.2
  | close =>
    simp only [apply, Option.ite_none_left_eq_some, Option.some.injEq, Bool.not_eq_true] at hs
    obtain ⟨hc, rfl⟩ := hs
    exact .close hc
  | exit =>
    simp only [apply, Option.ite_none_right_eq_some, Option.some.injEq] at hs
    obtain ⟨hc, rfl⟩ := hs
    exact .exit hc.1 hc.2

theorem perm_erase_append_cons {a : Nat} {l₁ l₂ : List Nat} (h : a ∈ l₁) : (l₁.erase a ++ a :: l₂).Perm (l₁ ++ l₂) :=
  List.perm_middle.trans ((List.perm_cons_erase h).append_right l₂).symm

/-- A step moves one task from its place to the next, or puts a fresh one into the first place. -/
theorem tasks_perm {p q : Pool} {l : Label} (hs : apply p l = some q) :
    q.tasks.Perm p.tasks ∨ ∃ t, t ∉ p.tasks ∧ q.tasks.Perm (t :: p.tasks) := by
  cases fires_of_apply hs with
  | add t hf =>
    refine .inr ⟨t, by simpa [fresh, Pool.tasks, and_assoc] using hf, ?_⟩
    simp only [Pool.tasks, List.append_assoc]
    exact List.perm_middle
  | send t hm _ =>
    have : (p.pend.erase t ++ (p.queue ++ [t])).Perm (p.pend ++ p.queue) := by
      rw [← List.append_assoc]
      exact (List.perm_append_singleton t _).trans ((List.perm_cons_erase hm).append_right p.queue).symm
    exact .inl ((this.append_right p.running).append_right p.finished)
  | take hq _ =>
    simp only [Pool.tasks, hq, List.append_assoc, List.cons_append]
    exact .inl (List.perm_middle.append_left _)
  | finish _ hm =>
    simp only [Pool.tasks, List.append_assoc]
    exact .inl (perm_erase_append_cons hm |>.append_left _ |>.append_left _)
  | _ => exact .inl .rfl

theorem inv_init (cap : Nat) (workers : Int) : Inv (init cap workers) := by
  constructor <;> simp [init]

theorem inv_step {p q : Pool} {l : Label} (h : Inv p) (hs : apply p l = some q) : Inv q := by
  have nodup : q.tasks.Nodup := by
    rcases tasks_perm hs with hp | ⟨t, ht, hp⟩
    · exact hp.nodup_iff.mpr h.nodup
    · exact hp.nodup_iff.mpr (List.nodup_cons.mpr ⟨ht, h.nodup⟩)
  obtain ⟨h1, h2, h3, _⟩ := h
  cases fires_of_apply hs with
  | add _ _ => exact ⟨by simp only [List.length_append, List.length_singleton]; omega, h2, h3, nodup⟩
  | send t hm hr =>
    have : p.pend.length = (p.pend.erase t).length + 1 := (List.perm_cons_erase hm).length_eq
    exact ⟨by simp only [List.length_append, List.length_singleton]; omega, h2,
      by simp only [List.length_append, List.length_singleton]; omega, nodup⟩
  | take hq hi =>
    simp only [hq, List.length_cons] at h1 h3
    exact ⟨by simp only [List.length_cons]; omega, by simp only [List.length_cons]; omega, by simp only; omega, nodup⟩
  | finish t hm =>
    have : p.running.length = (p.running.erase t).length + 1 := (List.perm_cons_erase hm).length_eq
    exact ⟨by simp only; omega, by simp only; omega, h3, nodup⟩
  | exit _ hi => exact ⟨h1, by simp only; omega, h3, nodup⟩
  | _ => exact ⟨h1, h2, h3, nodup⟩

theorem inv_reachable {cap : Nat} {workers : Int} {p : Pool} (h : Reachable cap workers p) : Inv p := by
  induction h with
  | init => exact inv_init cap workers
  | step _ hs ih => obtain ⟨l, hl⟩ := hs; exact inv_step ih hl

theorem Inv.wg_zero {p : Pool} (h : Inv p) (h0 : p.wg = 0) : p.pend = [] ∧ p.queue = [] ∧ p.running = [] := by
  have := h.wgEq
  simp only [← List.length_eq_zero_iff]
  omega

theorem tasks_mono {p q : Pool} {l : Label} (hs : apply p l = some q) : ∀ t, t ∈ p.tasks → t ∈ q.tasks := by
  intro t ht
  rcases tasks_perm hs with hp | ⟨u, _, hp⟩
  · exact hp.mem_iff.mpr ht
  · exact hp.mem_iff.mpr (List.mem_cons_of_mem u ht)

theorem finished_mono {p q : Pool} {l : Label} (hs : apply p l = some q) : ∀ t, t ∈ p.finished → t ∈ q.finished := by
  intro t ht
  cases fires_of_apply hs with
  | finish _ _ => exact List.mem_cons_of_mem _ ht
  | _ => exact ht

end Flyt.Pool
