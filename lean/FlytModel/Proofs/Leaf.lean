import FlytModel.Proofs.Big
import FlytModel.Proofs.Attempts
import FlytModel.Proofs.L.Leaf
/-!
# Facts about a single node's run (`attempts`, `fallbackPhase`, `runLeaf`, `runItem`, `runBatch`)
used by C03, C04, C05, C10.
-/
namespace Flyt.Proofs
open Flyt

theorem norm_default : norm defaultAction = defaultAction := by decide

theorem runLeaf_ok_norm {kind n v sid cfg scr ctx a}
    (h : (runLeaf kind n v sid cfg scr ctx).2.2 = .ok a) : norm a = a := by
  unfold runLeaf at h
  repeat' split at h
  all_goals first
    | (simp at h; done)
    | (simp at h; subst h; first | exact norm_default | exact norm_norm _)

theorem runBatch_out (kind : CtxKind) (n v sid : Nat) (cfg : BatchCfg) (scr : BatchScript) (ctx : Ctx) :
    (runBatch kind n v sid cfg scr ctx).2.2 =
      match scr.prep.res with
      | .error e => .err (.user e)
      | .ok _ =>
        if cfg.hasPost then (match scr.post.res with | .error e => .err (.user e) | .ok a => .ok (norm a))
        else .ok defaultAction := by
  unfold runBatch
  cases scr.prep.res with
  | error e => rfl
  | ok l =>
    dsimp only
    cases (normItems cfg.shape l).isEmpty <;> cases cfg.hasPost <;> cases scr.post.res <;> rfl

theorem runBatch_ok_norm {kind n v sid cfg scr ctx a}
    (h : (runBatch kind n v sid cfg scr ctx).2.2 = .ok a) : norm a = a := by
  rw [runBatch_out] at h
  revert h
  cases scr.prep.res <;> cases cfg.hasPost <;> cases scr.post.res <;> intro h <;> cases h <;>
    simp [norm_default, norm_norm]

/-- the shapes an outcome of the model can take: an action, a user error, a context error, "no start node" -/
def Outcome.Proper : Outcome → Prop
  | .ok _ => True
  | .err (.user _) => True
  | .err (.ctx _) => True
  | .err (.fw .noStart) => True
  | _ => False

theorem fallbackPhase_err {kind fb mkFb fbOut ctx r fev c e}
    (h : fallbackPhase kind fb mkFb fbOut ctx r = (fev, c, .error e)) :
    (∃ u, e = .user u) ∨ (∃ k, e = .ctx k) := by
  unfold fallbackPhase at h
  repeat' split at h
  all_goals simp at h
  all_goals (obtain ⟨_, _, h⟩ := h; subst h; simp)

theorem runLeaf_proper (kind n v sid cfg scr ctx) :
    Outcome.Proper (runLeaf kind n v sid cfg scr ctx).2.2 := by
  unfold runLeaf
  repeat' split
  all_goals try (simp [Outcome.Proper]; done)
  rename_i heq
  rcases fallbackPhase_err heq with ⟨u, rfl⟩ | ⟨k, rfl⟩ <;> simp [Outcome.Proper]

theorem runBatch_proper (kind n v sid cfg scr ctx) :
    Outcome.Proper (runBatch kind n v sid cfg scr ctx).2.2 := by
  rw [runBatch_out]
  cases scr.prep.res <;> cases cfg.hasPost <;> cases scr.post.res <;> trivial

theorem fallbackPhase_cases {kind fb mkFb fbOut ctx r fev c eres}
    (h : fallbackPhase kind fb mkFb fbOut ctx r = (fev, c, eres)) :
    (∃ x, r = .ok x ∧ fev = [] ∧ c = ctx ∧ eres = .ok x) ∨
    (∃ k, r = .cancelled k ∧ fev = [] ∧ c = ctx ∧ eres = .error (.ctx k)) ∨
    (∃ e, r = .failed e ∧ fb ≠ .custom ∧ fev = [] ∧ c = ctx ∧ eres = .error (.user e)) ∨
    (∃ e, r = .failed e ∧ fb = .custom ∧ fev = [mkFb e] ∧ c = ctx.after kind fbOut.cancels ∧
      eres = match fbOut.res with | .ok x => .ok x | .error e' => .error (.user e')) := by
  unfold fallbackPhase at h
  cases r with
  | ok | cancelled => cases h; simp
  | failed e =>
    cases fb with
    | absent | passThrough => cases h; simp
    | custom =>
      simp only at h
      cases hr : fbOut.res <;> simp only [hr] at h <;> cases h <;> simp

/-- the prep phase went through on a live context and left it live: events and the value `Run` holds -/
def PrepOk (_kind : CtxKind) (n : NodeId) (v : Nat) (sid : StoreId) (cfg : LeafCfg) (scr : LeafScript)
    (pev : List Ev) (pv : Val) : Prop :=
  (cfg.prepS = .absent ∧ pev = [] ∧ pv = Val.nil) ∨
  (cfg.prepS ≠ .absent ∧ pev = [.prep n v sid] ∧ scr.prep.cancels = false ∧
    ∃ x, scr.prep.res = .ok x ∧ pv = prepRet cfg.prepS x)

def ExecPhase (kind : CtxKind) (n : NodeId) (v : Nat) (cfg : LeafCfg) (scr : LeafScript) (pv : Val)
    (aev : List Ev) (c2 : Ctx) (ares : AttemptRes) (fev : List Ev) (c3 : Ctx) (eres : Except ErrRoot Val) : Prop :=
  attempts kind (fun k => .exec n v k (execArg cfg.execS pv)) (fun k f => .wait n v k cfg.effWait f)
      scr.exec scr.waitCancel cfg.execS cfg.effWait 0 cfg.effBudget none .live = (aev, c2, ares) ∧
  fallbackPhase kind cfg.fb (fun e => .fb n v pv (.user e)) scr.fb c2 ares = (fev, c3, eres)

/-- all the ways a leaf run on a live context can go -/
inductive LeafShape (kind : CtxKind) (n : NodeId) (v : Nat) (sid : StoreId) (cfg : LeafCfg) (scr : LeafScript) :
    List Ev → Ctx → Outcome → Prop
  | prepErr {e} : cfg.prepS ≠ .absent → scr.prep.res = .error e →
      LeafShape kind n v sid cfg scr [.prep n v sid] (Ctx.live.after kind scr.prep.cancels) (.err (.user e))
  | prepCancel {x} : cfg.prepS ≠ .absent → scr.prep.res = .ok x → scr.prep.cancels = true →
      LeafShape kind n v sid cfg scr [.prep n v sid] (.done kind) (.err (.ctx kind))
  | execErr {pev pv aev c2 ares fev c3 e} : PrepOk kind n v sid cfg scr pev pv →
      ExecPhase kind n v cfg scr pv aev c2 ares fev c3 (.error e) →
      LeafShape kind n v sid cfg scr (pev ++ aev ++ fev) c3 (.err e)
  | noPost {pev pv aev c2 ares fev c3 ev} : PrepOk kind n v sid cfg scr pev pv →
      ExecPhase kind n v cfg scr pv aev c2 ares fev c3 (.ok ev) → cfg.postS = .absent →
      LeafShape kind n v sid cfg scr (pev ++ aev ++ fev) c3 (.ok defaultAction)
  | postErr {pev pv aev c2 ares fev c3 ev e} : PrepOk kind n v sid cfg scr pev pv →
      ExecPhase kind n v cfg scr pv aev c2 ares fev c3 (.ok ev) → cfg.postS ≠ .absent → scr.post.res = .error e →
      LeafShape kind n v sid cfg scr
        (pev ++ aev ++ fev ++ [.post n v sid (postArgs cfg.postS pv ev).1 (postArgs cfg.postS pv ev).2])
        (c3.after kind scr.post.cancels) (.err (.user e))
  | postOk {pev pv aev c2 ares fev c3 ev a} : PrepOk kind n v sid cfg scr pev pv →
      ExecPhase kind n v cfg scr pv aev c2 ares fev c3 (.ok ev) → cfg.postS ≠ .absent → scr.post.res = .ok a →
      LeafShape kind n v sid cfg scr
        (pev ++ aev ++ fev ++ [.post n v sid (postArgs cfg.postS pv ev).1 (postArgs cfg.postS pv ev).2])
        (c3.after kind scr.post.cancels) (.ok (norm a))

theorem leafShape_finish {kind n v sid cfg scr evs c out pev pv aev c2 ares fev c3 eres}
    (h : leafFinish kind n v sid cfg scr (pev ++ aev ++ fev) pv c3 eres = (evs, c, out))
    (hP : PrepOk kind n v sid cfg scr pev pv) (hE : ExecPhase kind n v cfg scr pv aev c2 ares fev c3 eres) :
    LeafShape kind n v sid cfg scr evs c out := by
  unfold leafFinish at h
  cases eres with
  | error e => cases h; exact .execErr hP hE
  | ok ev =>
    simp only at h
    cases hpo : cfg.postS
    case absent => simp only [hpo] at h; cases h; exact .noPost hP hE hpo
    all_goals
      simp only [hpo] at h
      cases hr : scr.post.res with
      | error e =>
        simp only [hr] at h; cases h
        have := LeafShape.postErr (sid := sid) hP hE (by simp [hpo]) hr
        rw [hpo] at this; exact this
      | ok a =>
        simp only [hr] at h; cases h
        have := LeafShape.postOk (sid := sid) hP hE (by simp [hpo]) hr
        rw [hpo] at this; exact this

theorem runLeaf_body {kind n v sid cfg scr pev pv aev c2 ares fev c3 eres}
    (hP : PrepOk kind n v sid cfg scr pev pv) (hE : ExecPhase kind n v cfg scr pv aev c2 ares fev c3 eres) :
    runLeaf kind n v sid cfg scr .live = leafFinish kind n v sid cfg scr (pev ++ aev ++ fev) pv c3 eres := by
  obtain ⟨hA, hF⟩ := hE
  have hA' : attempts kind (Leaf.leafExec n v (execArg cfg.execS pv)) (Leaf.leafWait n v cfg.effWait) scr.exec
      scr.waitCancel cfg.execS cfg.effWait 0 cfg.effBudget none .live = (aev, c2, ares) := hA
  have hF' : fallbackPhase kind cfg.fb (Leaf.leafFb n v pv) scr.fb c2 ares = (fev, c3, eres) := hF
  rw [Leaf.runLeaf_live_eq]
  rcases hP with ⟨hs, rfl, rfl⟩ | ⟨hne, rfl, hc, x, hx, rfl⟩
  · rw [if_pos hs]
    simp only [Leaf.afterPrep, Attempts.execPhase, hA', hF', List.append_assoc]
  · rw [if_neg hne]
    simp only [hx, hc, Bool.false_eq_true, if_false, Leaf.afterPrep, Attempts.execPhase, hA', hF', List.append_assoc]

theorem leafShape_of_runLeaf {kind n v sid cfg scr evs c out}
    (h : runLeaf kind n v sid cfg scr .live = (evs, c, out)) : LeafShape kind n v sid cfg scr evs c out := by
  -- the exec phase of the run that starts with the prep value `pv`
  have phase : ∀ pv, ExecPhase kind n v cfg scr pv _ _ _ _ _ _ := fun pv => ⟨rfl, rfl⟩
  by_cases hs : cfg.prepS = .absent
  · have hP : PrepOk kind n v sid cfg scr [] Val.nil := .inl ⟨hs, rfl, rfl⟩
    rw [runLeaf_body hP (phase _)] at h
    exact leafShape_finish h hP (phase _)
  · cases hr : scr.prep.res with
    | error e =>
      rw [Leaf.runLeaf_live_eq, if_neg hs, hr] at h
      cases h; exact .prepErr hs hr
    | ok x =>
      cases hcz : scr.prep.cancels with
      | true =>
        rw [Leaf.runLeaf_live_eq, if_neg hs, hr] at h
        simp only [hcz, if_true] at h
        cases h; exact .prepCancel hs hr hcz
      | false =>
        have hP : PrepOk kind n v sid cfg scr [.prep n v sid] (prepRet cfg.prepS x) := .inr ⟨hs, rfl, hcz, x, hr, rfl⟩
        rw [runLeaf_body hP (phase _)] at h
        exact leafShape_finish h hP (phase _)

theorem leafStep_done {env : Env} {id sid cfg} {st : RunSt} {k} (hc : st.ctx = .done k) :
    leafStep env id sid cfg st = ([], st, .err (.ctx k)) := by
  unfold leafStep
  rw [hc, Leaf.runLeaf_done]
  simp only
  cases st
  simp_all [RunSt.bumpIf]

theorem leafStep_ctx {env : Env} {id sid cfg st evs st' out} (h : leafStep env id sid cfg st = (evs, st', out)) :
    runLeaf env.kind id (st.visits id) sid cfg (env.leafBeh id (st.visits id)) st.ctx = (evs, st'.ctx, out) := by
  simp only [leafStep, Prod.mk.injEq] at h
  obtain ⟨h1, h2, h3⟩ := h
  subst h2
  simp [← h1, ← h3]

theorem batchStep_ctx {env : Env} {id sid cfg st evs st' out} (h : batchStep env id sid cfg st = (evs, st', out)) :
    runBatch env.kind id (st.visits id) sid cfg (env.batchBeh id (st.visits id)) st.ctx = (evs, st'.ctx, out) := by
  simp only [batchStep, Prod.mk.injEq] at h
  obtain ⟨h1, h2, h3⟩ := h
  subst h2
  simp [← h1, ← h3]

theorem big_node_ok_norm {env sid id st evs st' a} (h : Big env sid (.node id) st evs st' (.ok a)) :
    norm a = a := by
  cases h with
  | leaf hA h => exact runLeaf_ok_norm (congrArg (·.2.2) h)
  | batch hA h => exact runBatch_ok_norm (congrArg (·.2.2) h)
  | flowOk => exact norm_norm _
  | flowFail _ _ _ hne => exact absurd rfl (hne _)

theorem big_proper {env sid task st evs st' r} (h : Big env sid task st evs st' r) : Outcome.Proper r := by
  induction h with
  | leaf hA h => have e := (congrArg (·.2.2) h).symm; simp only at e; rw [e]; exact runLeaf_proper ..
  | batch hA h => have e := (congrArg (·.2.2) h).symm; simp only at e; rw [e]; exact runBatch_proper ..
  | flowDone => trivial
  | flowNoStart => trivial
  | flowOk => trivial
  | flowFail _ _ _ _ ih => exact ih
  | loopDone => trivial
  | loopStop => trivial
  | loopStep _ _ _ _ _ ih => exact ih
  | loopFail _ _ _ ih => exact ih

end Flyt.Proofs
