import FlytModel.Proofs.Leaf
/-!
# Fail-stop and error transparency (helper lemmas for C04)

`FailStop fatal evs out`: with `fatal e = some u` meaning "the callback invocation recorded as `e` ended its
run with user error `u`" (`Spec.scriptFatal`), a fatal event has no successor, determines the outcome, and
a user-error outcome is caused by the last event.
-/
namespace Flyt.Proofs
open Flyt

structure FailStop (fatal : Ev → Option Nat) (evs : List Ev) (out : Outcome) : Prop where
  noneAfter : evs.Pairwise (fun e _ => fatal e = none)
  fatalErr : ∀ e ∈ evs, ∀ u, fatal e = some u → out = .err (.user u)
  userErr : ∀ u, out = .err (.user u) → ∃ e, evs.getLast? = some e ∧ fatal e = some u

theorem FailStop.nil {fatal : Ev → Option Nat} {out : Outcome} (h : ∀ u, out ≠ .err (.user u)) :
    FailStop fatal [] out :=
  ⟨by simp, by simp, fun u hu => absurd hu (h u)⟩

theorem FailStop.nonfatal {fatal : Ev → Option Nat} {evs : List Ev} {out : Outcome} (h : FailStop fatal evs out)
    (ho : ∀ u, out ≠ .err (.user u)) : ∀ e ∈ evs, fatal e = none := by
  intro e he
  cases hf : fatal e with
  | none => rfl
  | some u => exact absurd (h.fatalErr e he u hf) (ho u)

theorem FailStop.append {fatal : Ev → Option Nat} {l1 l2 : List Ev} {out : Outcome}
    (h1 : ∀ e ∈ l1, fatal e = none) (h2 : FailStop fatal l2 out) : FailStop fatal (l1 ++ l2) out := by
  refine ⟨?_, ?_, ?_⟩
  · rw [List.pairwise_append]
    exact ⟨List.pairwise_of_forall_mem_list fun a ha _ _ => h1 a ha, h2.noneAfter, fun a ha _ _ => h1 a ha⟩
  · intro e he u hu
    rw [List.mem_append] at he
    rcases he with he | he
    · rw [h1 e he] at hu; cases hu
    · exact h2.fatalErr e he u hu
  · intro u hu
    obtain ⟨e, he, hf⟩ := h2.userErr u hu
    exact ⟨e, by rw [List.getLast?_append, he]; rfl, hf⟩

theorem FailStop.snoc {fatal : Ev → Option Nat} {l : List Ev} {e : Ev} {out : Outcome}
    (h1 : ∀ a ∈ l, fatal a = none)
    (h2 : ∀ u, fatal e = some u ↔ out = .err (.user u)) : FailStop fatal (l ++ [e]) out := by
  apply FailStop.append h1
  refine ⟨by simp, ?_, ?_⟩
  · intro a ha u hu; simp at ha; subst ha; exact (h2 u).1 hu
  · intro u hu; exact ⟨e, by simp, (h2 u).2 hu⟩

theorem FailStop.of_nonfatal {fatal : Ev → Option Nat} {l : List Ev} {out : Outcome}
    (h1 : ∀ a ∈ l, fatal a = none) (h2 : ∀ u, out ≠ .err (.user u)) : FailStop fatal l out := by
  have := FailStop.append h1 (FailStop.nil (fatal := fatal) h2)
  simpa using this

section leaf
variable {env : Env} {n : NodeId} {v : Nat} {sid : StoreId} {cfg : LeafCfg}

theorem fatal_prep : Spec.scriptFatal env (.prep n v sid) = Spec.errOf (env.leafBeh n v).prep := rfl
theorem fatal_wait {k d f} : Spec.scriptFatal env (.wait n v k d f) = none := rfl
theorem fatal_fb {a e} : Spec.scriptFatal env (.fb n v a e) = Spec.errOf (env.leafBeh n v).fb := rfl
theorem fatal_post {a b} : Spec.scriptFatal env (.post n v sid a b) = Spec.errOf (env.leafBeh n v).post := rfl
theorem fatal_exec (hA : env.arena n = .leaf cfg) {k a} :
    Spec.scriptFatal env (.exec n v k a) =
      if k + 1 = cfg.effBudget ∧ cfg.fb ≠ .custom then Spec.errOf ((env.leafBeh n v).exec k) else none := by
  simp [Spec.scriptFatal, hA]

theorem prepOk_nonfatal {pev pv} (h : PrepOk env.kind n v sid cfg (env.leafBeh n v) pev pv) :
    ∀ e ∈ pev, Spec.scriptFatal env e = none := by
  rcases h with ⟨_, rfl, _⟩ | ⟨_, rfl, _, x, hx, _⟩
  · simp
  · intro e he; simp at he; subst he; rw [fatal_prep, errOf_ok hx]

/-- outcome of the run as far as the exec phase decides it (a value means "go on to post") -/
def execOut : Except ErrRoot Val → Outcome
  | .error e => .err e
  | .ok _ => .ok defaultAction

/-- the exec phase (loop + fallback) is fail-stop: either it yields a value and none of its events is
    fatal, or it yields a user error and its last event is the fatal one, or it was cancelled (no fatal event) -/
theorem execPhase_failstop (hA : env.arena n = .leaf cfg) {pv aev c2 ares fev c3 eres}
    (h : ExecPhase env.kind n v cfg (env.leafBeh n v) pv aev c2 ares fev c3 eres) :
    FailStop (Spec.scriptFatal env) (aev ++ fev) (execOut eres) := by
  obtain ⟨hat, hfb⟩ := h
  have hfs := attempts_failstop (kind := env.kind) (mkExec := fun k => Ev.exec n v k (execArg cfg.execS pv))
    (mkWait := fun k f => Ev.wait n v k cfg.effWait f) (exec := (env.leafBeh n v).exec)
    (waitCancel := (env.leafBeh n v).waitCancel) (execS := cfg.execS) (wait := cfg.effWait)
    (Spec.scriptFatal env) cfg.effBudget (cfg.fb ≠ .custom)
    (fun j => fatal_exec hA) (fun j b => fatal_wait) 0 cfg.effBudget none .live (by omega)
  rw [hat] at hfs
  obtain ⟨hs1, hs2, hs3⟩ := hfs
  simp only at hs1 hs2 hs3
  rcases fallbackPhase_cases hfb with ⟨x, rfl, rfl, rfl, rfl⟩ | ⟨k, rfl, rfl, rfl, rfl⟩ |
      ⟨e, rfl, hne, rfl, rfl, rfl⟩ | ⟨e, rfl, hcu, rfl, rfl, rfl⟩
  · -- the loop produced a value
    rw [List.append_nil]
    exact .of_nonfatal (fun a ha => Option.eq_none_iff_forall_ne_some.mpr fun u hf => nomatch (hs2 a ha u hf).1)
      (by simp [execOut])
  · -- cancelled
    rw [List.append_nil]
    exact .of_nonfatal (fun a ha => Option.eq_none_iff_forall_ne_some.mpr fun u hf => nomatch (hs2 a ha u hf).1)
      (by simp [execOut])
  · -- budget exhausted, no custom fallback: the last attempt's error is the run's error
    simp only [List.append_nil]
    refine ⟨hs1, ?_, ?_⟩
    · intro a ha u hu
      have := (hs2 a ha u hu).1
      cases this; rfl
    · intro u hu
      simp only [execOut, Outcome.err.injEq, ErrRoot.user.injEq] at hu
      subst hu
      rcases hs3 e rfl with ⟨_, hl⟩ | ⟨_, hl, herr⟩
      · cases hl
      · refine ⟨_, hl, ?_⟩
        rw [fatal_exec hA]
        have hb : cfg.effBudget - 1 + 1 = cfg.effBudget := by omega
        simp [hb, hne, herr]
  · -- custom fallback consumes the error
    apply FailStop.snoc fun a ha => Option.eq_none_iff_forall_ne_some.mpr fun u hf => (hs2 a ha u hf).2 hcu
    intro u
    rw [fatal_fb]
    cases hr : (env.leafBeh n v).fb.res with
    | ok x => simp [Spec.errOf, hr, execOut]
    | error e' => simp [Spec.errOf, hr, execOut]

theorem runLeaf_failstop (hA : env.arena n = .leaf cfg) {ctx evs c out}
    (h : runLeaf env.kind n v sid cfg (env.leafBeh n v) ctx = (evs, c, out)) :
    FailStop (Spec.scriptFatal env) evs out := by
  cases ctx with
  | done k => rw [Leaf.runLeaf_done] at h; cases h; exact FailStop.nil (by simp)
  | live =>
    have hs := leafShape_of_runLeaf h
    cases hs with
    | @prepErr e0 hne hr =>
      have := FailStop.snoc (fatal := Spec.scriptFatal env) (l := []) (e := .prep n v sid)
        (out := .err (.user e0)) (by simp) (by intro u; rw [fatal_prep, errOf_error hr]; simp)
      simpa using this
    | prepCancel hne hr hc =>
      apply FailStop.of_nonfatal
      · intro a ha; simp at ha; subst ha; rw [fatal_prep, errOf_ok hr]
      · simp
    | execErr hP hE =>
      rw [List.append_assoc]
      exact FailStop.append (prepOk_nonfatal hP) (execPhase_failstop hA hE)
    | noPost hP hE hpo =>
      rw [List.append_assoc]
      exact FailStop.append (prepOk_nonfatal hP) (execPhase_failstop hA hE)
    | postErr hP hE hpo hr =>
      have h1 := FailStop.append (prepOk_nonfatal hP) (execPhase_failstop hA hE)
      rw [← List.append_assoc] at h1
      apply FailStop.snoc (h1.nonfatal (by simp [execOut]))
      intro u; rw [fatal_post, errOf_error hr]; simp
    | postOk hP hE hpo hr =>
      have h1 := FailStop.append (prepOk_nonfatal hP) (execPhase_failstop hA hE)
      rw [← List.append_assoc] at h1
      apply FailStop.snoc (h1.nonfatal (by simp [execOut]))
      intro u; rw [fatal_post, errOf_ok hr]; simp

end leaf
end Flyt.Proofs
