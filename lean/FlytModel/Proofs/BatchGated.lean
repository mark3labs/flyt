import FlytModel.Proofs.BatchBridge
/-!
# The GATED schedules of the concurrent batch LTS (`Conc.simulate`) and `Spec.c09`'s ordering clause

`Spec.c09` demands, in stop mode, that no NEW item starts after a *final failure* (the return of an exec call that
the item's own script makes fail for good: last attempt, no successful fallback). That is false of some schedules
of the LTS (`Props/C09.lean`, `exConcRace`) but true of every schedule the correspondence driver produces:
`Conc.simulate` releases one gated exec call (or cancels) and then runs internal steps to quiescence in the fixed
order of `Conc.nextInternal` — a step of the (one) task that is not parked in an exec call, else a `take`, else a
`submit`, else the return of `Wait`.

Proved here, for every configuration, every decision list and enough fuel (`measure c (init c) ≤ fuel`; the driver's
fuel is enough, `driver_fuel_adequate`):

* `quiesce_atRest` / `simulate_atRest`: every state `simulate` visits is *quiescent* — every task held by a worker
  is inside its exec callback (`nextInternal = none`: no task is at `stopCheck` / `ctxCheck` / `loopTop` / `store`);
* at most one task is ever outside its exec callback between two quiescent points (`Gated.solo`), so the task whose
  exec call returned a final failure reaches its `store … true` step, raises `shouldStop` and returns BEFORE any
  other task is taken from the queue (`Gated.handled`);
* hence in stop mode no `start j 0` event follows a final-failure `done` event in the log (`Gated.quiet`), which is
  `Spec.c09`'s ordering clause (`Bridge.c09_order_of_quiet`), and `Spec.c09` holds of the model's observation in every
  posted state of a gated run (`Props.C09.spec_c09_holds_gated`).
-/
namespace Flyt.Gated
open Flyt Flyt.Conc Flyt.Spec Flyt.Bridge

/-- the start of an item's FIRST attempt: "a new item starts" -/
def isStart0 : Obs → Bool := fun e => match e with
  | .start _ 0 => true
  | _ => false

/-- the task is parked inside the user's exec callback -/
def inExecPc : Pc → Bool := fun pc => match pc with
  | .inExec _ => true
  | _ => false

/-- the task has passed the stop check and its first attempt is still ahead -/
def pre0 : Pc → Bool := fun pc => match pc with
  | .ctxCheck => true
  | .loopTop 0 _ => true
  | _ => false

/-- the task is on its way to raise the stop flag: its retry budget is used up with no (successful) fallback to
    come, or it is about to store the result of a FAILED loop -/
def doomedPc (c : Cfg) (i : Nat) : Pc → Prop
  | .store _ true => True
  | .loopTop k (some _) => 0 < k ∧ ¬ k < c.budget ∧ (c.fb ≠ .custom ∨ ∃ e', (c.fbOut i).res = .error e')
  | _ => False

/-- a final failure has been logged -/
def hasFF (c : Cfg) (s : BState) : Prop := ∃ e ∈ s.log, ffObs c e = true

/-- every task held by a worker is parked in its exec callback -/
def Quiescent (s : BState) : Prop := ∀ p ∈ s.running, inExecPc p.2 = true

/-- **Invariant of gated runs in stop mode.** -/
structure Gated (c : Cfg) (s : BState) : Prop where
  /-- no new item starts after a final failure -/
  quiet : QAfter (ffObs c) isStart0 (hist s)
  /-- at most one task is outside its exec callback -/
  solo : ∀ p ∈ s.running, ∀ q ∈ s.running, inExecPc p.2 = false → inExecPc q.2 = false → p.1 = q.1
  /-- once a final failure is logged no task is between the stop check and its first attempt -/
  noPre0 : hasFF c s → ∀ p ∈ s.running, pre0 p.2 = false
  /-- once a final failure is logged the flag is up, or the failing task is about to raise it -/
  handled : hasFF c s → s.shouldStop = true ∨ ∃ i pc, (i, pc) ∈ s.running ∧ doomedPc c i pc

theorem pre0_of_inExec {pc : Pc} (h : inExecPc pc = true) : pre0 pc = false := by
  cases pc <;> simp_all [inExecPc, pre0]

theorem not_doomed_of_inExec {c : Cfg} {i : Nat} {pc : Pc} (h : inExecPc pc = true) : ¬ doomedPc c i pc := by
  cases pc <;> simp_all [inExecPc, doomedPc]

theorem inExec_false_of_doomed {c : Cfg} {i : Nat} {pc : Pc} (h : doomedPc c i pc) : inExecPc pc = false := by
  cases pc <;> simp_all [inExecPc, doomedPc]

theorem pre0_false_of_doomed {c : Cfg} {i : Nat} {pc : Pc} (h : doomedPc c i pc) : pre0 pc = false := by
  cases pc with
  | loopTop k last =>
    cases last with
    | none => simp [doomedPc] at h
    | some e =>
      cases k with
      | zero => simp [doomedPc] at h
      | succ k => rfl
  | _ => first | rfl | simp [doomedPc] at h

theorem micro_gated_facts {c : Cfg} {s : BState} {i : Nat} {pc pc' : Pc} {b : Bool} {evs : List Obs}
    (h : Micro c s i pc b evs pc') :
    QAfter (ffObs c) isStart0 evs.reverse ∧
    ((∃ e ∈ evs, ffObs c e = true) → doomedPc c i pc') ∧
    (pre0 pc' = true → pre0 pc = true ∨ (pc = .stopCheck ∧ ¬ (s.shouldStop = true ∧ c.stop = true))) ∧
    (doomedPc c i pc → doomedPc c i pc') := by
  cases h with
  | retOk k x hr =>
    refine ⟨qafter_single _ _ _, ?_, by simp [pre0], by simp [doomedPc]⟩
    simp [ffObs, isFinalFailure, hr]
  | retErr k e hr =>
    refine ⟨qafter_single _ _ _, ?_, by simp [pre0], by simp [doomedPc]⟩
    simp only [List.mem_singleton, exists_eq_left, ffObs, isFinalFailure, hr, Bool.and_eq_true, beq_iff_eq]
    rintro ⟨hk, hfb⟩
    refine ⟨Nat.succ_pos _, by omega, ?_⟩
    by_cases hc : c.fb = .custom
    · right
      simp only [hc] at hfb
      cases hres : (c.fbOut i).res with
      | ok x => simp [okOf, hres] at hfb
      | error e' => exact ⟨e', rfl⟩
    · exact .inl hc
  | stopPass hc => exact ⟨trivial, by simp, fun _ => .inr ⟨rfl, hc⟩, by simp [doomedPc]⟩
  | ctxPass _ => exact ⟨trivial, by simp, fun _ => .inl rfl, by simp [doomedPc]⟩
  | loopCancelled k last hk _ => exact ⟨trivial, by simp, by simp [pre0], fun _ => trivial⟩
  | loopAbsent k last hk _ _ =>
    refine ⟨trivial, by simp, by simp [pre0], ?_⟩
    cases last <;> simp [doomedPc]; omega
  | loopStart k last hk _ _ =>
    refine ⟨qafter_single _ _ _, by simp [ffObs], by simp [pre0], ?_⟩
    cases last <;> simp [doomedPc]; omega
  | exhaustedNone k hk => exact ⟨trivial, by simp, by simp [pre0], by simp [doomedPc]⟩
  | fbOk k e x hk hfb hr =>
    refine ⟨qafter_single _ _ _, by simp [ffObs], by simp [pre0], ?_⟩
    simp only [doomedPc]
    rintro ⟨_, _, h | ⟨e', he'⟩⟩
    · exact absurd hfb h
    · rw [hr] at he'; cases he'
  | fbErr k e e' hk hfb hr => exact ⟨qafter_single _ _ _, by simp [ffObs], by simp [pre0], fun _ => trivial⟩
  | noFb k e hk hfb => exact ⟨trivial, by simp, by simp [pre0], fun _ => trivial⟩

/-- an event that is neither a final failure nor a start (`cancel`, `post`) -/
theorem Gated.neutral {c : Cfg} {s s' : BState} {e : Obs} (hG : Gated c s) (hl : s'.log = e :: s.log)
    (hr : s'.running = s.running) (hs : s'.shouldStop = s.shouldStop) (he1 : ffObs c e = false)
    (he2 : isStart0 e = false) : Gated c s' := by
  obtain ⟨h1, h2, h3, h4⟩ := hG
  have hff : hasFF c s' → hasFF c s := by
    rintro ⟨x, hx, hc⟩
    rw [hl] at hx
    rcases List.mem_cons.1 hx with rfl | hx
    · rw [he1] at hc; cases hc
    · exact ⟨x, hx, hc⟩
  refine ⟨?_, ?_, ?_, ?_⟩
  · show QAfter _ _ s'.log.reverse
    rw [hl, List.reverse_cons, qafter_append]
    exact ⟨h1, qafter_single _ _ _, fun _ x hx => by simp at hx; subst hx; exact he2⟩
  · rw [hr]; exact h2
  · intro hf; rw [hr]; exact h3 (hff hf)
  · intro hf; rw [hr, hs]; exact h4 (hff hf)

/-- **One step of a gated run preserves the invariant** (stop mode): a step of task `i` — the return of its exec
    call or an internal step — made while every OTHER task is parked in its exec call, and a `take` made while
    every task is. -/
theorem gated_trans {c : Cfg} {s s' : BState} {l : Label} (hstop : c.stop = true) (hI : Inv c s) (hG : Gated c s)
    (t : Trans c s l s')
    (hact : ∀ i, (l = .ret i ∨ l = .step i) → ∀ p ∈ s.running, p.1 ≠ i → inExecPc p.2 = true)
    (htake : l = .take → ∀ p ∈ s.running, inExecPc p.2 = true) : Gated c s' := by
  have hnd : (s.running.map (·.1)).Nodup := (List.nodup_append.1 hI.nodup).2.1
  -- the acting task is the only candidate for anything that is not parked
  have hdoomed : ∀ {i pc}, pcOf s i = some pc → (∀ p ∈ s.running, p.1 ≠ i → inExecPc p.2 = true) →
      ∀ j pcj, (j, pcj) ∈ s.running → doomedPc c j pcj → j = i ∧ pcj = pc := by
    intro i pc hpc hothers j pcj hj hd
    by_cases hji : j = i
    · subst hji; exact ⟨rfl, Option.some.inj ((pcOf_of_mem hnd hj).symm.trans hpc)⟩
    · exact absurd hd (not_doomed_of_inExec (hothers _ hj hji))
  cases t with
  | submit hn hc => exact ⟨hG.quiet, hG.solo, hG.noPre0, hG.handled⟩
  | cancel hc => exact hG.neutral rfl rfl rfl rfl rfl
  | waitRet a b c' d => exact hG.neutral rfl rfl rfl rfl rfl
  | take t q hq hi =>
    obtain ⟨h1, h2, h3, h4⟩ := hG
    have hall := htake rfl
    refine ⟨h1, ?_, ?_, ?_⟩
    · intro p hp q' hq' hpn hqn
      simp only [List.mem_append, List.mem_singleton] at hp hq'
      rcases hp with hp | rfl
      · rw [hall p hp] at hpn; cases hpn
      · rcases hq' with hq' | rfl
        · rw [hall q' hq'] at hqn; cases hqn
        · rfl
    · intro hf p hp
      simp only [List.mem_append, List.mem_singleton] at hp
      rcases hp with hp | rfl
      · exact h3 hf p hp
      · rfl
    · intro hf
      rcases h4 hf with h | ⟨j, pcj, hm, hd⟩
      · exact .inl h
      · exact .inr ⟨j, pcj, List.mem_append.2 (.inl hm), hd⟩
  | advance i pc b evs pc' l hpc hm hl =>
    obtain ⟨h1, h2, h3, h4⟩ := hG
    obtain ⟨f1, f3, f4, f5⟩ := micro_gated_facts hm
    have hothers := hact i hl
    have hmem := pcOf_mem hpc
    have hids := pcOf_ids hpc
    have hdoomed := hdoomed hpc hothers
    have hff' : hasFF c (setPc { s with cancelled := s.cancelled || b, log := evs ++ s.log } i pc') →
        (∃ e ∈ evs, ffObs c e = true) ∨ hasFF c s := by
      rintro ⟨e, he, hc⟩
      rcases List.mem_append.1 he with he | he
      · exact .inl ⟨e, he, hc⟩
      · exact .inr ⟨e, he, hc⟩
    have hnew : (i, pc') ∈ (setPc { s with cancelled := s.cancelled || b, log := evs ++ s.log } i pc').running :=
      mem_setPc.2 (.inl ⟨rfl, rfl, hids⟩)
    refine ⟨?_, ?_, ?_, ?_⟩
    · show QAfter _ _ (evs ++ s.log).reverse
      rw [List.reverse_append, qafter_append]
      refine ⟨h1, f1, ?_⟩
      rintro ⟨e, he, hc⟩ x hx
      cases hx0 : isStart0 x with
      | false => rfl
      | true =>
        -- a first attempt starts from the top of the retry loop, where the acting task would be `pre0`
        obtain ⟨j, rfl⟩ : ∃ j, x = .start j 0 := by
          cases x with
          | start j k => cases k with | zero => exact ⟨j, rfl⟩ | succ k => cases hx0
          | _ => cases hx0
        obtain ⟨_, _, last, rfl⟩ := micro_start hm (List.mem_reverse.1 hx)
        cases h3 ⟨e, List.mem_reverse.1 he, hc⟩ _ hmem
    · intro p hp q hq hpn hqn
      have hid : ∀ r ∈ (setPc { s with cancelled := s.cancelled || b, log := evs ++ s.log } i pc').running,
          inExecPc r.2 = false → r.1 = i := by
        intro r hr hrn
        obtain ⟨r1, r2⟩ := r
        rcases mem_setPc.1 hr with ⟨rfl, _, _⟩ | ⟨hne, hm'⟩
        · rfl
        · have := hothers _ hm' hne
          simp only at hrn this; rw [this] at hrn; cases hrn
      rw [hid p hp hpn, hid q hq hqn]
    · intro hf p hp
      obtain ⟨p1, p2⟩ := p
      rcases mem_setPc.1 hp with ⟨rfl, rfl, _⟩ | ⟨hne, hm'⟩
      · cases hpre : pre0 p2 with
        | false => rfl
        | true =>
          exfalso
          rcases hff' hf with hnewff | hold
          · have := pre0_false_of_doomed (f3 hnewff)
            rw [hpre] at this; cases this
          · rcases f4 hpre with hp0 | ⟨rfl, hns⟩
            · have := h3 hold _ hmem
              simp only at this; rw [hp0] at this; cases this
            · rcases h4 hold with hss | ⟨j, pcj, hj, hd⟩
              · exact hns ⟨hss, hstop⟩
              · obtain ⟨_, rfl⟩ := hdoomed j pcj hj hd
                simp [doomedPc] at hd
      · exact pre0_of_inExec (hothers _ hm' hne)
    · intro hf
      rcases hff' hf with hnewff | hold
      · exact .inr ⟨i, pc', hnew, f3 hnewff⟩
      · rcases h4 hold with hss | ⟨j, pcj, hj, hd⟩
        · exact .inl hss
        · obtain ⟨rfl, rfl⟩ := hdoomed j pcj hj hd
          exact .inr ⟨j, pc', hnew, f5 hd⟩
  | finish i pc r b hpc hf =>
    obtain ⟨h1, h2, h3, h4⟩ := hG
    refine ⟨h1, ?_, ?_, ?_⟩
    · intro p hp q hq hpn hqn
      obtain ⟨p1, p2⟩ := p
      obtain ⟨q1, q2⟩ := q
      exact h2 _ (mem_finish.1 hp).2 _ (mem_finish.1 hq).2 hpn hqn
    · intro hff p hp
      obtain ⟨p1, p2⟩ := p
      exact h3 hff _ (mem_finish.1 hp).2
    · intro hff
      left
      rcases h4 hff with hss | ⟨j, pcj, hj, hd⟩
      · show (s.shouldStop || b) = true
        simp [hss]
      · obtain ⟨rfl, rfl⟩ := hdoomed hpc (hact i (.inr rfl)) j pcj hj hd
        cases hf with
        | store r fl =>
          cases fl with
          | false => simp [doomedPc] at hd
          | true => show (s.shouldStop || (true && c.stop)) = true; simp [hstop]
        | _ => simp [doomedPc] at hd

/-- `nextInternal`'s test: the task is not parked in its exec callback -/
def nonExec (p : Nat × Pc) : Bool := match p.2 with
  | .inExec _ => false
  | _ => true

theorem nonExec_eq (p : Nat × Pc) : nonExec p = !inExecPc p.2 := by
  obtain ⟨i, pc⟩ := p
  cases pc <;> rfl

theorem find_nonExec (s : BState) :
    (∃ i pc, s.running.find? nonExec = some (i, pc) ∧ (i, pc) ∈ s.running ∧ inExecPc pc = false) ∨
    (s.running.find? nonExec = none ∧ Quiescent s) := by
  cases hf : s.running.find? nonExec with
  | some p =>
    have h2 := List.find?_some hf
    rw [nonExec_eq] at h2
    exact .inl ⟨p.1, p.2, rfl, List.mem_of_find?_eq_some hf, by simpa using h2⟩
  | none =>
    refine .inr ⟨rfl, fun p hp => ?_⟩
    have := List.find?_eq_none.1 hf p hp
    rw [nonExec_eq] at this
    simpa using this

theorem nextInternal_cases {c : Cfg} {s : BState} {l : Label} (h : nextInternal c s = some l) :
    (∃ i pc, (i, pc) ∈ s.running ∧ inExecPc pc = false ∧ l = .step i) ∨
    (Quiescent s ∧ ((l = .take ∧ s.queue ≠ [] ∧ s.idle > 0) ∨ (l = .submit ∧ s.next < c.n ∧ s.queue.length < c.cap) ∨
      (l = .waitRet ∧ s.next = c.n ∧ s.queue = [] ∧ s.running = [] ∧ ¬ s.posted))) := by
  unfold nextInternal at h
  change (match s.running.find? nonExec with
    | some (i, _) => some (Label.step i)
    | none => _) = some l at h
  rcases find_nonExec s with ⟨i, pc, hf, hm, hn⟩ | ⟨hf, hq⟩ <;> rw [hf] at h
  · exact .inl ⟨i, pc, hm, hn, (Option.some.inj h).symm⟩
  · refine .inr ⟨hq, ?_⟩
    simp only at h
    split at h
    · rename_i hc; exact .inl ⟨(Option.some.inj h).symm, hc⟩
    · split at h
      · rename_i hc; exact .inr (.inl ⟨(Option.some.inj h).symm, hc⟩)
      · split at h
        · rename_i hc; exact .inr (.inr ⟨(Option.some.inj h).symm, hc⟩)
        · cases h

/-- **the key lemma**: a state in which `nextInternal` has nothing to do is quiescent — no task held by a worker
    is at `stopCheck` / `ctxCheck` / `loopTop` / `store`: all of them are inside their exec callback -/
theorem quiescent_of_nextInternal_none {c : Cfg} {s : BState} (h : nextInternal c s = none) : Quiescent s := by
  unfold nextInternal at h
  change (match s.running.find? nonExec with
    | some (i, _) => some (Label.step i)
    | none => _) = none at h
  rcases find_nonExec s with ⟨i, pc, hf, _⟩ | ⟨_, hq⟩
  · rw [hf] at h; cases h
  · exact hq

theorem quiescent_pc {s : BState} (h : Quiescent s) {i : Nat} {pc : Pc} (hpc : pcOf s i = some pc) :
    ∃ k, pc = .inExec k := by
  have := h _ (pcOf_mem hpc)
  cases pc <;> simp_all [inExecPc]

theorem nextInternal_enabled {c : Cfg} {s : BState} {l : Label} (hr : Reachable c s) (h : nextInternal c s = some l) :
    ∃ s', apply c s l = some s' := by
  have hnd : (s.running.map (·.1)).Nodup := (List.nodup_append.1 (inv_reachable hr).nodup).2.1
  apply Option.isSome_iff_exists.1
  rcases nextInternal_cases h with ⟨i, pc, hm, hne, rfl⟩ | ⟨_, ⟨rfl, hc⟩ | ⟨rfl, hc⟩ | ⟨rfl, hc⟩⟩
  · exact step_enabled (pcOf_of_mem hnd hm) (by rintro k rfl; cases hne)
  · simp only [apply]
    cases hqq : s.queue with
    | nil => exact absurd hqq hc.1
    | cons t q => simp [hc.2]
  · simp [apply, hc]
  · simp only [apply]
    rw [if_pos hc]; rfl

theorem gated_internal {c : Cfg} {s s' : BState} {l : Label} (hstop : c.stop = true) (hr : Reachable c s)
    (hG : Gated c s) (hn : nextInternal c s = some l) (ha : apply c s l = some s') : Gated c s' := by
  refine gated_trans hstop (inv_reachable hr) hG (trans_of_apply ha) ?_ ?_
  · intro i hl p hp hne
    rcases nextInternal_cases hn with ⟨j, pc, hm, hnp, rfl⟩ | ⟨_, ⟨h, _⟩ | ⟨h, _⟩ | ⟨h, _⟩⟩
    · have hji : j = i := by
        rcases hl with h | h
        · cases h
        · exact Label.step.inj h
      subst hji
      cases hp' : inExecPc p.2 with
      | true => rfl
      | false => exact absurd (hG.solo p hp (j, pc) hm hp' hnp) hne
    all_goals (subst h; rcases hl with h | h <;> cases h)
  · intro hl
    subst hl
    rcases nextInternal_cases hn with ⟨j, pc, hm, hnp, h⟩ | ⟨hq, _⟩
    · cases h
    · exact hq

theorem measure_le_of_path {c : Cfg} {s s' : BState} (hr : Reachable c s) (p : Path c s s') :
    measure c s' ≤ measure c s := by
  induction p with
  | refl => exact Nat.le_refl _
  | step p' hs ih =>
    obtain ⟨l, hl⟩ := hs
    have hr' := hr.path p'
    have := measure_decreases (inv_reachable hr') (logInv_reachable hr') (trans_of_apply hl)
    omega

theorem quiesce_quiescent {c : Cfg} : ∀ (fuel : Nat) (s : BState), Reachable c s → measure c s ≤ fuel →
    nextInternal c (quiesce c fuel s) = none := by
  intro fuel
  induction fuel with
  | zero =>
    intro s hr hm
    show nextInternal c s = none
    cases hn : nextInternal c s with
    | none => rfl
    | some l =>
      obtain ⟨s', hs'⟩ := nextInternal_enabled hr hn
      have := measure_decreases (inv_reachable hr) (logInv_reachable hr) (trans_of_apply hs')
      omega
  | succ fuel ih =>
    intro s hr hm
    unfold quiesce
    cases hn : nextInternal c s with
    | none => exact hn
    | some l =>
      obtain ⟨s', hs'⟩ := nextInternal_enabled hr hn
      simp only [hs']
      have hd := measure_decreases (inv_reachable hr) (logInv_reachable hr) (trans_of_apply hs')
      exact ih s' (hr.step ⟨l, hs'⟩) (by omega)

/-- what holds at every point where the gated simulation stops: the state is reachable, nothing internal is left to do, and
    in stop mode the gated invariant holds -/
def AtRest (c : Cfg) (s : BState) : Prop := Reachable c s ∧ nextInternal c s = none ∧ (c.stop = true → Gated c s)

theorem quiesce_atRest {c : Cfg} (fuel : Nat) {s : BState} (hr : Reachable c s) (hG : c.stop = true → Gated c s)
    (hm : measure c s ≤ fuel) : AtRest c (quiesce c fuel s) := by
  obtain ⟨hr', hG'⟩ := quiesce_invariant (P := fun s => Reachable c s ∧ (c.stop = true → Gated c s))
    (fun ⟨hr, hG⟩ hn ha => ⟨hr.step ⟨_, ha⟩, fun hs => gated_internal hs hr (hG hs) hn ha⟩) fuel ⟨hr, hG⟩
  exact ⟨hr', quiesce_quiescent fuel s hr hm, hG'⟩

theorem gated_init (c : Cfg) : Gated c (init c) := by
  refine ⟨by simp [hist, init, QAfter], by simp [init], ?_, ?_⟩ <;>
  · rintro ⟨e, he, _⟩; simp [init] at he

theorem measure_reachable_le {c : Cfg} {s : BState} (hr : Reachable c s) : measure c s ≤ measure c (init c) :=
  measure_le_of_path .init (reachable_iff_path.1 hr)

/-- one decision of the gating harness, from a state at rest: all tasks being parked, the released task (or the
    cancellation) acts alone -/
theorem decide1_atRest {c : Cfg} {fuel : Nat} {s s' : BState} {d : Decision} (hfuel : measure c (init c) ≤ fuel)
    (h : AtRest c s) (hd : decide1 c fuel s d = some s') : AtRest c s' := by
  obtain ⟨hr, hq, hG⟩ := h
  obtain ⟨l, t, hl, ht, rfl⟩ := decide1_eq hd
  have hrt : Reachable c t := hr.step ⟨_, ht⟩
  have hQ := quiescent_of_nextInternal_none hq
  refine quiesce_atRest fuel hrt (fun hs => ?_) (Nat.le_trans (measure_reachable_le hrt) hfuel)
  refine gated_trans hs (inv_reachable hr) (hG hs) (trans_of_apply ht) (fun _ _ p hp _ => hQ p hp) ?_
  rintro rfl
  rcases hl with h | ⟨_, h⟩ <;> cases h

/-- **Every state the gated simulation visits is at rest**: all tasks held by workers are parked in their exec
    callbacks (every mode), and in stop mode no new item has started after a final failure. -/
theorem simulate_atRest {c : Cfg} {fuel : Nat} {ds : List Decision} {sts : List BState}
    (hfuel : measure c (init c) ≤ fuel) (h : simulate c fuel ds = some sts) : ∀ x ∈ sts, AtRest c x :=
  simulate_invariant (quiesce_atRest fuel .init (fun _ => gated_init c) hfuel) (decide1_atRest hfuel) h

/-- the fuel `Driver/BatchFam.lean` gives to `simulate` is enough -/
theorem driver_fuel_adequate (c : Cfg) : measure c (init c) ≤ 50 * (c.n + 2) * (c.budget + 2) + 100 := by
  have h1 : measure c (init c) = c.n * (2 * c.budget + 6) + 2 := by
    simp [Conc.measure, init, runSum]
  have h2 : c.n * (2 * c.budget + 6) = 2 * (c.n * c.budget) + 6 * c.n := by
    rw [Nat.mul_add, Nat.mul_left_comm, Nat.mul_comm c.n 6]
  have h3 : 50 * (c.n + 2) * (c.budget + 2) = 50 * (c.n * c.budget) + 100 * c.n + 100 * c.budget + 200 := by
    simp only [Nat.mul_add, Nat.add_mul, Nat.mul_assoc]
    omega
  omega


end Flyt.Gated
