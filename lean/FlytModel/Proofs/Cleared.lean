import FlytModel.Proofs.Cancel
/-!
# A run that was not cut short does not depend on the cancellation (helper lemmas for C05 (iii))

`clearEnv env` is the same scenario with every `cancels` flag cleared and no asynchronous cancellation during
waits (the driver's `noCancelEnv`, the reference run `ref` of `Spec.c05`).  A run that ends on a live context,
or that returns an action although some leaf callback cancelled, produces exactly the reference run's trace,
visit counters and outcome.
-/
namespace Flyt.Proofs
open Flyt

def clearLeaf (s : LeafScript) : LeafScript :=
  { prep := clearOut s.prep, exec := fun k => clearOut (s.exec k), waitCancel := fun _ => false,
    fb := clearOut s.fb, post := clearOut s.post }

def clearItem (it : ItemScript) : ItemScript :=
  { exec := fun k => clearOut (it.exec k), waitCancel := fun _ => false, fb := clearOut it.fb }

def clearBatch (s : BatchScript) : BatchScript :=
  { prep := clearOut s.prep, item := fun i => clearItem (s.item i), post := clearOut s.post }

def clearEnv (env : Env) : Env :=
  { env with leafBeh := fun n v => clearLeaf (env.leafBeh n v), batchBeh := fun n v => clearBatch (env.batchBeh n v) }

def relive (s : RunSt) : RunSt := { s with ctx := .live }

theorem relive_of_live {s : RunSt} (h : s.ctx = .live) : relive s = s := by
  cases s; simp_all [relive]

theorem fallbackPhase_clear {kind fb mkFb} {fbOut : Out Val} {ctx r fev c eres}
    (h : fallbackPhase kind fb mkFb fbOut ctx r = (fev, c, eres)) :
    fallbackPhase kind fb mkFb (clearOut fbOut) .live r = (fev, .live, eres) := by
  rcases fallbackPhase_cases h with ⟨x, rfl, rfl, _, rfl⟩ | ⟨k, rfl, rfl, _, rfl⟩ | ⟨e, rfl, hfb, rfl, _, rfl⟩ |
      ⟨e, rfl, rfl, rfl, _, rfl⟩
  · rfl
  · rfl
  · cases fb with
    | custom => exact absurd rfl hfb
    | _ => rfl
  · simp only [fallbackPhase, clearOut_res, clearOut_cancels, after_live_false]
    cases fbOut.res <;> rfl

theorem prepOk_clear {kind n v sid cfg scr pev pv} (h : PrepOk kind n v sid cfg scr pev pv) :
    PrepOk kind n v sid cfg (clearLeaf scr) pev pv := by
  rcases h with h | ⟨h1, h2, _, x, hx, h4⟩
  · exact .inl h
  · exact .inr ⟨h1, h2, rfl, x, hx, h4⟩

theorem execPhase_clear {kind n v cfg scr pv aev c2 ares fev c3 eres}
    (h : ExecPhase kind n v cfg scr pv aev c2 ares fev c3 eres) (hok : c3 = .live ∨ ∃ ev, eres = .ok ev) :
    ExecPhase kind n v cfg (clearLeaf scr) pv aev .live ares fev .live eres := by
  obtain ⟨hA, hF⟩ := h
  refine ⟨attempts_cleared_of hA fun kd hk => ?_, fallbackPhase_clear hF⟩
  subst hk
  rcases fallbackPhase_cases hF with ⟨x, hx, _⟩ | ⟨k, _, _, hc, he⟩ | ⟨e, hx, _⟩ | ⟨e, hx, _⟩
  · cases hx
  · rcases hok with hok | ⟨ev, hok⟩
    · rw [hc, attempts_cancelled_of hA] at hok; cases hok
    · rw [he] at hok; cases hok
  · cases hx
  · cases hx

theorem leafFinish_clear {kind n v sid cfg scr pre pv c3 eres evs c out}
    (h : leafFinish kind n v sid cfg scr pre pv c3 eres = (evs, c, out)) :
    leafFinish kind n v sid cfg (clearLeaf scr) pre pv .live eres = (evs, .live, out) := by
  have hr : (clearLeaf scr).post.res = scr.post.res := rfl
  unfold leafFinish at h ⊢
  rw [hr]
  revert h
  cases eres with
  | error e => intro h; cases h; rfl
  | ok ev => cases cfg.postS <;> cases scr.post.res <;> intro h <;> cases h <;> rfl

theorem runLeaf_cleared {kind n v sid cfg scr evs c out}
    (h : runLeaf kind n v sid cfg scr .live = (evs, c, out)) (hok : c = .live ∨ ∃ a, out = .ok a) :
    runLeaf kind n v sid cfg (clearLeaf scr) .live = (evs, .live, out) := by
  have body : ∀ {pev pv aev c2 ares fev c3 eres}, PrepOk kind n v sid cfg scr pev pv →
      ExecPhase kind n v cfg scr pv aev c2 ares fev c3 eres → (c3 = .live ∨ ∃ ev, eres = .ok ev) →
      runLeaf kind n v sid cfg (clearLeaf scr) .live = (evs, .live, out) := fun hP hE hok' => by
    rw [runLeaf_body hP hE] at h
    rw [runLeaf_body (prepOk_clear hP) (execPhase_clear hE hok')]
    exact leafFinish_clear h
  cases leafShape_of_runLeaf h with
  | @prepErr e hne hr =>
    have hc : scr.prep.cancels = false := by
      rcases hok with hok | ⟨a, hok⟩
      · cases hcz : scr.prep.cancels with
        | false => rfl
        | true => rw [hcz] at hok; cases hok
      · cases hok
    cases hs : cfg.prepS
    case absent => exact absurd hs hne
    all_goals simp [runLeaf, hs, clearLeaf, hr, Except.map]
  | prepCancel => rcases hok with hok | ⟨a, hok⟩ <;> cases hok
  | execErr hP hE => exact body hP hE (hok.imp_right fun ⟨_, ha⟩ => nomatch ha)
  | noPost hP hE => exact body hP hE (.inr ⟨_, rfl⟩)
  | postErr hP hE => exact body hP hE (.inr ⟨_, rfl⟩)
  | postOk hP hE => exact body hP hE (.inr ⟨_, rfl⟩)

section batch
variable {env : Env} {n : NodeId} {v : Nat} {sid : StoreId} {cfg : BatchCfg}

theorem runItem_cleared {i : Nat} {item : Result}
    (hq : ∀ e ∈ (runItem env.kind n v cfg i item ((env.batchBeh n v).item i) .live).1, cancelsAt env e = false) :
    runItem env.kind n v cfg i item ((clearBatch (env.batchBeh n v)).item i) .live =
      ((runItem env.kind n v cfg i item ((env.batchBeh n v).item i) .live).1, .live,
       (runItem env.kind n v cfg i item ((env.batchBeh n v).item i) .live).2.2) := by
  obtain ⟨aev, c1, ares, fev, c2, eres, hA, hF, hR⟩ :=
    runItem_eq env.kind n v cfg i item ((env.batchBeh n v).item i) .live
  rw [hR] at hq ⊢
  have hl : c1 = .live :=
    (attempts_track (cancelsAt env) (fun _ => cancelsAt_eq env _) (fun _ _ => cancelsAt_eq env _) hA).quiet rfl
      fun e he => hq e (List.mem_append_left _ he)
  have hA' := attempts_cleared_of hA fun kd hk => by
    subst hk; rw [attempts_cancelled_of hA] at hl; cases hl
  simp only [runItem, clearBatch, clearItem, hA', fallbackPhase_clear hF]
  cases eres <;> rfl

theorem itemsSeq_cleared (items : List Result) (i : Nat) :
    (∀ e ∈ (itemsSeq env.kind n v cfg (env.batchBeh n v) items i .live).1, cancelsAt env e = false) →
    itemsSeq env.kind n v cfg (clearBatch (env.batchBeh n v)) items i .live =
      ((itemsSeq env.kind n v cfg (env.batchBeh n v) items i .live).1, .live,
       (itemsSeq env.kind n v cfg (env.batchBeh n v) items i .live).2.2) := by
  refine BatchSeq.itemsSeq_induct env.kind n v cfg (env.batchBeh n v)
    (P := fun items i ctx res => ctx = .live → (∀ e ∈ res.1, cancelsAt env e = false) →
      itemsSeq env.kind n v cfg (clearBatch (env.batchBeh n v)) items i .live = (res.1, .live, res.2.2))
    (fun _ _ _ _ => rfl) (fun _ _ _ hc => nomatch hc) ?_ ?_ items i .live rfl
  · intro it rest i r t hr hs _ ih _ hq
    subst hr
    have hi := runItem_cleared fun e he => hq e (List.mem_append_left _ he)
    have hl := runItem_track.quiet rfl fun e he => hq e (List.mem_append_left _ he)
    rw [BatchSeq.itemsSeq_live_cont _ _ _ _ _ _ _ _ (by rw [hi]; exact hs)]
    simp only [hi, ih hl fun e he => hq e (List.mem_append_right _ he)]
  · intro hs it rest i r e hr he _ hq
    subst hr
    have hi := runItem_cleared hq
    rw [BatchSeq.itemsSeq_live_stop _ _ _ _ _ hs _ _ _ (by rw [hi]; exact he), hi]

theorem runBatch_cleared {evs c out}
    (h : runBatch env.kind n v sid cfg (env.batchBeh n v) .live = (evs, c, out))
    (hq : ∀ e ∈ evs, cancelsAt env e = false) :
    runBatch env.kind n v sid cfg (clearBatch (env.batchBeh n v)) .live = (evs, .live, out) := by
  cases hr : (env.batchBeh n v).prep.res with
  | error e =>
    simp only [runBatch, hr] at h
    cases h
    simp [runBatch, clearBatch, hr]
  | ok l =>
    have hr' : (clearBatch (env.batchBeh n v)).prep.res = .ok l := hr
    rw [BatchSeq.runBatch_ok _ _ _ _ _ _ _ hr] at h
    rw [BatchSeq.runBatch_ok _ _ _ _ _ _ _ hr']
    have hcl : (∀ e ∈ Ev.bprep n v sid :: (itemsSeq env.kind n v cfg (env.batchBeh n v) (normItems cfg.shape l) 0
          (Ctx.live.after env.kind (env.batchBeh n v).prep.cancels)).1, cancelsAt env e = false) →
        itemsSeq env.kind n v cfg (clearBatch (env.batchBeh n v)) (normItems cfg.shape l) 0 .live =
          ((itemsSeq env.kind n v cfg (env.batchBeh n v) (normItems cfg.shape l) 0
            (Ctx.live.after env.kind (env.batchBeh n v).prep.cancels)).1, .live,
           (itemsSeq env.kind n v cfg (env.batchBeh n v) (normItems cfg.shape l) 0
            (Ctx.live.after env.kind (env.batchBeh n v).prep.cancels)).2.2) := by
      intro hq'
      have hpc : (env.batchBeh n v).prep.cancels = false :=
        (cancelsAt_eq env (.bprep n v sid)).symm.trans (hq' _ (List.mem_cons_self ..))
      rw [hpc, after_live_false] at hq' ⊢
      exact itemsSeq_cleared _ 0 fun e he => hq' e (List.mem_cons_of_mem _ he)
    rw [show Ctx.live.after env.kind (clearBatch (env.batchBeh n v)).prep.cancels = .live from rfl]
    cases hp : cfg.hasPost <;> simp only [hp, if_true, Bool.false_eq_true, if_false] at h ⊢ <;> cases h
    · rw [hcl hq]
    · rw [hcl fun e he => hq e (List.mem_append_left _ he)]
      rfl

end batch

theorem step_cleared {st : RunSt} {id : NodeId} {r r' : List Ev × Ctx × Outcome} {evs st' out}
    (h : (r.1, { (st.bumpIf (!r.1.isEmpty) id) with ctx := r.2.1 }, r.2.2) = (evs, st', out))
    (hr' : r' = (evs, .live, out)) :
    (r'.1, { (st.bumpIf (!r'.1.isEmpty) id) with ctx := r'.2.1 }, r'.2.2) = (evs, relive st', out) := by
  subst hr'
  cases h
  rfl

/-- **a run that was not cut short is the run of the scenario without cancellation**: if it starts on a live
    context, ends on a live one or returns an action, and no batch event cancels (`cancelsAt`), then the same derivation exists in
    `clearEnv env`, with the same events, visit counters and outcome. -/
theorem big_cleared {env : Env} {sid task st evs st' r} (h : Big env sid task st evs st' r) :
    st.ctx = .live → (∀ e ∈ evs, Spec.isBatchEv e = true → cancelsAt env e = false) →
    (st'.ctx = .live ∨ ∃ a, r = .ok a) → Big (clearEnv env) sid task st evs (relive st') r := by
  induction h with
  | leaf hA h =>
    intro hc _ hok
    have hr := leafStep_ctx h
    rw [hc] at hr
    refine .leaf hA (step_cleared h ?_)
    rw [hc]
    exact runLeaf_cleared hr hok
  | batch hA h =>
    intro hc hq _
    have hr := batchStep_ctx h
    rw [hc] at hr
    refine .batch hA (step_cleared h ?_)
    rw [hc]
    exact runBatch_cleared (env := env) hr fun e he => hq e he (runBatch_mem hr e he).isBatch
  | flowDone _ hc' => intro hc; rw [hc] at hc'; cases hc'
  | flowNoStart hA => intro hc _ _; rw [relive_of_live hc]; exact .flowNoStart hA hc
  | flowOk hA _ _ ih => intro hc hq _; exact .flowOk hA hc (ih hc hq (.inr ⟨_, rfl⟩))
  | flowFail hA _ _ hne ih => intro hc hq hok; exact .flowFail hA hc (ih hc hq hok) hne
  | loopDone hc' => intro hc; rw [hc] at hc'; cases hc'
  | loopStop _ _ hnx ih => intro hc hq _; exact .loopStop hc (ih hc hq (.inr ⟨_, rfl⟩)) hnx
  | @loopStep ops cur st evs st' a nxt evs2 st'' r _ _ hnx h2 ih1 ih2 =>
    intro hc hq hok
    have hl1 : st'.ctx = .live := by
      cases hctx : st'.ctx with
      | live => rfl
      | done k =>
        obtain ⟨_, hst, hr⟩ := big_done h2 hctx (by intro id cfg ht; cases ht)
        rcases hok with hok | ⟨b, hok⟩
        · rw [hst, hctx] at hok; cases hok
        · rw [hr] at hok; cases hok
    have b1 := ih1 hc (fun e he => hq e (List.mem_append_left _ he)) (.inl hl1)
    rw [relive_of_live hl1] at b1
    exact .loopStep hc b1 hnx (ih2 hl1 (fun e he => hq e (List.mem_append_right _ he)) hok)
  | loopFail _ _ hne ih => intro hc hq hok; exact .loopFail hc (ih hc hq hok) hne

end Flyt.Proofs
