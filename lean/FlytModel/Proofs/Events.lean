import FlytModel.Proofs.BatchLemmas
/-!
# Which events a node's run emits (helper lemmas for C03 "no node off the path is touched",
C10 "same shared store", C05 "only the same visit's fallback / post")
-/
namespace Flyt.Proofs
open Flyt

/-- the store identity a callback event carries (prep / post callbacks receive the store) -/
def evSid : Ev → Option StoreId
  | .prep _ _ s => some s
  | .post _ _ s _ _ => some s
  | .bprep _ _ s => some s
  | .bpost _ _ s _ _ => some s
  | _ => none

/-- event of visit `v` of leaf `n` run on store `sid` -/
def LeafEv (n : NodeId) (v : Nat) (sid : StoreId) : Ev → Prop
  | .prep n' v' s => n' = n ∧ v' = v ∧ s = sid
  | .exec n' v' _ _ => n' = n ∧ v' = v
  | .wait n' v' _ _ _ => n' = n ∧ v' = v
  | .fb n' v' _ _ => n' = n ∧ v' = v
  | .post n' v' s _ _ => n' = n ∧ v' = v ∧ s = sid
  | _ => False

/-- event of visit `v` of batch node `n` run on store `sid` -/
def BatchEv (n : NodeId) (v : Nat) (sid : StoreId) : Ev → Prop
  | .bprep n' v' s => n' = n ∧ v' = v ∧ s = sid
  | .bpost n' v' s _ _ => n' = n ∧ v' = v ∧ s = sid
  | e => ItemEv n v e

theorem LeafEv.key {n v sid e} (h : LeafEv n v sid e) : Spec.evKey e = (n, v) := by
  cases e <;> simp_all [LeafEv, Spec.evKey]
theorem LeafEv.sid {n v sid e} (h : LeafEv n v sid e) : evSid e = none ∨ evSid e = some sid := by
  cases e <;> simp_all [LeafEv, evSid]
theorem LeafEv.notBatch {n v sid e} (h : LeafEv n v sid e) : Spec.isBatchEv e = false := by
  cases e <;> simp_all [LeafEv, Spec.isBatchEv]
theorem BatchEv.key {n v sid e} (h : BatchEv n v sid e) : Spec.evKey e = (n, v) := by
  cases e <;> simp_all [BatchEv, ItemEv, Spec.evKey]
theorem BatchEv.sid {n v sid e} (h : BatchEv n v sid e) : evSid e = none ∨ evSid e = some sid := by
  cases e <;> simp_all [BatchEv, ItemEv, evSid]
theorem BatchEv.isBatch {n v sid e} (h : BatchEv n v sid e) : Spec.isBatchEv e = true := by
  cases e <;> simp_all [BatchEv, ItemEv, Spec.isBatchEv]
theorem ItemEv.batchEv {n v sid e} (h : ItemEv n v e) : BatchEv n v sid e := by
  cases e <;> simp_all [BatchEv, ItemEv]

theorem prepOk_mem {kind n v sid cfg scr pev pv} (h : PrepOk kind n v sid cfg scr pev pv) :
    ∀ e ∈ pev, e = .prep n v sid := by
  rcases h with ⟨_, rfl, _⟩ | ⟨_, rfl, _⟩ <;> simp

theorem execPhase_mem {kind n v cfg scr pv aev c2 ares fev c3 eres}
    (h : ExecPhase kind n v cfg scr pv aev c2 ares fev c3 eres) :
    (∀ e ∈ aev, (∃ k a, e = .exec n v k a) ∨ (∃ k d f, e = .wait n v k d f)) ∧
    (∀ e ∈ fev, ∃ a err, e = .fb n v a err) := by
  obtain ⟨hA, hF⟩ := h
  constructor
  · have := attempts_mem (kind := kind) (mkExec := fun k => Ev.exec n v k (execArg cfg.execS pv))
      (mkWait := fun k f => Ev.wait n v k cfg.effWait f) (exec := scr.exec) (waitCancel := scr.waitCancel)
      (execS := cfg.execS) (wait := cfg.effWait) 0 cfg.effBudget none .live
    rw [hA] at this
    intro e he
    rcases this e he with ⟨j, _, _, rfl, _⟩ | ⟨j, b, _, _, rfl⟩
    · exact .inl ⟨_, _, rfl⟩
    · exact .inr ⟨_, _, _, rfl⟩
  · rcases fallbackPhase_cases hF with ⟨x, _, rfl, _⟩ | ⟨k, _, rfl, _⟩ | ⟨e', _, _, rfl, _⟩ | ⟨e', _, _, rfl, _⟩
    · simp
    · simp
    · simp
    · intro e he; simp at he; exact ⟨_, _, he⟩

theorem runLeaf_all {P : Ev → Prop} {kind n v sid cfg scr ctx evs c out}
    (h : runLeaf kind n v sid cfg scr ctx = (evs, c, out)) (hprep : P (.prep n v sid))
    (hloop : ∀ {pv aev c2 ares fev c3 eres}, ExecPhase kind n v cfg scr pv aev c2 ares fev c3 eres → ∀ e ∈ aev, P e)
    (hfb : ∀ a err, P (.fb n v a err)) (hpost : ∀ a b, P (.post n v sid a b)) : ∀ e ∈ evs, P e := by
  cases ctx with
  | done k => rw [Leaf.runLeaf_done] at h; cases h; simp
  | live =>
    have body : ∀ {pev pv aev c2 ares fev c3 eres}, PrepOk kind n v sid cfg scr pev pv →
        ExecPhase kind n v cfg scr pv aev c2 ares fev c3 eres → ∀ e ∈ pev ++ aev ++ fev, P e := by
      intro pev pv aev c2 ares fev c3 eres hP hE
      simp only [List.forall_mem_append]
      refine ⟨⟨fun e he => prepOk_mem hP e he ▸ hprep, hloop hE⟩, fun e he => ?_⟩
      obtain ⟨a, err, rfl⟩ := (execPhase_mem hE).2 e he
      exact hfb a err
    cases leafShape_of_runLeaf h with
    | prepErr => simpa using hprep
    | prepCancel => simpa using hprep
    | execErr hP hE => exact body hP hE
    | noPost hP hE _ => exact body hP hE
    | postErr hP hE _ _ => rw [List.forall_mem_append, List.forall_mem_singleton]; exact ⟨body hP hE, hpost _ _⟩
    | postOk hP hE _ _ => rw [List.forall_mem_append, List.forall_mem_singleton]; exact ⟨body hP hE, hpost _ _⟩

theorem runLeaf_mem {kind n v sid cfg scr ctx evs c out} (h : runLeaf kind n v sid cfg scr ctx = (evs, c, out)) :
    ∀ e ∈ evs, LeafEv n v sid e := by
  refine runLeaf_all h (by simp [LeafEv]) (fun hE e he => ?_) (fun _ _ => by simp [LeafEv]) (fun _ _ => by simp [LeafEv])
  rcases (execPhase_mem hE).1 e he with ⟨k, a, rfl⟩ | ⟨k, d, f, rfl⟩ <;> simp [LeafEv]

theorem runBatch_all {P : Ev → Prop} {kind n v sid cfg scr ctx evs c out}
    (h : runBatch kind n v sid cfg scr ctx = (evs, c, out)) (hprep : P (.bprep n v sid))
    (hitem : ∀ i it, ∀ e ∈ (runItem kind n v cfg i it (scr.item i) .live).1, P e)
    (hpost : ∀ a b, P (.bpost n v sid a b)) : ∀ e ∈ evs, P e := by
  cases batchShape_of_runBatch h with
  | prepErr => simpa using hprep
  | noPost _ hbi _ =>
    rw [List.forall_mem_append, List.forall_mem_singleton]
    exact ⟨hprep, batchItems_all P hitem hbi⟩
  | postErr _ hbi _ _ =>
    simp only [List.forall_mem_append, List.forall_mem_singleton]
    exact ⟨⟨hprep, batchItems_all P hitem hbi⟩, hpost _ _⟩
  | postOk _ hbi _ _ =>
    simp only [List.forall_mem_append, List.forall_mem_singleton]
    exact ⟨⟨hprep, batchItems_all P hitem hbi⟩, hpost _ _⟩

theorem runBatch_mem {kind n v sid cfg scr ctx evs c out} (h : runBatch kind n v sid cfg scr ctx = (evs, c, out)) :
    ∀ e ∈ evs, BatchEv n v sid e :=
  runBatch_all h (by simp [BatchEv]) (fun i it e he => (runItem_mem kind n v cfg i it (scr.item i) .live e he).batchEv)
    (fun _ _ => by simp [BatchEv])

/-- Induction over a run as a sequence of leaf and batch visits.  A relation between run state before, events,
    run state after and outcome holds of every run if it holds of every visit of a leaf or batch node and of the
    empty runs (context done; flow without start node), survives the normalisation of a flow's last action, and is
    closed under "a visit that returned an action, then the rest of the loop". -/
theorem Big.flat {env : Env} {sid : StoreId} {P : RunSt → List Ev → RunSt → Outcome → Prop}
    (leaf : ∀ {id cfg st evs st' out}, env.arena id = .leaf cfg → leafStep env id sid cfg st = (evs, st', out) →
      P st evs st' out)
    (batch : ∀ {id cfg st evs st' out}, env.arena id = .batch cfg → batchStep env id sid cfg st = (evs, st', out) →
      P st evs st' out)
    (done : ∀ {st k}, st.ctx = .done k → P st [] st (.err (.ctx k)))
    (noStart : ∀ {st}, st.ctx = .live → P st [] st (.err (.fw .noStart)))
    (present : ∀ {st evs st' a}, P st evs st' (.ok a) → P st evs st' (.ok (norm a)))
    (seq : ∀ {ops cur nxt st evs st' a evs2 st'' r}, st.ctx = .live → Big env sid (.node cur) st evs st' (.ok a) →
      Big env sid (.loop ops nxt) st' evs2 st'' r → P st evs st' (.ok a) → P st' evs2 st'' r →
      P st (evs ++ evs2) st'' r)
    {task st evs st' r} (h : Big env sid task st evs st' r) : P st evs st' r := by
  induction h with
  | leaf hA h => exact leaf hA h
  | batch hA h => exact batch hA h
  | flowDone _ hc => exact done hc
  | flowNoStart _ hc => exact noStart hc
  | flowOk _ _ _ ih => exact present ih
  | flowFail _ _ _ _ ih => exact ih
  | loopDone hc => exact done hc
  | loopStop _ _ _ ih => exact ih
  | loopStep hc h1 _ h2 ih1 ih2 => exact seq hc h1 h2 ih1 ih2
  | loopFail _ _ _ ih => exact ih

theorem big_all {env : Env} {sid : StoreId} {P : Ev → Prop}
    (hl : ∀ {id cfg v ctx evs c out}, env.arena id = .leaf cfg →
      runLeaf env.kind id v sid cfg (env.leafBeh id v) ctx = (evs, c, out) → ∀ e ∈ evs, P e)
    (hb : ∀ {id cfg v ctx evs c out}, env.arena id = .batch cfg →
      runBatch env.kind id v sid cfg (env.batchBeh id v) ctx = (evs, c, out) → ∀ e ∈ evs, P e)
    {task st evs st' r} (h : Big env sid task st evs st' r) : ∀ e ∈ evs, P e :=
  h.flat (P := fun _ evs _ _ => ∀ e ∈ evs, P e) (fun hA h => hl hA (leafStep_ctx h))
    (fun hA h => hb hA (batchStep_ctx h)) (fun _ => by simp) (fun _ => by simp) id
    fun _ _ _ ih1 ih2 => List.forall_mem_append.mpr ⟨ih1, ih2⟩

end Flyt.Proofs
