import FlytModel.Proofs.Events
/-!
# The path a flow takes (helper definitions and lemmas for C03 / C10)

A run of `Flow.Exec` is cut into *visits* (one `flyt.Run` of a node each); `IsPath` says that the visits
are chained exactly as the last-write-wins table `next` and the returned actions dictate.
-/
namespace Flyt.Proofs
open Flyt

/-- one `flyt.Run(ctx, node, shared)` performed by the loop of `Flow.Exec` -/
structure Visit where
  node : NodeId
  pre : RunSt
  /-- callback events of this visit (for a nested flow: all events of the inner run) -/
  evs : List Ev
  post : RunSt
  out : Outcome

/-- `vs` is the sequence of visits of `Flow.Exec` started at `cur` in state `st` over connection list `ops`,
    ending in state `st'` with outcome `out`:
    * no visit at all — only if the context is done when `cur` should start;
    * each visit starts in the state the previous one left, on a live context;
    * after a visit that returned action `a`, the next visit is of the node most recently connected to
      `(cur, a)`; the flow ends with `ok a` exactly when there is no connection or a nil connection;
    * a visit that failed ends the flow with its error. -/
def IsPath (ops : List ConnOp) : NodeId → RunSt → List Visit → RunSt → Outcome → Prop
  | _, st, [], st', out => st' = st ∧ ∃ k, st.ctx = .done k ∧ out = .err (.ctx k)
  | cur, st, v :: vs, st', out =>
    v.node = cur ∧ v.pre = st ∧ st.ctx = .live ∧
    match v.out with
    | .ok a =>
      match next ops cur a with
      | some (some nxt) => IsPath ops nxt v.post vs st' out
      | _ => vs = [] ∧ st' = v.post ∧ out = .ok a
    | o => vs = [] ∧ st' = v.post ∧ out = o

/-- the visit really is a run of the model: `runNode` with some fuel returns exactly this -/
def Visit.Genuine (env : Env) (sid : StoreId) (v : Visit) : Prop :=
  ∃ f, runNode env f v.node sid v.pre = (v.evs, v.post, v.out) ∧ v.out ≠ .fuel

theorem Big.ne_fuel {env : Env} {sid : StoreId} {task st evs st' r} (h : Big env sid task st evs st' r) :
    r ≠ .fuel := fun hf => by simpa [hf, Outcome.Proper] using big_proper h

theorem Visit.Genuine.of_big {env : Env} {sid : StoreId} {v : Visit}
    (h : Big env sid (.node v.node) v.pre v.evs v.post v.out) : v.Genuine env sid :=
  (runNode_of_big h).elim fun f hf => ⟨f, hf f (Nat.le_refl f), h.ne_fuel⟩

theorem IsPath.single {ops : List ConnOp} {cur st evs st' out} (hc : st.ctx = .live)
    (hstop : ∀ a, out = .ok a → ∀ nxt, next ops cur a ≠ some (some nxt)) :
    IsPath ops cur st [⟨cur, st, evs, st', out⟩] st' out := by
  refine ⟨rfl, rfl, hc, ?_⟩
  split
  · next a ho =>
    split
    · next nxt hx => exact absurd hx (hstop a ho nxt)
    · exact ⟨rfl, rfl, ho⟩
  · exact ⟨rfl, rfl, rfl⟩

theorem IsPath.cons {ops : List ConnOp} {cur st evs st1 a nxt vs st' out} (hc : st.ctx = .live)
    (hx : next ops cur a = some (some nxt)) (h : IsPath ops nxt st1 vs st' out) :
    IsPath ops cur st (⟨cur, st, evs, st1, .ok a⟩ :: vs) st' out :=
  ⟨rfl, rfl, hc, by simp only [hx]; exact h⟩

theorem IsPath.cons_inv {ops : List ConnOp} {cur st v vs st' out} (h : IsPath ops cur st (v :: vs) st' out) :
    v.node = cur ∧ v.pre = st ∧ st.ctx = .live ∧
    ((∃ a nxt, v.out = .ok a ∧ next ops cur a = some (some nxt) ∧ IsPath ops nxt v.post vs st' out) ∨
     (vs = [] ∧ st' = v.post ∧ out = v.out ∧ ∀ a, v.out = .ok a → ∀ nxt, next ops cur a ≠ some (some nxt))) := by
  obtain ⟨hn, hpre, hc, hrest⟩ := h
  refine ⟨hn, hpre, hc, ?_⟩
  split at hrest
  · next a ho =>
    split at hrest
    · next nxt hx => exact .inl ⟨a, nxt, ho, hx, hrest⟩
    · next hx =>
      exact .inr ⟨hrest.1, hrest.2.1, hrest.2.2.trans ho.symm, fun b hb => by cases ho.symm.trans hb; exact hx⟩
  · next hno => exact .inr ⟨hrest.1, hrest.2.1, hrest.2.2, fun a ha => absurd ha (hno a)⟩

theorem IsPath.ne_nil {ops : List ConnOp} {cur st vs st' out} (h : IsPath ops cur st vs st' out)
    (hlive : st'.ctx = .live) : vs ≠ [] := by
  rintro rfl
  obtain ⟨rfl, k, hk, _⟩ := h
  rw [hk] at hlive; cases hlive

theorem path_of_flowLoop {env : Env} {sid : StoreId} (f : Nat) :
    ∀ ops cur st evs st' r, flowLoop env f (buildTable ops) cur sid st = (evs, st', r) → r ≠ .fuel →
      ∃ vs : List Visit, vs.length ≤ f ∧ IsPath ops cur st vs st' r ∧ evs = vs.flatMap (·.evs) ∧
        ∀ v ∈ vs, Big env sid (.node v.node) v.pre v.evs v.post v.out := by
  induction f with
  | zero => intro ops cur st evs st' r h hr; simp [flowLoop] at h; exact absurd h.2.2.symm hr
  | succ f ih =>
    intro ops cur st evs st' r h hr
    have single : ∀ {evs st' r}, st.ctx = .live → runNode env f cur sid st = (evs, st', r) → r ≠ .fuel →
        (∀ a, r = .ok a → ∀ nxt, next ops cur a ≠ some (some nxt)) →
        ∃ vs : List Visit, vs.length ≤ f + 1 ∧ IsPath ops cur st vs st' r ∧ evs = vs.flatMap (·.evs) ∧
          ∀ v ∈ vs, Big env sid (.node v.node) v.pre v.evs v.post v.out :=
      fun {evs st' r} hc hn hr hstop => ⟨[⟨cur, st, evs, st', r⟩], by simp, .single hc hstop, by simp, by simpa using big_of_runNode hn hr⟩
    simp only [flowLoop] at h
    cases hc : st.ctx with
    | done k => simp only [hc] at h; cases h; exact ⟨[], by simp, ⟨rfl, k, hc, rfl⟩, rfl, by simp⟩
    | live =>
      simp only [hc, Table.tableLookup_buildTable] at h
      split at h
      · next evs1 st1 a hn =>
        split at h
        · next nxt hnx =>
          cases h
          obtain ⟨vs, hlen, hp, he, hg⟩ := ih ops nxt st1 _ _ _ rfl hr
          refine ⟨⟨cur, st, evs1, st1, .ok a⟩ :: vs, by simpa using hlen, .cons hc hnx hp, by simp [← he], ?_⟩
          intro v hv
          rcases List.mem_cons.mp hv with rfl | hv
          · exact big_of_runNode hn (by simp)
          · exact hg v hv
        · next hnx => cases h; exact single hc hn (by simp) (fun b hb => by cases hb; exact hnx)
      · next hne => exact single hc h hr (fun a ha => absurd (ha ▸ h) (hne _ _ a))

/-- what `Run` on a flow presents, given the outcome of the flow's loop -/
def presentOut : Outcome → Outcome
  | .ok a => .ok (norm a)
  | o => o

theorem path_of_runFlow {env : Env} {sid : StoreId} {fuel root st evs st' out s ops}
    (hA : env.arena root = .flow (some s) ops) (hlive : st.ctx = .live)
    (h : runNode env fuel root sid st = (evs, st', out)) (hfuel : out ≠ .fuel) :
    ∃ (vs : List Visit) (r : Outcome), vs.length < fuel ∧ IsPath ops s st vs st' r ∧ evs = vs.flatMap (·.evs) ∧
      (∀ v ∈ vs, Big env sid (.node v.node) v.pre v.evs v.post v.out) ∧
      out = presentOut r := by
  cases fuel with
  | zero => simp [runNode] at h; exact absurd h.2.2.symm hfuel
  | succ f =>
    simp only [runNode, hA, hlive] at h
    split at h
    · next hl =>
      cases h
      obtain ⟨vs, hlen, hp, he, hg⟩ := path_of_flowLoop f ops s st _ _ _ hl (by simp)
      exact ⟨vs, _, by omega, hp, he, hg, rfl⟩
    · next hne =>
      obtain ⟨vs, hlen, hp, he, hg⟩ := path_of_flowLoop f ops s st _ _ _ h hfuel
      refine ⟨vs, out, by omega, hp, he, hg, ?_⟩
      unfold presentOut
      split
      · next a => exact absurd h (hne _ _ a)
      · rfl

/-- the node sequence the table and the returned actions determine, as a function -/
def route (ops : List ConnOp) : NodeId → List Outcome → List NodeId
  | cur, [] => [cur]
  | cur, .ok a :: os =>
    match next ops cur a with
    | some (some nxt) => cur :: route ops nxt os
    | _ => [cur]
  | cur, _ :: _ => [cur]

theorem route_stop {ops : List ConnOp} {cur : NodeId} {o : Outcome} (os : List Outcome)
    (hstop : ∀ a, o = .ok a → ∀ nxt, next ops cur a ≠ some (some nxt)) : route ops cur (o :: os) = [cur] := by
  cases o with
  | ok a =>
    simp only [route]
    split
    · next nxt hx => exact absurd hx (hstop a rfl nxt)
    · rfl
  | _ => rfl

theorem isPath_nodes {ops : List ConnOp} {cur st vs st' out} (h : IsPath ops cur st vs st' out)
    (hlive : st'.ctx = .live) : vs.map (·.node) = route ops cur (vs.map (·.out)) := by
  induction vs generalizing cur st with
  | nil => exact absurd rfl (h.ne_nil hlive)
  | cons v vs ih =>
    obtain ⟨hn, _, _, ⟨a, nxt, ho, hx, hrest⟩ | ⟨rfl, _, _, hstop⟩⟩ := h.cons_inv
    · simp only [List.map_cons, ho, route, hx, hn, ih hrest]
    · simp only [List.map_cons, List.map_nil, hn, route_stop [] hstop]

theorem isPath_ok_last {ops : List ConnOp} {cur st vs st' a} (h : IsPath ops cur st vs st' (.ok a)) :
    ∃ v, vs.getLast? = some v ∧ v.out = .ok a ∧ v.post = st' ∧ ∀ nxt, next ops v.node a ≠ some (some nxt) := by
  induction vs generalizing cur st with
  | nil => obtain ⟨_, k, _, hk⟩ := h; cases hk
  | cons v vs ih =>
    obtain ⟨hn, _, _, ⟨b, nxt, _, _, hrest⟩ | ⟨rfl, rfl, ho, hstop⟩⟩ := h.cons_inv
    · obtain ⟨w, hw, hrest'⟩ := ih hrest
      exact ⟨w, by rw [List.getLast?_cons, hw]; rfl, hrest'⟩
    · exact ⟨v, rfl, ho.symm, rfl, by rw [hn]; exact hstop a ho.symm⟩

/-- event of some visit of a leaf or batch node of the arena, run on store `sid` -/
def NodeEv (env : Env) (sid : StoreId) (e : Ev) : Prop :=
  ∃ n v, (∃ cfg, env.arena n = .leaf cfg ∧ LeafEv n v sid e) ∨ (∃ cfg, env.arena n = .batch cfg ∧ BatchEv n v sid e)

theorem big_events {env : Env} {sid task st evs st' r} (h : Big env sid task st evs st' r) :
    ∀ e ∈ evs, NodeEv env sid e :=
  big_all (fun hA h e he => ⟨_, _, .inl ⟨_, hA, runLeaf_mem h e he⟩⟩)
    (fun hA h e he => ⟨_, _, .inr ⟨_, hA, runBatch_mem h e he⟩⟩) h

theorem big_own_events {env : Env} {sid id st evs st' r} (h : Big env sid (.node id) st evs st' r)
    (hnf : ∀ s ops, env.arena id ≠ .flow s ops) : ∀ e ∈ evs, Spec.evKey e = (id, st.visits id) := by
  cases h with
  | leaf hA h => intro e he; exact (runLeaf_mem (leafStep_ctx h) e he).key
  | batch hA h => intro e he; exact (runBatch_mem (batchStep_ctx h) e he).key
  | flowDone hA => exact absurd hA (hnf _ _)
  | flowNoStart hA => exact absurd hA (hnf _ _)
  | flowOk hA => exact absurd hA (hnf _ _)
  | flowFail hA => exact absurd hA (hnf _ _)

theorem step_untouched {st st' : RunSt} {id m : NodeId} {r : List Ev × Ctx × Outcome} {evs out} {v : Nat}
    (h : (r.1, { (st.bumpIf (!r.1.isEmpty) id) with ctx := r.2.1 }, r.2.2) = (evs, st', out))
    (hk : ∀ e ∈ evs, Spec.evKey e = (id, v)) (hm : ∀ e ∈ evs, (Spec.evKey e).1 ≠ m) :
    st'.visits m = st.visits m := by
  cases h
  cases hl : r.1 with
  | nil => rfl
  | cons e t =>
    have : m ≠ id := fun hmi => hm e (by simp [hl]) (by rw [hk e (by simp [hl]), hmi])
    simp [RunSt.bumpIf, RunSt.bump, this]

theorem big_untouched {env : Env} {sid task st evs st' r} (h : Big env sid task st evs st' r) :
    ∀ m, (∀ e ∈ evs, (Spec.evKey e).1 ≠ m) → st'.visits m = st.visits m :=
  h.flat (P := fun st evs st' _ => ∀ m, (∀ e ∈ evs, (Spec.evKey e).1 ≠ m) → st'.visits m = st.visits m)
    (fun _ h _ => step_untouched h fun e he => (runLeaf_mem (leafStep_ctx h) e he).key)
    (fun _ h _ => step_untouched h fun e he => (runBatch_mem (batchStep_ctx h) e he).key)
    (fun _ _ _ => rfl) (fun _ _ _ => rfl) id fun _ _ _ ih1 ih2 m hm =>
      (ih2 m fun e he => hm e (List.mem_append_right _ he)).trans
        (ih1 m fun e he => hm e (List.mem_append_left _ he))

end Flyt.Proofs
