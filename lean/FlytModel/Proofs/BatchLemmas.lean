import FlytModel.Proofs.FailStop
import FlytModel.Proofs.BatchSeq
/-!
# Batch nodes as seen from the enclosing run (helper lemmas for C03, C04, C05, C10)

Only what the flow-level properties need: which events a batch node emits, the shape of its run, and
that only its own prep / post can end the run with a user error.
-/
namespace Flyt.Proofs
open Flyt

/-- per-item events of batch node `n`, visit `v` -/
def ItemEv (n : NodeId) (v : Nat) : Ev → Prop
  | .bexec n' v' _ _ _ => n' = n ∧ v' = v
  | .bwait n' v' _ _ _ _ => n' = n ∧ v' = v
  | .bfb n' v' _ _ _ => n' = n ∧ v' = v
  | _ => False

theorem ItemEv.key {n v e} (h : ItemEv n v e) : Spec.evKey e = (n, v) := by
  cases e <;> simp_all [ItemEv, Spec.evKey]

theorem ItemEv.isBatch {n v e} (h : ItemEv n v e) : Spec.isBatchEv e = true := by
  cases e <;> simp_all [ItemEv, Spec.isBatchEv]

theorem ItemEv.nonfatal {env : Env} {n v e} (h : ItemEv n v e) : Spec.scriptFatal env e = none := by
  cases e <;> simp_all [ItemEv, Spec.scriptFatal]

theorem runItem_eq (kind : CtxKind) (n : NodeId) (v : Nat) (cfg : BatchCfg) (i : Nat) (item : Result)
    (scr : ItemScript) (ctx : Ctx) :
    ∃ aev c1 ares fev c2 eres,
      attempts kind (fun k => .bexec n v i k (execArg cfg.execS item.box)) (fun k f => .bwait n v i k cfg.wait f)
        scr.exec scr.waitCancel cfg.execS cfg.wait 0 cfg.budget none ctx = (aev, c1, ares) ∧
      fallbackPhase kind cfg.fb (fun e => .bfb n v i item.box (.user e)) scr.fb c1 ares = (fev, c2, eres) ∧
      runItem kind n v cfg i item scr ctx =
        (aev ++ fev, c2, match eres with | .ok x => .slot (slotOfVal x) | .error e => .error e) :=
  ⟨_, _, _, _, _, _, rfl, rfl, BatchSeq.runItem_eq kind n v cfg i item scr ctx⟩

theorem runItem_mem (kind : CtxKind) (n : NodeId) (v : Nat) (cfg : BatchCfg) (i : Nat) (item : Result)
    (scr : ItemScript) (ctx : Ctx) : ∀ e ∈ (runItem kind n v cfg i item scr ctx).1, ItemEv n v e := by
  intro e he
  rw [BatchSeq.runItem_eq] at he
  rcases List.mem_append.1 he with he | he
  · rcases BatchSeq.attempts_events _ _ _ _ _ _ _ _ _ _ _ e he with ⟨k, rfl⟩ | ⟨k, f, rfl⟩ <;> exact ⟨rfl, rfl⟩
  · obtain ⟨e', rfl⟩ := BatchSeq.fallbackPhase_events _ _ _ _ _ _ e he
    exact ⟨rfl, rfl⟩

theorem itemsSeq_all (P : Ev → Prop) (kind : CtxKind) (n : NodeId) (v : Nat) (cfg : BatchCfg) (scr : BatchScript)
    (hitem : ∀ i it, ∀ e ∈ (runItem kind n v cfg i it (scr.item i) .live).1, P e)
    (items : List Result) (i : Nat) (ctx : Ctx) :
    ∀ e ∈ (itemsSeq kind n v cfg scr items i ctx).1, P e := by
  induction items, i, ctx using BatchSeq.itemsSeq_induct kind n v cfg scr with
  | nil => simp
  | done => simp
  | cont it rest i r t hr _ _ ih =>
    intro e he
    rcases List.mem_append.1 he with he | he
    · exact hitem i it e (hr ▸ he)
    · exact ih e he
  | stop _ it rest i r _ hr _ => intro e he; exact hitem i it e (hr ▸ he)

/-- the item phase of `runBatch`: worker-pool (serial schedule) or sequential executor -/
def batchItems (kind : CtxKind) (n : NodeId) (v : Nat) (cfg : BatchCfg) (scr : BatchScript)
    (items : List Result) (ctx1 : Ctx) : List Ev × Ctx × List Result :=
  if cfg.conc > 0 then itemsSerialPool kind n v cfg scr items 0 false ctx1
  else itemsSeq kind n v cfg scr items 0 ctx1

theorem batchItems_eq (kind : CtxKind) (n : NodeId) (v : Nat) (cfg : BatchCfg) (scr : BatchScript)
    (items : List Result) (ctx1 : Ctx) : batchItems kind n v cfg scr items ctx1 = itemsSeq kind n v cfg scr items 0 ctx1 := by
  unfold batchItems
  split
  · exact BatchSeq.itemsSerialPool_eq_seq kind n v cfg scr items 0 ctx1
  · rfl

theorem batchItems_all (P : Ev → Prop) {kind : CtxKind} {n : NodeId} {v : Nat} {cfg : BatchCfg} {scr : BatchScript}
    (hitem : ∀ i it, ∀ e ∈ (runItem kind n v cfg i it (scr.item i) .live).1, P e)
    {items : List Result} {ctx1 : Ctx} {iev c2 slots}
    (h : batchItems kind n v cfg scr items ctx1 = (iev, c2, slots)) : ∀ e ∈ iev, P e := by
  have := itemsSeq_all P kind n v cfg scr hitem items 0 ctx1
  rw [← batchItems_eq, h] at this
  exact this

theorem batchItems_mem' {kind : CtxKind} {n : NodeId} {v : Nat} {cfg : BatchCfg} {scr : BatchScript}
    {items : List Result} {ctx1 : Ctx} {iev c2 slots}
    (h : batchItems kind n v cfg scr items ctx1 = (iev, c2, slots)) : ∀ e ∈ iev, ItemEv n v e :=
  batchItems_all _ (fun i it => runItem_mem kind n v cfg i it (scr.item i) .live) h

/-- all the ways a batch node's run can go -/
inductive BatchShape (kind : CtxKind) (n : NodeId) (v : Nat) (sid : StoreId) (cfg : BatchCfg) (scr : BatchScript)
    (ctx : Ctx) : List Ev → Ctx → Outcome → Prop
  | prepErr {e} : scr.prep.res = .error e →
      BatchShape kind n v sid cfg scr ctx [.bprep n v sid] (ctx.after kind scr.prep.cancels) (.err (.user e))
  | noPost {l iev c2 slots} : scr.prep.res = .ok l →
      batchItems kind n v cfg scr (normItems cfg.shape l) (ctx.after kind scr.prep.cancels) = (iev, c2, slots) →
      cfg.hasPost = false →
      BatchShape kind n v sid cfg scr ctx ([.bprep n v sid] ++ iev) c2 (.ok defaultAction)
  | postErr {l iev c2 slots e} : scr.prep.res = .ok l →
      batchItems kind n v cfg scr (normItems cfg.shape l) (ctx.after kind scr.prep.cancels) = (iev, c2, slots) →
      cfg.hasPost = true → scr.post.res = .error e →
      BatchShape kind n v sid cfg scr ctx
        ([.bprep n v sid] ++ iev ++ [.bpost n v sid ((normItems cfg.shape l).map Result.box) (slots.map Result.box)])
        (c2.after kind scr.post.cancels) (.err (.user e))
  | postOk {l iev c2 slots a} : scr.prep.res = .ok l →
      batchItems kind n v cfg scr (normItems cfg.shape l) (ctx.after kind scr.prep.cancels) = (iev, c2, slots) →
      cfg.hasPost = true → scr.post.res = .ok a →
      BatchShape kind n v sid cfg scr ctx
        ([.bprep n v sid] ++ iev ++ [.bpost n v sid ((normItems cfg.shape l).map Result.box) (slots.map Result.box)])
        (c2.after kind scr.post.cancels) (.ok (norm a))

theorem batchItems_nil (kind : CtxKind) (n : NodeId) (v : Nat) (cfg : BatchCfg) (scr : BatchScript) (ctx1 : Ctx) :
    batchItems kind n v cfg scr [] ctx1 = ([], ctx1, []) := by
  rw [batchItems_eq, BatchSeq.itemsSeq_nil]

theorem batchShape_of_runBatch {kind n v sid cfg scr ctx evs c out}
    (h : runBatch kind n v sid cfg scr ctx = (evs, c, out)) : BatchShape kind n v sid cfg scr ctx evs c out := by
  cases hr : scr.prep.res with
  | error e =>
    unfold runBatch at h
    simp only [hr] at h
    cases h; exact .prepErr hr
  | ok l =>
    rw [BatchSeq.runBatch_ok kind n v cfg scr sid ctx hr] at h
    have hbi := batchItems_eq kind n v cfg scr (normItems cfg.shape l) (ctx.after kind scr.prep.cancels)
    cases hp : cfg.hasPost with
    | false => simp only [hp] at h; cases h; exact .noPost hr hbi hp
    | true =>
      simp only [hp, if_true] at h
      cases hpr : scr.post.res with
      | error e => simp only [hpr] at h; cases h; exact .postErr hr hbi hp hpr
      | ok a => simp only [hpr] at h; cases h; exact .postOk hr hbi hp hpr

section
variable {env : Env} {n : NodeId} {v : Nat} {sid : StoreId}

theorem fatal_bprep : Spec.scriptFatal env (.bprep n v sid) = Spec.errOf (env.batchBeh n v).prep := rfl
theorem fatal_bpost {a b} : Spec.scriptFatal env (.bpost n v sid a b) = Spec.errOf (env.batchBeh n v).post := rfl

theorem runBatch_failstop {cfg : BatchCfg} {ctx evs c out}
    (h : runBatch env.kind n v sid cfg (env.batchBeh n v) ctx = (evs, c, out)) :
    FailStop (Spec.scriptFatal env) evs out := by
  -- before post only prep (which succeeded) and item events have happened: none is fatal
  have hpre : ∀ {l iev c2 slots}, (env.batchBeh n v).prep.res = .ok l →
      batchItems env.kind n v cfg (env.batchBeh n v) (normItems cfg.shape l) (ctx.after env.kind (env.batchBeh n v).prep.cancels) =
        (iev, c2, slots) → ∀ a ∈ [Ev.bprep n v sid] ++ iev, Spec.scriptFatal env a = none := by
    intro l iev c2 slots hr hbi a ha
    simp only [List.mem_append, List.mem_singleton] at ha
    rcases ha with rfl | ha
    · rw [fatal_bprep, errOf_ok hr]
    · exact (batchItems_mem' hbi a ha).nonfatal
  cases batchShape_of_runBatch h with
  | @prepErr e0 hr =>
    have := FailStop.snoc (fatal := Spec.scriptFatal env) (l := []) (e := .bprep n v sid)
      (out := .err (.user e0)) (by simp) (by intro u; rw [fatal_bprep, errOf_error hr]; simp)
    simpa using this
  | noPost hr hbi hp => exact .of_nonfatal (hpre hr hbi) (by simp)
  | postErr hr hbi hp hpr => exact .snoc (hpre hr hbi) fun u => by rw [fatal_bpost, errOf_error hpr]; simp
  | postOk hr hbi hp hpr => exact .snoc (hpre hr hbi) fun u => by rw [fatal_bpost, errOf_ok hpr]; simp
end

theorem big_failstop {env : Env} {sid task st evs st' r} (h : Big env sid task st evs st' r) :
    FailStop (Spec.scriptFatal env) evs r := by
  induction h with
  | leaf hA h => exact runLeaf_failstop hA (leafStep_ctx h)
  | batch hA h => exact runBatch_failstop (batchStep_ctx h)
  | flowDone => exact .nil (by simp)
  | flowNoStart => exact .nil (by simp)
  | flowOk _ _ _ ih => exact .of_nonfatal (ih.nonfatal (by simp)) (by simp)
  | flowFail _ _ _ _ ih => exact ih
  | loopDone => exact .nil (by simp)
  | loopStop _ _ _ ih => exact ih
  | loopStep _ _ _ _ ih1 ih2 => exact .append (ih1.nonfatal (by simp)) ih2
  | loopFail _ _ _ ih => exact ih

end Flyt.Proofs
