import FlytModel.Proofs.Cancel
/-!
# Scenarios without cancellation: the static predicate the driver computes (`cancelFree`: no `*` flag, no
asynchronous cancel in any script) implies the trace-level hypothesis of the C03 / C04 theorems.
-/
namespace Flyt.Proofs
open Flyt

/-- no script of the scenario cancels: no `cancels` flag, no asynchronous cancel during a wait -/
structure CancelFree (env : Env) : Prop where
  leaf : ∀ n v, (env.leafBeh n v).prep.cancels = false ∧ (∀ k, ((env.leafBeh n v).exec k).cancels = false) ∧
    (∀ k, (env.leafBeh n v).waitCancel k = false) ∧ (env.leafBeh n v).fb.cancels = false ∧
    (env.leafBeh n v).post.cancels = false
  batch : ∀ n v, (env.batchBeh n v).prep.cancels = false ∧ (env.batchBeh n v).post.cancels = false ∧
    ∀ i, (∀ k, (((env.batchBeh n v).item i).exec k).cancels = false) ∧
      (∀ k, ((env.batchBeh n v).item i).waitCancel k = false) ∧ ((env.batchBeh n v).item i).fb.cancels = false

/-- a wait recorded as cut short at a point where the script has no asynchronous cancel (never produced) -/
def spuriousWait (env : Env) : Ev → Bool
  | .wait n v k _ false => !(env.leafBeh n v).waitCancel k
  | .bwait n v i k _ false => !((env.batchBeh n v).item i).waitCancel k
  | _ => false

section generic
variable {kind : CtxKind} {mkExec : Nat → Ev} {mkWait : Nat → Bool → Ev} {exec : Nat → Out Val}
  {waitCancel : Nat → Bool} {execS : Style} {wait : Nat}

theorem attempts_no_spurious (bad : Ev → Bool) (hE : ∀ j, bad (mkExec j) = false)
    (hWt : ∀ j, bad (mkWait j true) = false) (hWf : ∀ j, bad (mkWait j false) = !waitCancel j)
    (k rem : Nat) (last : Option Nat) (ctx : Ctx) :
    ∀ e ∈ (attempts kind mkExec mkWait exec waitCancel execS wait k rem last ctx).1, bad e = false := by
  fun_induction attempts kind mkExec mkWait exec waitCancel execS wait k rem last ctx with
  | case1 => simp
  | case2 => simp
  | case3 last k rem h => simp [hWf, h.2.2]
  | case4 last k rem h wev ha =>
    intro e he
    simp only [wev] at he
    split at he <;> simp at he
    rw [he, hWt]
  | case5 last k rem h wev o x hx hne =>
    intro e he
    simp only [hx, wev, List.mem_append, List.mem_singleton] at he
    rcases he with he | he
    · split at he <;> simp at he
      rw [he, hWt]
    · rw [he, hE]
  | case6 last k rem h wev o e0 he0 evs c r hne ctx' heq ih =>
    intro e he
    simp only [he0, wev, List.mem_append, List.mem_singleton] at he
    rcases he with (he | he) | he
    · split at he <;> simp at he
      rw [he, hWt]
    · rw [he, hE]
    · exact ih e he

end generic

section
variable {env : Env} {n : NodeId} {v : Nat} {sid : StoreId}

theorem runLeaf_no_spurious {cfg ctx evs c out}
    (h : runLeaf env.kind n v sid cfg (env.leafBeh n v) ctx = (evs, c, out)) :
    ∀ e ∈ evs, spuriousWait env e = false := by
  refine runLeaf_all h rfl (fun {pv aev c2 ares fev c3 eres} hE => ?_) (fun _ _ => rfl) (fun _ _ => rfl)
  have := attempts_no_spurious (kind := env.kind) (mkExec := fun k => Ev.exec n v k (execArg cfg.execS pv))
    (mkWait := fun k f => Ev.wait n v k cfg.effWait f) (exec := (env.leafBeh n v).exec)
    (waitCancel := (env.leafBeh n v).waitCancel) (execS := cfg.execS) (wait := cfg.effWait)
    (spuriousWait env) (fun _ => rfl) (fun _ => rfl) (fun _ => rfl) 0 cfg.effBudget none .live
  rwa [hE.1] at this

theorem runItem_no_spurious {cfg : BatchCfg} (i : Nat) (item : Result) (ctx : Ctx) :
    ∀ e ∈ (runItem env.kind n v cfg i item ((env.batchBeh n v).item i) ctx).1, spuriousWait env e = false := by
  obtain ⟨aev, c1, ares, fev, c2, eres, hA, hF, hR⟩ :=
    runItem_eq env.kind n v cfg i item ((env.batchBeh n v).item i) ctx
  rw [hR, List.forall_mem_append]
  constructor
  · have := attempts_no_spurious (kind := env.kind)
      (mkExec := fun k => Ev.bexec n v i k (execArg cfg.execS item.box))
      (mkWait := fun k f => Ev.bwait n v i k cfg.wait f) (exec := ((env.batchBeh n v).item i).exec)
      (waitCancel := ((env.batchBeh n v).item i).waitCancel) (execS := cfg.execS) (wait := cfg.wait)
      (spuriousWait env) (fun _ => rfl) (fun _ => rfl) (fun _ => rfl) 0 cfg.budget none ctx
    rwa [hA] at this
  · rcases fallbackPhase_cases hF with ⟨x, _, rfl, _⟩ | ⟨k, _, rfl, _⟩ | ⟨e', _, _, rfl, _⟩ | ⟨e', _, _, rfl, _⟩ <;>
      simp [spuriousWait]

theorem runBatch_no_spurious {cfg : BatchCfg} {ctx evs c out}
    (h : runBatch env.kind n v sid cfg (env.batchBeh n v) ctx = (evs, c, out)) :
    ∀ e ∈ evs, spuriousWait env e = false :=
  runBatch_all h rfl (fun i it => runItem_no_spurious i it .live) (fun _ _ => rfl)

end

theorem big_no_spurious {env : Env} {sid task st evs st' r} (h : Big env sid task st evs st' r) :
    ∀ e ∈ evs, spuriousWait env e = false :=
  big_all (fun _ h => runLeaf_no_spurious h) (fun _ h => runBatch_no_spurious h) h

theorem big_cancelFree {env : Env} {sid task st evs st' r} (h : Big env sid task st evs st' r)
    (hcf : CancelFree env) : ∀ e ∈ evs, cancelsAt env e = false := by
  intro e he
  have hs := big_no_spurious h e he
  rw [cancelsAt_eq]
  cases e with
  | prep n v s => exact (hcf.leaf n v).1
  | exec n v k a => exact (hcf.leaf n v).2.1 k
  | wait n v k d f =>
    cases f with
    | true => rfl
    | false =>
      simp only [spuriousWait, Bool.not_eq_false'] at hs
      rw [(hcf.leaf n v).2.2.1 k] at hs; cases hs
  | fb n v a err => exact (hcf.leaf n v).2.2.2.1
  | post n v s a b => exact (hcf.leaf n v).2.2.2.2
  | bprep n v s => exact (hcf.batch n v).1
  | bexec n v i k a => exact ((hcf.batch n v).2.2 i).1 k
  | bwait n v i k d f =>
    cases f with
    | true => rfl
    | false =>
      simp only [spuriousWait, Bool.not_eq_false'] at hs
      rw [((hcf.batch n v).2.2 i).2.1 k] at hs; cases hs
  | bfb n v i a err => exact ((hcf.batch n v).2.2 i).2.2
  | bpost n v s a b => exact (hcf.batch n v).2.1

end Flyt.Proofs
