import FlytModel.Spec.Config
/-!
# Helper lemmas for C19 (configuration styles)

* `lastSome` algebra (append, all-none);
* `stepApply_eq`: every setter is `written`, an explicit write of the fields the `sets…` functions name;
* `foldl_written`: folding `written` over a list computes `lastWins` of it;
* `foldl_filter_split` with `written_comm`: `NewNode`'s base-options-first order does not matter;
* `build_eq_foldl`: `build k steps` is the fold of `written` over the effective order.
-/
namespace Flyt.Config

theorem lastSome_append {α : Type} (w : Step → Option α) (a b : List Step) :
    lastSome w (a ++ b) = match lastSome w b with | some x => some x | none => lastSome w a := by
  induction a with
  | nil => simp only [List.nil_append, lastSome]; cases lastSome w b <;> rfl
  | cons s rest ih =>
    simp only [List.cons_append, lastSome, ih]
    cases lastSome w b <;> rfl

theorem lastSome_append_getD {α : Type} (w : Step → Option α) (a b : List Step) (d : α) :
    (lastSome w (a ++ b)).getD d = (lastSome w b).getD ((lastSome w a).getD d) := by
  rw [lastSome_append]
  cases lastSome w b <;> rfl

theorem lastSome_none {α : Type} (w : Step → Option α) (l : List Step)
    (h : ∀ s, s ∈ l → w s = none) : lastSome w l = none := by
  induction l with
  | nil => rfl
  | cons s rest ih =>
    have h1 : lastSome w rest = none := ih (fun x hx => h x (List.mem_cons_of_mem _ hx))
    simp only [lastSome, h1]
    exact h s List.mem_cons_self

theorem mem_of_mem_effective {s : Step} {l : List Step} (h : s ∈ effective l) : s ∈ l := by
  unfold effective at h
  rcases List.mem_append.mp h with h | h <;> exact (List.mem_filter.mp h).1

theorem effective_of_optsFirst (l : List Step) (h : optsFirst l = true) : effective l = l := by
  induction l with
  | nil => rfl
  | cons s rest ih =>
    unfold effective
    rw [optsFirst] at h
    cases hf : s.form with
    | opt =>
      rw [if_pos hf] at h
      rw [List.filter_cons_of_pos (by simp [isOpt, hf]), List.filter_cons_of_neg (by simp [isBld, hf]),
        List.cons_append]
      exact congrArg _ (ih h)
    | bld =>
      rw [if_neg (by simp [hf])] at h
      have hall := List.all_eq_true.mp h
      rw [List.filter_cons_of_neg (by simp [isOpt, hf]), List.filter_cons_of_pos (by simp [isBld, hf]),
        List.filter_eq_nil_iff.mpr fun x hx => by simp [isOpt, eq_of_beq (hall x hx)],
        List.filter_eq_self.mpr hall]
      rfl

/-- what a step in the domain does to a node of kind `k`: each field takes the value the step sets for
    it, if it sets one -/
def written (k : Kind) (s : Step) (n : Node) : Node :=
  { base := { maxRetries := (setsMaxRetries s).getD n.base.maxRetries
              wait := (setsWait s).getD n.base.wait
              batchConcurrency := (setsConc s).getD n.base.batchConcurrency
              batchErrorHandling := (setsEH s).getD n.base.batchErrorHandling }
    prepFunc := (setsPrepFunc k s).getD n.prepFunc
    execFunc := (setsExecFunc s).getD n.execFunc
    postFunc := (setsPostFunc k s).getD n.postFunc
    execFallbackFunc := (setsFbFunc k s).getD n.execFallbackFunc
    batchPrepFunc := (setsBatchPrep k s).getD n.batchPrepFunc
    batchPostFunc := (setsBatchPost k s).getD n.batchPostFunc }

/-- every setter, in either form, on either kind of builder: inside the domain it writes exactly the
    fields `sets…` name, outside the domain it does nothing -/
theorem stepApply_eq (k : Kind) (s : Step) (n : Node) :
    stepApply k s n = if inDomain k s then written k s n else n := by
  obtain ⟨st, f, t⟩ := s
  cases k <;> cases f <;> cases st with
    | maxRetries v | wait v | batchConcurrency v | fbFn => rfl
    | batchErrorHandling v | prepFn v | execFn v | postFn v => cases v <;> rfl

theorem stepApply_of_inDomain {k : Kind} {s : Step} (h : inDomain k s = true) (n : Node) :
    stepApply k s n = written k s n :=
  (stepApply_eq k s n).trans (if_pos h)

theorem written_of_bld_node {s : Step} (h : isBld s = true) (n : Node) :
    nodeBuilderCall s n = written .node s n := by
  rw [← stepApply_of_inDomain (k := .node) rfl]; unfold stepApply; rw [eq_of_beq h]

theorem written_of_bld_batch {s : Step} (hd : inDomain .batch s = true) (h : isBld s = true) (n : Node) :
    batchBuilderCall s n = written .batch s n := by
  rw [← stepApply_of_inDomain hd]; unfold stepApply; rw [eq_of_beq h]

theorem written_of_opt_base {k : Kind} {s : Step} (hd : inDomain k s = true) (h : isOpt s = true)
    (hn : s.setting.isNodeOption = true) (n : Node) :
    { n with base := applyNodeOption s.setting n.base } = written k s n := by
  rw [← stepApply_of_inDomain hd]; unfold stepApply; rw [eq_of_beq h, hn]; cases k <;> rfl

theorem written_of_opt_custom {s : Step} (h : isOpt s = true) (hn : s.setting.isNodeOption = false)
    (n : Node) : applyCustomOption s n = written .node s n := by
  rw [← stepApply_of_inDomain (k := .node) rfl]; unfold stepApply; rw [eq_of_beq h, hn]; rfl

theorem unset_of_not_isNodeOption {s : Step} (h : s.setting.isNodeOption = false) :
    setsMaxRetries s = none ∧ setsWait s = none ∧ setsConc s = none ∧ setsEH s = none := by
  obtain ⟨st, f, t⟩ := s
  cases st with
  | maxRetries v | wait v | batchConcurrency v | batchErrorHandling v => cases h
  | prepFn v | execFn v | postFn v | fbFn => exact ⟨rfl, rfl, rfl, rfl⟩

theorem unset_of_isNodeOption (k : Kind) {s : Step} (h : s.setting.isNodeOption = true) :
    setsPrepFunc k s = none ∧ setsExecFunc s = none ∧ setsPostFunc k s = none ∧ setsFbFunc k s = none
      ∧ setsBatchPrep k s = none ∧ setsBatchPost k s = none := by
  obtain ⟨st, f, t⟩ := s
  cases st with
  | maxRetries v | wait v | batchConcurrency v | batchErrorHandling v =>
    cases k <;> exact ⟨rfl, rfl, rfl, rfl, rfl, rfl⟩
  | prepFn v | execFn v | postFn v | fbFn => cases h

/-- base options write the base node only, custom options leave it alone -/
theorem written_comm (k : Kind) {a b : Step} (ha : a.setting.isNodeOption = true)
    (hb : b.setting.isNodeOption = false) (n : Node) :
    written k a (written k b n) = written k b (written k a n) := by
  simp only [written, unset_of_isNodeOption k ha, unset_of_not_isNodeOption hb, Option.getD_none]

theorem foldl_congr {α β : Type} {f g : β → α → β} {l : List α} (h : ∀ n s, s ∈ l → f n s = g n s)
    {a b : β} (hab : a = b) : l.foldl f a = l.foldl g b := by
  subst hab
  induction l generalizing a with
  | nil => rfl
  | cons s rest ih =>
    rw [List.foldl_cons, List.foldl_cons, h a s List.mem_cons_self]
    exact ih fun n x hx => h n x (List.mem_cons_of_mem _ hx)

theorem foldl_push {α β : Type} (f : β → α → β) (a : α) (l : List α)
    (h : ∀ b, b ∈ l → ∀ n, f (f n a) b = f (f n b) a) (n : β) : f (l.foldl f n) a = l.foldl f (f n a) := by
  induction l generalizing n with
  | nil => rfl
  | cons b rest ih =>
    rw [List.foldl_cons, List.foldl_cons, h b List.mem_cons_self,
      ih fun x hx => h x (List.mem_cons_of_mem _ hx)]

theorem foldl_filter_split {α β : Type} (f : β → α → β) (q : α → Bool) (l : List α)
    (h : ∀ a b, q a = true → q b = false → ∀ n, f (f n b) a = f (f n a) b) (n : β) :
    (l.filter fun a => !q a).foldl f ((l.filter q).foldl f n) = l.foldl f n := by
  induction l generalizing n with
  | nil => rfl
  | cons a rest ih =>
    cases hq : q a with
    | true =>
      rw [List.filter_cons_of_pos hq, List.filter_cons_of_neg (by simp [hq])]
      exact ih (f n a)
    | false =>
      rw [List.filter_cons_of_neg (by simp [hq]), List.filter_cons_of_pos (by simp [hq]), List.foldl_cons,
        foldl_push f a _ fun b hb => h b a (List.mem_filter.mp hb).2 hq]
      exact ih (f n a)

theorem lastWins_snoc (k : Kind) (l : List Step) (s : Step) :
    lastWins k (l ++ [s]) = written k s (lastWins k l) := by
  simp only [lastWins, lastSome_append_getD]; rfl

theorem foldl_written (k : Kind) (l p : List Step) :
    l.foldl (fun n s => written k s n) (lastWins k p) = lastWins k (p ++ l) := by
  induction l generalizing p with
  | nil => rw [List.append_nil]; rfl
  | cons s rest ih => rw [List.foldl_cons, ← lastWins_snoc, ih, List.append_assoc]; rfl

/-- `NewBatchNode` drops nothing that is in the domain: every option-form step there is a `NodeOption` -/
theorem isNodeOption_of_opt_batch {s : Step} (hd : inDomain .batch s = true) (ho : isOpt s = true) :
    s.setting.isNodeOption = true := by
  obtain ⟨st, f, t⟩ := s
  cases f with
  | bld => cases ho
  | opt =>
    cases st with
    | maxRetries v | wait v | batchConcurrency v | batchErrorHandling v => rfl
    | prepFn v | postFn v | execFn v => cases v <;> cases hd
    | fbFn => cases hd

theorem build_eq_foldl (k : Kind) (steps : List Step) (hdom : ∀ s, s ∈ steps → inDomain k s = true) :
    build k steps = (effective steps).foldl (fun n s => written k s n) emptyNode := by
  have hd : ∀ {q : Step → Bool} {s}, s ∈ steps.filter q → inDomain k s = true :=
    fun hs => hdom _ (List.mem_filter.mp hs).1
  have hbase : ∀ n s, s ∈ (steps.filter isOpt).filter (fun o => o.setting.isNodeOption) →
      { n with base := applyNodeOption s.setting n.base } = written k s n := fun n s hs =>
    have ⟨ho, hn⟩ := List.mem_filter.mp hs
    written_of_opt_base (hd ho) (List.mem_filter.mp ho).2 hn n
  unfold effective
  rw [List.foldl_append]
  cases k with
  | node =>
    refine foldl_congr (fun n s hs => written_of_bld_node (List.mem_filter.mp hs).2 n) ?_
    refine .trans ?_ (foldl_filter_split _ (fun s => s.setting.isNodeOption) _
      (fun _ _ ha hb => written_comm .node ha hb) emptyNode)
    exact foldl_congr (fun n s hs =>
      have ⟨ho, hn⟩ := List.mem_filter.mp hs
      written_of_opt_custom (List.mem_filter.mp ho).2 (by simpa using hn) n) (foldl_congr hbase rfl)
  | batch =>
    refine foldl_congr (fun n s hs => written_of_bld_batch (hd hs) (List.mem_filter.mp hs).2 n) ?_
    exact (foldl_congr hbase rfl).trans (congrArg (List.foldl _ emptyNode)
      (List.filter_eq_self.mpr fun s hs => isNodeOption_of_opt_batch (hd hs) (List.mem_filter.mp hs).2))

end Flyt.Config
