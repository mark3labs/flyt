import FlytModel.Model.StoreConc
/-! # The RW-lock invariant: every critical section is atomic (proof) -/
namespace Flyt.StoreConc

variable {S : Type} {L : Type}

structure Inv (σ : Sys S L) : Prop where
  /-- a writer inside is alone -/
  alone : ∀ t op r l p, σ.th t = .inside op r l p → op.mode = .W →
            ∀ u, u ≠ t → ∀ op' r' l' p', σ.th u ≠ .inside op' r' l' p'
  /-- writer: finishing its remaining steps yields the ghost state and the promised local -/
  wr : ∀ t op r l p, σ.th t = .inside op r l p → op.mode = .W →
            runBody r σ.s l = (σ.g, p)
  /-- no writer inside ⇒ real = ghost -/
  sync : ¬ σ.writerInside → σ.s = σ.g
  /-- reader: finishing its remaining steps on the current state yields the promised local; its steps are pure -/
  rd : ∀ t op r l p, σ.th t = .inside op r l p → op.mode = .R →
            (runBody r σ.s l).2 = p ∧ (∀ m ∈ r, ∀ s l, (m s l).1 = s)
  /-- finished threads returned what was promised at their linearisation point -/
  fin : ∀ t l p, σ.th t = .done l p → l = p


theorem upd_same (f : Nat → Th S L) (t v) : upd f t v t = v := by simp [upd]
theorem upd_other (f : Nat → Th S L) (t u v) (h : u ≠ t) : upd f t v u = f u := by simp [upd, h]

theorem upd_eq {f : Nat → Th S L} {t u : Nat} {v x : Th S L} (h : upd f t v u = x) :
    u = t ∧ v = x ∨ u ≠ t ∧ f u = x := by
  by_cases hut : u = t
  · subst hut; exact .inl ⟨rfl, (upd_same f u v).symm.trans h⟩
  · exact .inr ⟨hut, (upd_other f t u v hut).symm.trans h⟩

theorem runBody_pure_fst (r : List (Micro S L)) (hp : ∀ m ∈ r, ∀ s l, (m s l).1 = s) (s : S) (l : L) :
    (runBody r s l).1 = s := by
  induction r generalizing s l with
  | nil => rfl
  | cons m r ih =>
    rw [runBody_cons, ih (fun m' hm' => hp m' (List.mem_cons_of_mem _ hm')), hp m List.mem_cons_self]

theorem fin_upd {σ : Sys S L} (hI : Inv σ) {t : Nat} {v : Th S L} (hv : ∀ l p, v = .done l p → l = p) :
    ∀ u l p, upd σ.th t v u = .done l p → l = p := by
  intro u l p h
  rcases upd_eq h with ⟨_, e⟩ | ⟨_, e⟩
  · exact hv l p e
  · exact hI.fin u l p e

theorem step_preserves (σ σ' : Sys S L) (hI : Inv σ) (hs : Step σ σ') : Inv σ' := by
  cases hs with
  | invoke t op h =>
    have old : ∀ u op' r' l' p', upd σ.th t (Th.waiting op) u = .inside op' r' l' p' → σ.th u = .inside op' r' l' p' := by
      intro u op' r' l' p' hu
      rcases upd_eq hu with ⟨_, e⟩ | ⟨_, e⟩
      · cases e
      · exact e
    refine ⟨?_, ?_, ?_, ?_, fin_upd hI fun _ _ e => nomatch e⟩ <;> dsimp only
    · intro t' op' r l p h1 hm u hu op'' r' l' p' h2
      exact hI.alone t' op' r l p (old _ _ _ _ _ h1) hm u hu op'' r' l' p' (old _ _ _ _ _ h2)
    · intro t' op' r l p h1 hm
      exact hI.wr t' op' r l p (old _ _ _ _ _ h1) hm
    · intro hw
      apply hI.sync
      rintro ⟨t', op', r, l, p, h1, hm⟩
      have : t' ≠ t := by rintro rfl; rw [h] at h1; cases h1
      exact hw ⟨t', op', r, l, p, (upd_other _ _ _ _ this).trans h1, hm⟩
    · intro t' op' r l p h1 hm
      exact hI.rd t' op' r l p (old _ _ _ _ _ h1) hm
  | acquireW t op h hm free =>
    -- nobody is inside before; afterwards only t is
    have nobody : ∀ u op' r' l' p', σ.th u ≠ .inside op' r' l' p' :=
      fun u op' r' l' p' hu => free ⟨u, op', r', l', p', hu⟩
    refine ⟨?_, ?_, ?_, ?_, fin_upd hI fun _ _ e => nomatch e⟩ <;> dsimp only
    · intro t' op' r l p h1 _ u hu op'' r' l' p' h2
      rcases upd_eq h1 with ⟨rfl, _⟩ | ⟨_, e⟩
      · rcases upd_eq h2 with ⟨rfl, _⟩ | ⟨_, e⟩
        · exact hu rfl
        · exact nobody _ _ _ _ _ e
      · exact nobody _ _ _ _ _ e
    · intro t' op' r l p h1 _
      rcases upd_eq h1 with ⟨_, e⟩ | ⟨_, e⟩
      · cases e; rfl
      · exact absurd e (nobody _ _ _ _ _)
    · intro hw
      exact absurd ⟨t, op, op.body, op.init, _, upd_same _ _ _, hm⟩ hw
    · intro t' op' r l p h1 hR
      rcases upd_eq h1 with ⟨_, e⟩ | ⟨_, e⟩
      · cases e; rw [hm] at hR; cases hR
      · exact absurd e (nobody _ _ _ _ _)
  | acquireR t op h hm free =>
    -- still no writer inside
    have noW : ∀ u op' r' l' p',
        upd σ.th t (Th.inside op op.body op.init (runBody op.body σ.s op.init).2) u = .inside op' r' l' p' →
        op'.mode ≠ .W := by
      intro u op' r' l' p' hu hW
      rcases upd_eq hu with ⟨_, e⟩ | ⟨_, e⟩
      · cases e; rw [hm] at hW; cases hW
      · exact free ⟨u, op', r', l', p', e, hW⟩
    refine ⟨?_, ?_, ?_, ?_, fin_upd hI fun _ _ e => nomatch e⟩ <;> dsimp only
    · intro t' op' r l p h1 hW
      exact absurd hW (noW _ _ _ _ _ h1)
    · intro t' op' r l p h1 hW
      exact absurd hW (noW _ _ _ _ _ h1)
    · intro _; exact hI.sync free
    · intro t' op' r l p h1 hR
      rcases upd_eq h1 with ⟨_, e⟩ | ⟨_, e⟩
      · cases e; exact ⟨rfl, op.pure hR⟩
      · exact hI.rd _ _ _ _ _ e hR
  | micro t op m rest l p h =>
    cases hmode : op.mode with
    | W =>
      have lone := hI.alone t op _ l p h hmode
      have hwr := hI.wr t op _ l p h hmode
      refine ⟨?_, ?_, ?_, ?_, fin_upd hI fun _ _ e => nomatch e⟩ <;> dsimp only
      · intro t' op' r l' p' h1 _ u hu op'' r' l'' p'' h2
        rcases upd_eq h1 with ⟨rfl, _⟩ | ⟨hne, e⟩
        · rcases upd_eq h2 with ⟨rfl, _⟩ | ⟨hne2, e⟩
          · exact hu rfl
          · exact lone u hne2 _ _ _ _ e
        · exact lone t' hne _ _ _ _ e
      · intro t' op' r l' p' h1 _
        rcases upd_eq h1 with ⟨_, e⟩ | ⟨hne, e⟩
        · cases e; exact hwr
        · exact absurd e (lone t' hne _ _ _ _)
      · intro hw
        exact absurd ⟨t, op, rest, _, p, upd_same _ _ _, hmode⟩ hw
      · intro t' op' r l' p' h1 hR
        rcases upd_eq h1 with ⟨_, e⟩ | ⟨hne, e⟩
        · cases e; rw [hmode] at hR; cases hR
        · exact absurd e (lone t' hne _ _ _ _)
    | R =>
      obtain ⟨hp, hpure⟩ := hI.rd t op _ l p h hmode
      have hs' : (m σ.s l).1 = σ.s := hpure m List.mem_cons_self σ.s l
      have noW : ¬ σ.writerInside := by
        rintro ⟨u, op', r', l', p', hu, hW⟩
        by_cases hut : u = t
        · subst hut; rw [h] at hu; cases hu; rw [hmode] at hW; cases hW
        · exact hI.alone u op' r' l' p' hu hW t (Ne.symm hut) _ _ _ _ h
      have noW' : ∀ u op' r' l' p', upd σ.th t (Th.inside op rest (m σ.s l).2 p) u = .inside op' r' l' p' →
          op'.mode ≠ .W := by
        intro u op' r' l' p' hu hW
        rcases upd_eq hu with ⟨_, e⟩ | ⟨_, e⟩
        · cases e; rw [hmode] at hW; cases hW
        · exact noW ⟨u, op', r', l', p', e, hW⟩
      refine ⟨?_, ?_, ?_, ?_, fin_upd hI fun _ _ e => nomatch e⟩ <;> dsimp only
      · intro t' op' r l' p' h1 hW
        exact absurd hW (noW' _ _ _ _ _ h1)
      · intro t' op' r l' p' h1 hW
        exact absurd hW (noW' _ _ _ _ _ h1)
      · intro _; rw [hs']; exact hI.sync noW
      · intro t' op' r l' p' h1 hR
        rw [hs']
        rcases upd_eq h1 with ⟨_, e⟩ | ⟨_, e⟩
        · cases e
          exact ⟨by rw [← hp, runBody_cons, hs'], fun m' hm' => hpure m' (List.mem_cons_of_mem _ hm')⟩
        · exact hI.rd _ _ _ _ _ e hR
  | release t op l p h =>
    have old : ∀ u op' r' l' p', upd σ.th t (Th.done l p) u = .inside op' r' l' p' →
        u ≠ t ∧ σ.th u = .inside op' r' l' p' := by
      intro u op' r' l' p' hu
      rcases upd_eq hu with ⟨_, e⟩ | he
      · cases e
      · exact he
    -- a leaving writer has brought `s` to `g`, and what the leaving thread holds is what was promised
    have hW : op.mode = .W → σ.s = σ.g ∧ l = p := fun hmode => Prod.mk.inj (hI.wr t op [] l p h hmode)
    have hend : l = p := by
      cases hmode : op.mode with
      | W => exact (hW hmode).2
      | R => exact (hI.rd t op [] l p h hmode).1
    refine ⟨?_, ?_, ?_, ?_, fin_upd hI fun l' p' e => by cases e; exact hend⟩ <;> dsimp only
    · intro t' op' r l' p' h1 hm u hu op'' r' l'' p'' h2
      exact hI.alone t' op' r l' p' (old _ _ _ _ _ h1).2 hm u hu op'' r' l'' p'' (old _ _ _ _ _ h2).2
    · intro t' op' r l' p' h1 hm
      exact hI.wr t' op' r l' p' (old _ _ _ _ _ h1).2 hm
    · intro hw
      cases hmode : op.mode with
      | W => exact (hW hmode).1
      | R =>
        apply hI.sync
        rintro ⟨u, op', r', l', p', hu, hW⟩
        by_cases hut : u = t
        · subst hut; rw [h] at hu; cases hu; rw [hmode] at hW; cases hW
        · exact hw ⟨u, op', r', l', p', (upd_other _ _ _ _ hut).trans hu, hW⟩
    · intro t' op' r l' p' h1 hm
      exact hI.rd t' op' r l' p' (old _ _ _ _ _ h1).2 hm

/-- a legal sequential history from `s0`: every operation, run atomically in list order, returns the
    recorded result; `Legal s0 log g` also says the final state is `g` -/
inductive Legal (s0 : S) : List (Op S L × L) → S → Prop
  | nil : Legal s0 [] s0
  | snoc {log g op} : Legal s0 log g → Legal s0 (log ++ [(op, (runBody op.body g op.init).2)]) (runBody op.body g op.init).1

theorem legal_step (s0 : S) (σ σ' : Sys S L) (hI : Inv σ) (hL : Legal s0 σ.lin σ.g) (hs : Step σ σ') :
    Legal s0 σ'.lin σ'.g := by
  cases hs with
  | invoke t op h => exact hL
  | acquireW t op h hm free =>
    have hsg : σ.s = σ.g := hI.sync (by rintro ⟨u, op', r', l', p', hu, _⟩; exact free ⟨u, op', r', l', p', hu⟩)
    dsimp only
    rw [hsg]
    exact .snoc hL
  | acquireR t op h hm free =>
    have hsg : σ.s = σ.g := hI.sync free
    dsimp only
    have hpure : (runBody op.body σ.g op.init).1 = σ.g := runBody_pure_fst op.body (op.pure hm) σ.g op.init
    rw [hsg]
    have := Legal.snoc (op := op) hL
    rw [hpure] at this
    exact this
  | micro t op m rest l p h => exact hL
  | release t op l p h => exact hL

end Flyt.StoreConc
