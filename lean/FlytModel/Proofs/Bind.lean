import FlytModel.Spec.Bind
/-!
# Helper definitions and lemmas for C16 (`Props/C16.lean`)

`jsonRoundTrip` is the property's reference written on its own ("encode the value as JSON and decode
it into the destination"), `bindVal` is then characterised branch by branch.
-/
namespace Flyt.Bind

variable {K T V B E : Type} [DecidableEq T]

/-- The reference of the property: `json.Marshal(val)` then `json.Unmarshal(bytes, dest)` for a valid
    destination `*t` holding `cur`, with the errors passed through. -/
def jsonRoundTrip (c : Codec T V B E) (val : Option V) (t : T) (cur : V) : Outcome T V B E :=
  match c.marshal val with
  | .error e => ⟨some (.marshal e), .ptr t cur, [.marshal val]⟩
  | .ok b => ⟨(c.unmarshal b t cur).2.map .unmarshal, .ptr t (c.unmarshal b t cur).1,
              [.marshal val, .unmarshal b (.ptr t cur)]⟩

def Dest.valid : Dest T V → Bool
  | .ptr _ _ => true
  | _ => false

theorem bindVal_invalid (c : Codec T V B E) (val : Option V) (d : Dest T V) (h : d.valid = false) :
    bindVal c val d = .ok ⟨some .badDest, d, []⟩ := by
  cases d <;> simp [Dest.valid] at h <;> simp [bindVal, Dest.kind, Dest.isNil, Res.bind]

theorem bindVal_same (c : Codec T V B E) (v : V) (t : T) (cur : V) (h : c.typeOf v = t) :
    bindVal c (some v) (.ptr t cur) = .ok ⟨none, .ptr t v, []⟩ := by
  simp [bindVal, Dest.kind, Dest.isNil, Dest.elemType, Dest.set, Res.bind, h]

theorem bindVal_other (c : Codec T V B E) (val : Option V) (t : T) (cur : V)
    (h : val.map c.typeOf ≠ some t) :
    bindVal c val (.ptr t cur) = .ok (jsonRoundTrip c val t cur) := by
  simp only [bindVal, Dest.kind, Dest.isNil, Dest.elemType, Res.bind, jsonRoundTrip, Dest.unmarshalInto]
  simp only [ne_eq, not_true_eq_false, ↓reduceIte, Bool.false_eq_true, h]
  cases c.marshal val <;> rfl

theorem bindVal_ptr (c : Codec T V B E) (val : Option V) (t : T) (cur : V) :
    bindVal c val (.ptr t cur) =
      match val with
      | some v => if c.typeOf v = t then .ok ⟨none, .ptr t v, []⟩ else .ok (jsonRoundTrip c (some v) t cur)
      | none => .ok (jsonRoundTrip c none t cur) := by
  cases val with
  | none => exact bindVal_other c none t cur (by simp)
  | some v =>
    by_cases h : c.typeOf v = t
    · simp [h, bindVal_same c v t cur h]
    · simp only [h, ↓reduceIte]; exact bindVal_other c (some v) t cur (by simpa using h)

theorem bindVal_not_panic (c : Codec T V B E) (val : Option V) (d : Dest T V) :
    ∃ o, bindVal c val d = .ok o := by
  cases d with
  | untypedNil => exact ⟨_, bindVal_invalid c val _ rfl⟩
  | nonPointer t => exact ⟨_, bindVal_invalid c val _ rfl⟩
  | nilPointer t => exact ⟨_, bindVal_invalid c val _ rfl⟩
  | ptr t cur =>
    rw [bindVal_ptr]
    cases val with
    | none => exact ⟨_, rfl⟩
    | some v => by_cases h : c.typeOf v = t <;> simp [h]

theorem storeBind_of_some (c : Codec T V B E) {s : Store K V} {key : K} {val : Option V} (d : Dest T V)
    (hs : s key = some val) : (storeBind c s key d).1 = bindVal c val d := by
  simp only [storeBind, hs]

theorem storeBind_not_panic (c : Codec T V B E) (s : Store K V) (key : K) (d : Dest T V) :
    ∃ o, (storeBind c s key d).1 = .ok o := by
  cases hs : s key with
  | none => exact ⟨⟨some .keyNotFound, d, []⟩, by simp only [storeBind, hs]⟩
  | some val => rw [storeBind_of_some c d hs]; exact bindVal_not_panic c val d

theorem resultBind_not_panic (c : Codec T V B E) (value : Option V) (d : Dest T V) :
    ∃ o, resultBind c value d = .ok o := by
  cases value with
  | none => exact ⟨_, rfl⟩
  | some v => exact bindVal_not_panic c (some v) d

theorem CallObs.matches_self (o : CallObs) : o.matches o = true := by
  simp [CallObs.matches]

theorem Obs.matches_self (o : Obs) : o.matches o = true := by
  simp [Obs.matches, CallObs.matches_self]

omit [DecidableEq T] in
theorem jsonRoundTrip_err (c : Codec T V B E) (val : Option V) (t : T) (cur : V) :
    (jsonRoundTrip c val t cur).err =
      match c.marshal val with
      | .error e => some (.marshal e)
      | .ok b => (c.unmarshal b t cur).2.map .unmarshal := by
  unfold jsonRoundTrip; cases c.marshal val <;> rfl

end Flyt.Bind
