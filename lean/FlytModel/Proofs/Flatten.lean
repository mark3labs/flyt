import FlytModel.Proofs.Leaf
/-!
# Big-step / small-step equivalence: the recursive semantics against the flattened stack machine
(`Model/Flat.lean`), for C10 (iii).
-/
namespace Flyt.Proofs
open Flyt Flyt.Flat

theorem steps_add (env : Env) (sid : StoreId) (n m : Nat) (c : Cfg × RunSt) :
    steps env sid (n + m) c =
      ((steps env sid n c).1 ++ (steps env sid m (steps env sid n c).2).1,
       (steps env sid m (steps env sid n c).2).2) := by
  induction n generalizing c with
  | zero => simp [steps]
  | succ n ih =>
    rw [Nat.succ_add]
    simp only [steps, ih, List.append_assoc]

theorem steps_one (env : Env) (sid : StoreId) (c : Cfg × RunSt) : steps env sid 1 c = step env sid c := by
  simp [steps]

theorem steps_halt (env : Env) (sid : StoreId) (n : Nat) (r : Outcome) (st : RunSt) :
    steps env sid n (.halt r, st) = ([], (.halt r, st)) := by
  induction n with
  | zero => rfl
  | succ n ih => simp [steps, step, ih]

/-- configuration the machine is in when the node / loop has finished with outcome `r` -/
def after (r : Outcome) (retK : Action → Cfg) : Cfg :=
  match r with
  | .ok a => retK a
  | r => .halt r

theorem after_not_ok {r : Outcome} (h : ∀ a, r ≠ .ok a) (retK : Action → Cfg) : after r retK = .halt r := by
  cases r <;> simp_all [after]

/-- a node that is a batch is only ever started on a live context inside a flow (`Flow.Exec` checks the
    context first); a batch node run directly is the special case of `Flat.run` -/
def Startable (env : Env) (id : NodeId) (st : RunSt) : Prop :=
  st.ctx = .live ∨ ∀ cfg, env.arena id ≠ .batch cfg

theorem sim {env : Env} {sid : StoreId} {task st evs st' r} (h : Big env sid task st evs st' r) :
    match task with
    | .node id => Startable env id st → ∀ ops K, ∃ n,
        steps env sid n (.exec ((ops, id) :: K), st) = (evs, (after r (fun a => .ret a ((ops, id) :: K)), st'))
    | .loop ops cur => ∀ K, ∃ n,
        steps env sid n (.exec ((ops, cur) :: K), st) = (evs, (after r (fun a => .ret (norm a) K), st')) := by
  induction h with
  | @leaf id cfg st evs st' out hA h =>
    intro _ ops K
    refine ⟨1, ?_⟩
    rw [steps_one]
    cases hc : st.ctx with
    | done k =>
      rw [leafStep_done hc] at h
      cases h
      simp [step, hc, after]
    | live =>
      simp only [leafStep] at h
      simp only [step, hc, hA]
      rw [hc] at h
      cases h
      cases (runLeaf env.kind id (st.visits id) sid cfg (env.leafBeh id (st.visits id)) Ctx.live).2.2 <;>
        simp [after]
  | @batch id cfg st evs st' out hA h =>
    intro hs ops K
    refine ⟨1, ?_⟩
    rw [steps_one]
    have hc : st.ctx = .live := by
      rcases hs with hs | hs
      · exact hs
      · exact absurd hA (hs cfg)
    simp only [batchStep] at h
    simp only [step, hc, hA]
    rw [hc] at h
    cases h
    cases (runBatch env.kind id (st.visits id) sid cfg (env.batchBeh id (st.visits id)) Ctx.live).2.2 <;>
      simp [after]
  | flowDone hA hc =>
    intro _ ops K
    exact ⟨1, by rw [steps_one]; simp [step, hc, after]⟩
  | flowNoStart hA hc =>
    intro _ ops K
    exact ⟨1, by rw [steps_one]; simp [step, hc, hA, after]⟩
  | @flowOk id s ops' st evs st' a hA hc _ ih =>
    intro _ ops K
    obtain ⟨n, hn⟩ := ih ((ops, id) :: K)
    refine ⟨1 + n, ?_⟩
    rw [steps_add, steps_one]
    simp only [step, hc, hA, hn, List.nil_append]
    simp [after]
  | @flowFail id s ops' st evs st' r hA hc _ hne ih =>
    intro _ ops K
    obtain ⟨n, hn⟩ := ih ((ops, id) :: K)
    refine ⟨1 + n, ?_⟩
    rw [steps_add, steps_one]
    simp only [step, hc, hA, hn, List.nil_append]
    rw [after_not_ok hne, after_not_ok hne]
  | loopDone hc =>
    intro K
    exact ⟨1, by rw [steps_one]; simp [step, hc, after]⟩
  | @loopStop ops cur st evs st' a hc _ hnx ih =>
    intro K
    obtain ⟨n, hn⟩ := ih (.inl hc) ops K
    refine ⟨n + 1, ?_⟩
    rw [steps_add, steps_one, hn]
    simp only [after, step]
    cases hx : next ops cur a with
    | none => simp
    | some t =>
      cases t with
      | none => simp
      | some nxt => exact absurd hx (hnx nxt)
  | @loopStep ops cur st evs st' a nxt evs2 st'' r hc _ hnx _ ih1 ih2 =>
    intro K
    obtain ⟨n, hn⟩ := ih1 (.inl hc) ops K
    obtain ⟨m, hm⟩ := ih2 K
    refine ⟨n + (1 + m), ?_⟩
    rw [steps_add, hn, steps_add, steps_one]
    simp only [after, step, hnx, hm, List.nil_append]
  | @loopFail ops cur st evs st' r hc _ hne ih =>
    intro K
    obtain ⟨n, hn⟩ := ih (.inl hc) ops K
    refine ⟨n, ?_⟩
    rw [hn, after_not_ok hne, after_not_ok hne]

theorem steps_halted_mono {env : Env} {sid : StoreId} {n : Nat} {c : Cfg × RunSt} {evs r st'}
    (h : steps env sid n c = (evs, (.halt r, st'))) (m : Nat) (hm : n ≤ m) :
    steps env sid m c = (evs, (.halt r, st')) := by
  obtain ⟨d, rfl⟩ := Nat.exists_eq_add_of_le hm
  rw [steps_add, h]
  simp [steps_halt]

/-- **Flattening**: a non-`fuel` result of the recursive semantics is the result of the stack machine,
    for every sufficiently large step budget. -/
theorem flat_run_of_big {env : Env} {sid : StoreId} {root st evs st' r}
    (h : Big env sid (.node root) st evs st' r) :
    ∃ n, ∀ m, n ≤ m → Flat.run env m root sid st = (evs, st', r) := by
  have key : (∀ cfg, env.arena root ≠ .batch cfg) →
      ∃ n, ∀ m, n ≤ m → steps env sid m (.exec [([], root)], st) = (evs, (.halt r, st')) := by
    intro hnb
    obtain ⟨n, hn⟩ := sim h (.inr hnb) [] []
    refine ⟨n + 2, fun m hm => steps_halted_mono ?_ m hm⟩
    rw [steps_add, hn]
    cases r with
    | ok a => simp [after, steps, step, next, big_node_ok_norm h]
    | _ => simp [after, steps_halt]
  cases hA : env.arena root with
  | batch cfg =>
    obtain ⟨f, hf⟩ := runNode_of_big h
    have := hf (f + 1) (Nat.le_succ f)
    rw [runNode_batch hA] at this
    exact ⟨0, fun m _ => by simp only [Flat.run, hA]; exact this⟩
  | leaf cfg =>
    obtain ⟨n, hn⟩ := key (by intro c hc; rw [hA] at hc; cases hc)
    exact ⟨n, fun m hm => by simp only [Flat.run, hA, hn m hm]⟩
  | flow s ops =>
    obtain ⟨n, hn⟩ := key (by intro c hc; rw [hA] at hc; cases hc)
    exact ⟨n, fun m hm => by simp only [Flat.run, hA, hn m hm]⟩

end Flyt.Proofs
