import FlytModel.Proofs.Value
/-!
# C15 — typed accessors are total, mutually consistent and faithful

Theorems about the model of `FlytModel/Model/Value.lean` (the *repaired* slice test,
`reflect.Kind`), for **all** values of the universe `GoVal`, all defaults, all stores and every
instance of the float-conversion parameter `Conv`. Each is followed by a non-vacuity `example`.

Section 5 is about a `flyt.Result` used as an ordinary value (`R(R(42))`, a Result in the store or
inside a slice): it is a struct-kind member of the same universe — well-formed exactly when what it
holds is — so everything above applies to it; what that means concretely (no accessor converts it,
`ToSlice` wraps it, it compares like what it holds) is spelled out there.

The last section is about the unrepaired test (`Legacy`, `result[0] == value`): it is proved, again
for all values, to panic on every non-slice of non-comparable type and to call a NaN a slice —
finding F4 — and to coincide with the repaired code everywhere else.

The non-Must accessors of the string / int / float64 / bool / map families cannot panic by
construction (a comma-ok type assertion or type switch; their model functions return plain values).
The slice family goes through a possibly panicking test (`SliceTest`), so its totality is a theorem.
-/
namespace Flyt.Props.C15
open Flyt Flyt.Value Flyt.Value.Spec

/-! ## 1. Totality -/

/-- No non-Must slice accessor panics, on any value, for results and for the store. -/
theorem slice_accessors_total (s : Store) (k : String) (v : GoVal) (d : SliceV) :
    asSlice v ≠ .panic ∧ asSliceOr v d ≠ .panic ∧ getSlice s k ≠ .panic ∧ getSliceOr s k d ≠ .panic := by
  refine ⟨by simp [asSlice_closed], by simp [asSliceOr_closed], ?_, ?_⟩
  · cases h : s.get k with
    | none => simp [getSlice, getSliceWith, getSliceOrWith_miss _ _ _ _ h]
    | some w => simp [getSlice_of_get s k w h]
  · cases h : s.get k with
    | none => simp [getSliceOr, getSliceOrWith_miss _ _ _ _ h]
    | some w => simp [getSliceOr_of_get s k w d h]

/-- the stored value is a `map[string]any` — the case on which the unrepaired code panics -/
example : getSliceOr (Store.set [] "k" (.map tMapSA (some 1))) "k" none = .ok none := by decide

/-- Every non-Must observation of a scenario is panic-free. -/
theorem nonMust_total (sc : Scenario) :
    total (observe sc).str = true ∧ total (observe sc).int = true ∧ total (observe sc).flt = true
    ∧ total (observe sc).bool = true ∧ total (observe sc).slice = true ∧ total (observe sc).map = true
    ∧ (observe sc).toSlice.isPanic = false ∧ (∀ g ∈ (observe sc).gen, g.1.isPanic = false) := by
  have hk := get_scStore sc.v
  have hm := get_scStore_miss sc.v
  refine ⟨rfl, rfl, rfl, rfl, ?_, rfl, rfl, ?_⟩
  · show total (FamObs.mk _ _ _ _ _ _ _) = true
    rw [show asSliceWith kindTest sc.v = _ from asSlice_closed sc.v,
      show asSliceOrWith kindTest sc.v sc.d.sl = _ from asSliceOr_closed sc.v sc.d.sl,
      show getSliceWith kindTest _ keyK = _ from getSlice_of_get _ _ _ hk,
      show getSliceOrWith kindTest _ keyK sc.d.sl = _ from getSliceOr_of_get _ _ _ _ hk,
      show getSliceWith kindTest _ keyMiss = _ from getSliceOrWith_miss _ _ _ _ hm,
      getSliceOrWith_miss _ _ _ _ hm]
    rfl
  · intro g hg
    obtain ⟨t, -, rfl⟩ := List.mem_map.1 hg
    rfl

/-- a func value, a struct holding a slice: the slice family answers without panicking -/
example : (observe ⟨.func (.func 0) false, ⟨"d", 7, 0, true, none, none⟩, ⟨fun _ _ => none, id, fun _ => 0⟩⟩).slice.as_ = .ok (none, false)
    ∧ (observe ⟨.func (.func 0) false, ⟨"d", 7, 0, true, some [], none⟩, ⟨fun _ _ => none, id, fun _ => 0⟩⟩).slice.getOr = .ok (some []) := by
  decide

/-! ## 2. Consistency of the variants -/

/-- `AsXOr d` is `AsX` with the default substituted on failure (`(AsX).getD d`). -/
theorem or_consistent (c : Conv) (v : GoVal) (ds : String) (di : Option Int) (df : Nat) (db : Bool)
    (dsl : SliceV) (dm : MapV) :
    asStringOr v ds = (if (asString v).2 then (asString v).1 else ds)
    ∧ asIntOr c v di = (if (asInt c v).2 then (asInt c v).1 else di)
    ∧ asFloat64Or c v df = (if (asFloat64 c v).2 then (asFloat64 c v).1 else df)
    ∧ asBoolOr v db = (if (asBool v).2 then (asBool v).1 else db)
    ∧ asMapOr v dm = (if (asMap v).2 then (asMap v).1 else dm)
    ∧ (∀ r, asSlice v = .ok r → asSliceOr v dsl = .ok (if r.2 then r.1 else dsl)) := by
  refine ⟨asStringOr_eq v ds, asIntOr_eq c v di, asFloat64Or_eq c v df, asBoolOr_eq v db, asMapOr_eq v dm, ?_⟩
  intro r hr
  unfold asSlice at hr
  unfold asSliceOr asSliceOrWith
  rw [hr]; cases h : r.2 <;> simp [h]

example : asIntOr ⟨fun _ _ => none, id, fun _ => 0⟩ (.str tString "x") (some 7) = some 7
    ∧ asIntOr ⟨fun _ _ => none, id, fun _ => 0⟩ (.int (.basic .uint8) 200) (some 7) = some 200 := by
  decide

/-- `MustX` panics iff `AsX` fails, and otherwise returns the value of `AsX`. -/
theorem must_consistent (c : Conv) (v : GoVal) :
    (mustString v = if (asString v).2 then .ok (asString v).1 else .panic)
    ∧ (mustInt c v = if (asInt c v).2 then .ok (asInt c v).1 else .panic)
    ∧ (mustFloat64 c v = if (asFloat64 c v).2 then .ok (asFloat64 c v).1 else .panic)
    ∧ (mustBool v = if (asBool v).2 then .ok (asBool v).1 else .panic)
    ∧ (mustMap v = if (asMap v).2 then .ok (asMap v).1 else .panic)
    ∧ (∀ r, asSlice v = .ok r → mustSlice v = if r.2 then .ok r.1 else .panic) := by
  refine ⟨mustString_eq v, mustInt_eq c v, mustFloat64_eq c v, mustBool_eq v, mustMap_eq v, ?_⟩
  intro r hr
  unfold asSlice at hr
  unfold mustSlice mustSliceWith
  rw [hr]; cases h : r.2 <;> simp [h]

example : mustInt ⟨fun _ _ => none, id, fun _ => 0⟩ (.int (.basic .int32) (-3)) = .ok (some (-3))
    ∧ mustString (.int (.basic .int32) (-3)) = .panic
    ∧ mustSlice (.slice tStrings false (.cons (.str tString "a") .nil)) = .ok (some [.str tString "a"]) := by decide

/-- `MustX = panic` exactly when `AsX` reports failure (all six families). -/
theorem must_panics_iff (c : Conv) (v : GoVal) :
    (mustString v = .panic ↔ (asString v).2 = false)
    ∧ (mustInt c v = .panic ↔ (asInt c v).2 = false)
    ∧ (mustFloat64 c v = .panic ↔ (asFloat64 c v).2 = false)
    ∧ (mustBool v = .panic ↔ (asBool v).2 = false)
    ∧ (mustMap v = .panic ↔ (asMap v).2 = false)
    ∧ (mustSlice v = .panic ↔ asSlice v = .ok (none, false)) := by
  refine ⟨?_, ?_, ?_, ?_, ?_, ?_⟩
  · rw [mustString_eq]; cases (asString v).2 <;> simp
  · rw [mustInt_eq]; cases (asInt c v).2 <;> simp
  · rw [mustFloat64_eq]; cases (asFloat64 c v).2 <;> simp
  · rw [mustBool_eq]; cases (asBool v).2 <;> simp
  · rw [mustMap_eq]; cases (asMap v).2 <;> simp
  · rw [mustSlice_closed, asSlice_closed]; by_cases h : v.kind = .slice <;> simp [h]

example : mustBool (.bool tBool false) = .ok false ∧ mustBool (.bool (.named "MyBool" tBool) true) = .panic
    ∧ mustSlice (.float (.basic .float64) 9221120237041090561) = .panic := by decide

/-- The store getter agrees with the result accessor on the value the store holds under the key
    (the two copies of every type switch are the same function). -/
theorem store_agrees_with_result (c : Conv) (s : Store) (k : String) (v : GoVal) (h : s.get k = some v)
    (ds : String) (di : Option Int) (df : Nat) (db : Bool) (dsl : SliceV) (dm : MapV) :
    getStringOr s k ds = asStringOr v ds ∧ getString s k = asStringOr v ""
    ∧ getIntOr c s k di = asIntOr c v di ∧ getInt c s k = asIntOr c v (some 0)
    ∧ getFloat64Or c s k df = asFloat64Or c v df ∧ getFloat64 c s k = asFloat64Or c v 0
    ∧ getBoolOr s k db = asBoolOr v db ∧ getBool s k = asBoolOr v false
    ∧ getMapOr s k dm = asMapOr v dm ∧ getMap s k = asMapOr v none
    ∧ getSliceOr s k dsl = asSliceOr v dsl ∧ getSlice s k = asSliceOr v none := by
  refine ⟨getStringOr_of_get s k v ds h, getString_of_get s k v h, getIntOr_of_get c s k v di h,
    getIntOr_of_get c s k v _ h, getFloat64Or_of_get c s k v df h, getFloat64Or_of_get c s k v _ h,
    getBoolOr_of_get s k v db h, getBoolOr_of_get s k v _ h, getMapOr_of_get s k v dm h,
    getMapOr_of_get s k v _ h, ?_, ?_⟩
  · rw [getSliceOr_of_get s k v dsl h, asSliceOr_closed]
  · rw [getSlice_of_get s k v h, asSliceOr_closed]

/-- the hypothesis is met by a store holding several keys; the getter sees the right one -/
example : Store.get [("a", .bool tBool true), ("k", .float (.basic .float32) 1069547520), ("k", .nil)] "k"
      = some (.float (.basic .float32) 1069547520)
    ∧ getFloat64Or ⟨fun _ _ => none, fun b => b + 1, fun _ => 0⟩
        [("a", .bool tBool true), ("k", .float (.basic .float32) 1069547520), ("k", .nil)] "k" 5 = 1069547521 := by
  decide

/-- … in particular right after `Set k v`, whatever the store held before. -/
theorem store_after_set (c : Conv) (s : Store) (k : String) (v : GoVal)
    (ds : String) (di : Option Int) (df : Nat) (db : Bool) (dsl : SliceV) (dm : MapV) :
    getStringOr (s.set k v) k ds = asStringOr v ds
    ∧ getIntOr c (s.set k v) k di = asIntOr c v di
    ∧ getFloat64Or c (s.set k v) k df = asFloat64Or c v df
    ∧ getBoolOr (s.set k v) k db = asBoolOr v db
    ∧ getMapOr (s.set k v) k dm = asMapOr v dm
    ∧ getSliceOr (s.set k v) k dsl = asSliceOr v dsl := by
  have h := store_agrees_with_result c (s.set k v) k v (get_set s k v) ds di df db dsl dm
  exact ⟨h.1, h.2.2.1, h.2.2.2.2.1, h.2.2.2.2.2.2.1, h.2.2.2.2.2.2.2.2.1, h.2.2.2.2.2.2.2.2.2.2.1⟩

example : getBoolOr (Store.set [("k", .bool tBool false)] "k" (.bool tBool true)) "k" false = true
    ∧ getSliceOr (Store.set [] "k" (.slice tInts false (.cons (.int (.basic .int) 3) .nil))) "k" none
      = .ok (some [.int (.basic .int) 3]) := by decide

/-- A key the store does not hold yields the default / the zero value. -/
theorem store_missing_key (c : Conv) (s : Store) (k : String) (h : s.get k = none)
    (ds : String) (di : Option Int) (df : Nat) (db : Bool) (dsl : SliceV) (dm : MapV) :
    getStringOr s k ds = ds ∧ getString s k = ""
    ∧ getIntOr c s k di = di ∧ getInt c s k = some 0
    ∧ getFloat64Or c s k df = df ∧ getFloat64 c s k = 0
    ∧ getBoolOr s k db = db ∧ getBool s k = false
    ∧ getMapOr s k dm = dm ∧ getMap s k = none
    ∧ getSliceOr s k dsl = .ok dsl ∧ getSlice s k = .ok none :=
  ⟨getStringOr_miss s k ds h, getString_miss s k h, getIntOr_miss c s k di h, getIntOr_miss c s k _ h,
    getFloat64Or_miss c s k df h, getFloat64Or_miss c s k _ h, getBoolOr_miss s k db h,
    getBoolOr_miss s k _ h, getMapOr_miss s k dm h, getMapOr_miss s k _ h,
    getSliceOrWith_miss _ s k dsl h, getSliceOrWith_miss _ s k none h⟩

example : getIntOr ⟨fun _ _ => none, id, fun _ => 0⟩ (Store.set [] "k" (.int (.basic .int16) (-5))) "k" (some 9)
      = some (-5)
    ∧ getIntOr ⟨fun _ _ => none, id, fun _ => 0⟩ (Store.set [] "k" (.int (.basic .uintptr) 5)) "k" (some 9)
      = some 9 := by decide

/-! ## 3. Faithfulness -/

/-- `AsInt` succeeds exactly on the twelve documented source types. -/
theorem asInt_succeeds_iff (c : Conv) (v : GoVal) (h : v.wf = true) :
    (asInt c v).2 = true ↔ ∃ b, b ∈ intSources ∧ v.typeOf? = some (.basic b) := by
  rw [asInt_eq]
  constructor
  · intro hs
    unfold toInt? at hs
    split at hs
    · refine ⟨_, ?_, rfl⟩
      split at hs
      · exact Basic.mem_intSources.2 (.inl ‹_›)
      · cases hs
    · refine ⟨_, ?_, rfl⟩
      split at hs
      · exact Basic.mem_intSources.2 (.inr ‹_›)
      · cases hs
    · cases hs
  · -- well-formedness makes the representation fit the type, so the switch finds its case
    rintro ⟨b, hb, ht⟩
    rcases Basic.mem_intSources.1 hb with hd | hf
    · obtain ⟨n, rfl⟩ := (wf_basic v h b ht).1 (Basic.kind_of_isDocInt hd)
      simp [toInt?, hd]
    · obtain ⟨x, rfl⟩ := (wf_basic v h b ht).2 (Basic.kind_of_isFloat hf)
      simp [toInt?, hf]

/-- a well-formed `uint64` succeeds, a well-formed `uintptr` or named `MyInt` does not -/
example : (GoVal.int (.basic .uint64) 5).wf = true ∧ (asInt ⟨fun _ _ => none, id, fun _ => 0⟩ (.int (.basic .uint64) 5)).2 = true
    ∧ (GoVal.int (.basic .uintptr) 5).wf = true ∧ (asInt ⟨fun _ _ => none, id, fun _ => 0⟩ (.int (.basic .uintptr) 5)).2 = false
    ∧ (GoVal.int (.named "MyInt" (.basic .int)) 5).wf = true := by decide

/-- On an integer source the result is the exact two's-complement conversion to the 64-bit `int`,
    independently of the parameter `Conv`; on a float source it is Go's own conversion. -/
theorem asInt_value (c : Conv) (b : Basic) (n : Int) (hb : b.isDocInt = true)
    (h : (GoVal.int (.basic b) n).wf = true) :
    asInt c (.int (.basic b) n) = (some (wrap64 n), true) := by
  rw [asInt_eq, toInt?, if_pos hb]
  by_cases hi : b = .int
  · subst hi; rw [if_pos rfl, wrap64_of_wf_int h]; rfl
  · rw [if_neg hi]; rfl

example : (GoVal.int (.basic .uint) 9223372036854775808).wf = true
    ∧ asInt ⟨fun _ _ => none, id, fun _ => 0⟩ (.int (.basic .uint) 9223372036854775808) = (some (-9223372036854775808), true) := by decide

theorem asInt_value_float (c : Conv) (bits : Nat) :
    asInt c (.float (.basic .float64) bits) = (c.f2i false bits, true)
    ∧ asInt c (.float (.basic .float32) bits) = (c.f2i true bits, true) := ⟨rfl, rfl⟩

/-- with a `Conv` that truncates one particular pattern (1.5) to 1 -/
example : asInt ⟨fun _ b => if b = 4609434218613702656 then some 1 else none, id, fun _ => 0⟩
      (.float (.basic .float64) 4609434218613702656) = (some 1, true) := by decide

/-- `wrap64` is the identity on the range of `int`, always lands in it, and only ever differs from
    its argument by a multiple of 2⁶⁴. -/
theorem wrap64_spec (n : Int) :
    (-two63 ≤ n → n < two63 → wrap64 n = n) ∧ (-two63 ≤ wrap64 n ∧ wrap64 n < two63)
    ∧ (wrap64 n - n) % two64 = 0 :=
  ⟨wrap64_of_inRange, wrap64_range n, wrap64_congr n⟩

example : wrap64 18446744073709551615 = -1 ∧ wrap64 9223372036854775808 = -9223372036854775808
    ∧ wrap64 (-5) = -5 ∧ wrap64 9223372036854775807 = 9223372036854775807 := by decide

example : asInt ⟨fun _ _ => none, id, fun _ => 0⟩ (.int (.basic .uint64) 18446744073709551615) = (some (-1), true)
    ∧ asInt ⟨fun _ _ => none, id, fun _ => 0⟩ (.int (.basic .int8) (-128)) = (some (-128), true)
    ∧ (asInt ⟨fun _ _ => none, id, fun _ => 0⟩ (.int (.named "MyInt" (.basic .int)) 3)).2 = false := by decide

/-- `AsFloat64` succeeds exactly on the twelve documented source types; a `float64` is returned
    bit for bit, everything else through Go's conversion (the parameter). -/
theorem asFloat64_succeeds_iff (c : Conv) (v : GoVal) (h : v.wf = true) :
    (asFloat64 c v).2 = true ↔ ∃ b, b ∈ floatSources ∧ v.typeOf? = some (.basic b) := by
  rw [asFloat64_eq]
  show (toFloat64? c v).isSome = true ↔ _
  rw [isSome_toFloat64?]
  simp only [Basic.mem_floatSources]
  rw [← asInt_succeeds_iff c v h, asInt_eq]

example : (GoVal.float (.basic .float32) 2143289344).wf = true
    ∧ (asFloat64 ⟨fun _ _ => none, id, fun _ => 0⟩ (.float (.basic .float32) 2143289344)).2 = true
    ∧ (GoVal.complex (.basic .complex64) 0 0).wf = true
    ∧ (asFloat64 ⟨fun _ _ => none, id, fun _ => 0⟩ (.complex (.basic .complex64) 0 0)).2 = false := by decide

theorem asFloat64_value (c : Conv) (b : Basic) (n : Int) (bits : Nat) (hb : b.isDocInt = true) :
    asFloat64 c (.float (.basic .float64) bits) = (bits, true)
    ∧ asFloat64 c (.float (.basic .float32) bits) = (c.f32to64 bits, true)
    ∧ asFloat64 c (.int (.basic b) n) = (c.i2f n, true) := by
  refine ⟨rfl, rfl, ?_⟩
  rw [asFloat64_eq, toFloat64?, if_pos hb]; rfl

example : asFloat64 ⟨fun _ _ => none, id, fun _ => 0⟩ (.float (.basic .float64) 9221120237041090561)
    = (9221120237041090561, true) := by decide

/-- `AsString`, `AsBool`, `AsMap` succeed exactly on the one documented type and return the value
    itself (for a map: the same map). -/
theorem asString_iff (v : GoVal) (s : String) : asString v = (s, true) ↔ v = .str tString s := by
  rw [asString_exp]
  cases v with
  | str t x => simp only [expString]; split <;> simp_all
  | _ => simp [expString]

example : asString (.str tString "") = ("", true) ∧ asString .nil = ("", false) := by decide

theorem asBool_iff (v : GoVal) (b : Bool) : asBool v = (b, true) ↔ v = .bool tBool b := by
  rw [asBool_exp]
  cases v with
  | bool t x => simp only [expBool]; split <;> simp_all
  | _ => simp [expBool]

example : asBool (.bool tBool false) = (false, true) ∧ asBool (.int (.basic .int) 1) = (false, false) := by decide

theorem asMap_iff (v : GoVal) (m : MapV) : asMap v = (m, true) ↔ v = .map tMapSA m := by
  constructor
  · intro h
    cases v <;> simp [asMap] at h
    case map t id => split at h <;> simp_all
  · intro h; subst h; simp [asMap]

example : asString (.str (.named "MyString" tString) "x") = ("", false)
    ∧ asMap (.map (.map tString (.basic .int)) (some 1)) = (none, false)
    ∧ asMap (.map tMapSA none) = (none, true) := by decide

/-- `As[T]` succeeds exactly when the value is not nil and its dynamic type is `T` (for `T = any`:
    is not nil); it then returns the value itself, and the zero value of `T` otherwise.
    `MustAs[T]` panics iff `As[T]` fails and otherwise returns the same value. -/
theorem asT_spec (t : GoType) (v : GoVal) :
    ((asT t v).2 = true ↔ v ≠ .nil ∧ (t = .any ∨ v.typeOf? = some t))
    ∧ ((asT t v).2 = true → (asT t v).1 = v) ∧ ((asT t v).2 = false → (asT t v).1 = zeroOf t)
    ∧ mustT t v = (if (asT t v).2 then .ok (asT t v).1 else .panic)
    ∧ (mustT t v = .panic ↔ (asT t v).2 = false) := by
  obtain ⟨h1, h2⟩ := asT_exp t v
  refine ⟨?_, ?_, ?_, mustT_eq t v, ?_⟩
  · rw [h1]; simp [expAs]
  · intro h; rw [h2, ← h1, h]; rfl
  · intro h; rw [h2, ← h1, h]; rfl
  · rw [mustT_eq]; cases (asT t v).2 <;> simp

/-- `As[int]` on an `int` and on a `MyInt`; `As[any]` on nil; `As[Result]` on a Result used as a value
    (`flyt.As[flyt.Result](flyt.R(flyt.R(42)))`); the zero `Result` otherwise -/
example : asT (.basic .int) (.int (.basic .int) 42) = (.int (.basic .int) 42, true)
    ∧ asT (.basic .int) (.int (.named "MyInt" (.basic .int)) 42) = (.int (.basic .int) 0, false)
    ∧ asT .any .nil = (.nil, false) ∧ asT .any (.bool tBool true) = (.bool tBool true, true)
    ∧ asT tResult (.newResult (.int (.basic .int) 42)) = (.newResult (.int (.basic .int) 42), true)
    ∧ asT tResult (.int (.basic .int) 42) = (.newResult .nil, false)
    ∧ mustT tAnys (.slice tInts true .nil) = .panic
    ∧ zeroOf (.array 2 (.basic .int)) = .array (.array 2 (.basic .int)) (.cons (.int (.basic .int) 0) (.cons (.int (.basic .int) 0) .nil)) := by
  decide

/-- `AsSlice` succeeds iff the value's kind is slice, and then returns exactly `ToSlice v`. -/
theorem asSlice_spec (v : GoVal) :
    asSlice v = .ok (if v.kind = .slice then (toSlice v, true) else (none, false)) :=
  asSlice_closed v

example : asSlice (.array (.array 1 tInts) (.cons (.slice tInts true .nil) .nil)) = .ok (none, false)
    ∧ asSlice (.slice tFloat64s false (.cons (.float (.basic .float64) 9221120237041090561) .nil))
      = .ok (some [.float (.basic .float64) 9221120237041090561], true) := by decide

/-- for well-formed values "kind is slice" is a statement about the dynamic type -/
theorem asSlice_succeeds_iff (v : GoVal) (h : v.wf = true) :
    (∃ s, asSlice v = .ok (s, true)) ↔ ∃ t, v.typeOf? = some t ∧ t.kind = .slice := by
  rw [asSlice_closed]
  constructor
  · rintro ⟨s, hs⟩
    by_cases hk : v.kind = .slice
    · cases v <;> simp [GoVal.kind] at hk
      case slice t n es => exact ⟨t, rfl, by simpa [GoVal.kind] using wf_kind _ t h rfl⟩
    · simp [hk] at hs
  · rintro ⟨t, ht, hk⟩
    have := wf_kind v t h ht
    exact ⟨toSlice v, by simp [← this, hk]⟩

example : (GoVal.slice (.named "MyInts" tInts) false (.cons (.int (.basic .int) 1) .nil)).wf = true
    ∧ (GoType.named "MyInts" tInts).kind = .slice
    ∧ asSlice (.slice (.named "MyInts" tInts) false (.cons (.int (.basic .int) 1) .nil))
      = .ok (some [.int (.basic .int) 1], true) := by decide

/-- `ToSlice`: nil ↦ empty, a non-slice ↦ the one-element slice holding it, a slice ↦ its elements
    in order — whichever of the five fast paths or the reflection fallback is taken. -/
theorem toSlice_spec (v : GoVal) :
    toSlice .nil = some []
    ∧ (v ≠ .nil → v.kind ≠ .slice → toSlice v = some [v])
    ∧ (∀ t isNil es, elemsOf (toSlice (.slice t isNil es)) = if isNil then [] else es.toList) := by
  refine ⟨rfl, ?_, ?_⟩
  · intro h1 h2; cases v <;> first | rfl | (exfalso; exact h1 rfl) | (exfalso; exact h2 rfl)
  · intro t isNil es; exact elemsOf_toSlice (.slice t isNil es)

example : toSlice (.slice tInts false (.cons (.int (.basic .int) 1) (.cons (.int (.basic .int) 2) .nil)))
      = some [.int (.basic .int) 1, .int (.basic .int) 2]
    ∧ toSlice (.slice (.named "MyInts" tInts) true .nil) = some []
    ∧ toSlice (.slice tAnys true .nil) = none
    ∧ asSlice (.slice (.slice tAnys) false (.cons (.slice tAnys true .nil) .nil))
      = .ok (some [.slice tAnys true .nil], true) := by decide

/-! ## 4. The whole property, on the model's observation -/

/-- **C15 holds of the model**: for every well-formed value, all defaults and every `Conv`, the
    predicate `Spec.c15` — evaluated by the driver on what the implementation did — is true of what
    the model does. -/
theorem holds (sc : Scenario) (h : sc.v.wf = true) : c15 sc (observe sc) = true := by
  have hk := get_scStore sc.v
  have hm := get_scStore_miss sc.v
  have hstr : (parts sc (observe sc)).str = true :=
    famOK_plain "" sc.d.s _ _ (asStringOr sc.v) _ _ _ _ _ (asString_exp sc.v) (asStringOr_eq sc.v)
      (mustString_eq sc.v) (getString_of_get _ keyK _ hk) (getStringOr_of_get _ keyK _ _ hk)
      (getString_miss _ keyMiss hm) (getStringOr_miss _ keyMiss _ hm)
  have hint : (parts sc (observe sc)).int = true :=
    famOK_plain (some 0) (some sc.d.i) _ _ (asIntOr sc.conv sc.v) _ _ _ _ _
      ((asInt_eq sc.conv sc.v).trans (by rw [toInt?_eq_exp sc.conv sc.v h])) (asIntOr_eq sc.conv sc.v)
      (mustInt_eq sc.conv sc.v) (getIntOr_of_get _ _ keyK _ _ hk) (getIntOr_of_get _ _ keyK _ _ hk)
      (getIntOr_miss _ _ keyMiss _ hm) (getIntOr_miss _ _ keyMiss _ hm)
  have hflt : (parts sc (observe sc)).flt = true :=
    famOK_plain 0 sc.d.f _ _ (asFloat64Or sc.conv sc.v) _ _ _ _ _
      ((asFloat64_eq sc.conv sc.v).trans (by rw [toFloat64?_eq_exp sc.conv sc.v h])) (asFloat64Or_eq sc.conv sc.v)
      (mustFloat64_eq sc.conv sc.v) (getFloat64Or_of_get _ _ keyK _ _ hk) (getFloat64Or_of_get _ _ keyK _ _ hk)
      (getFloat64Or_miss _ _ keyMiss _ hm) (getFloat64Or_miss _ _ keyMiss _ hm)
  have hbool : (parts sc (observe sc)).bool = true :=
    famOK_plain false sc.d.b _ _ (asBoolOr sc.v) _ _ _ _ _ (asBool_exp sc.v) (asBoolOr_eq sc.v)
      (mustBool_eq sc.v) (getBoolOr_of_get _ keyK _ _ hk) (getBoolOr_of_get _ keyK _ _ hk)
      (getBoolOr_miss _ keyMiss _ hm) (getBoolOr_miss _ keyMiss _ hm)
  have hmap : (parts sc (observe sc)).map = true :=
    famOK_plain none sc.d.m _ _ (asMapOr sc.v) _ _ _ _ _ (asMap_exp sc.v) (asMapOr_eq sc.v)
      (mustMap_eq sc.v) (getMapOr_of_get _ keyK _ _ hk) (getMapOr_of_get _ keyK _ _ hk)
      (getMapOr_miss _ keyMiss _ hm) (getMapOr_miss _ keyMiss _ hm)
  have hslice : (parts sc (observe sc)).slice = true := by
    show famOK elemsOf none sc.d.sl (expSlice sc.v (.ok (toSlice sc.v))) (FamObs.mk _ _ _ _ _ _ _) = true
    rw [show asSliceWith kindTest sc.v = _ from asSlice_closed sc.v,
      show asSliceOrWith kindTest sc.v sc.d.sl = _ from asSliceOr_closed sc.v sc.d.sl,
      show mustSliceWith kindTest sc.v = _ from mustSlice_closed sc.v,
      show getSliceWith kindTest _ keyK = _ from getSlice_of_get _ _ _ hk,
      show getSliceOrWith kindTest _ keyK sc.d.sl = _ from getSliceOr_of_get _ _ _ _ hk,
      show getSliceWith kindTest _ keyMiss = _ from getSliceOrWith_miss _ _ _ _ hm,
      getSliceOrWith_miss _ _ _ _ hm]
    by_cases hkind : sc.v.kind = .slice <;>
      simp [hkind, famOK, total, consistent, faithful, expSlice, Ret.isPanic]
  have hts : (parts sc (observe sc)).toSlice = true := by
    simp [parts, observe, observeWith, toSliceOK, elemsOf_toSlice]
  have hgen : (parts sc (observe sc)).gen = true := by
    simp only [parts, observe, observeWith]; exact genOK_model sc.v
  simp only [parts] at hstr hint hflt hbool hmap hslice hts hgen
  simp only [c15, Parts.all, parts, hstr, hint, hflt, hbool, hmap, hslice, hts, hgen, Bool.and_self]

/-- non-vacuity: a struct holding a slice and a NaN — well-formed, non-nil, not a slice — on which
    the model answers `(nil, false)` without panicking -/
def witnessNC : GoVal :=
  .struct (.structField (.basic .float64) (.structField tInts .structEnd))
    (.cons (.float (.basic .float64) 9221120237041090561) (.cons (.slice tInts false (.cons (.int (.basic .int) 4) .nil)) .nil))

example : witnessNC.wf = true ∧ asSlice witnessNC = .ok (none, false)
    ∧ nontrivial ⟨witnessNC, ⟨"d", 7, 0, true, none, none⟩, ⟨fun _ _ => none, id, fun _ => 0⟩⟩
        (observe ⟨witnessNC, ⟨"d", 7, 0, true, none, none⟩, ⟨fun _ _ => none, id, fun _ => 0⟩⟩) = true := by
  decide

/-! ## 5. A `flyt.Result` used as an ordinary value

`flyt.R(flyt.R(42))`, a Result stored in the SharedStore, a Result inside a slice: the value whose
dynamic type is `flyt.Result` itself (`GoVal.result v e` = `Result{value: v, err: e}`; `newResult v`
and `newErrorResult e` are what the two public constructors build). -/

/-- A Result is a struct-kind value of the comparable struct type `flyt.Result`: never nil, not a
    slice, not a map — and well-formed exactly when what it holds is, so every theorem above that
    quantifies over well-formed values speaks about Results holding any value of the universe,
    nil, another Result and error Results included. -/
theorem result_value (v e : GoVal) :
    GoVal.result v e ≠ .nil ∧ (GoVal.result v e).typeOf? = some tResult
    ∧ (GoVal.result v e).kind = .struct ∧ tResult.kind = .struct ∧ tResult.comparable = true
    ∧ ((GoVal.result v e).wf = true ↔ v.wf = true ∧ e.wf = true) := by
  refine ⟨by simp [GoVal.result], rfl, rfl, by decide, by decide, ?_⟩
  rw [result_wf]; simp

/-- `R(R(42))`, `R(R(nil))`, `R(NewErrorResult(errors.New(…)))`, `R([]Result{R(1)})` are well-formed -/
example : (GoVal.newResult (.newResult (.int (.basic .int) 42))).wf = true
    ∧ (GoVal.newResult (.newResult .nil)).wf = true
    ∧ (GoVal.newResult (.newErrorResult (.ptr (.ptr (.named "ErrStr" (.structField tString .structEnd))) (some 1)))).wf = true
    ∧ (GoVal.newResult (.slice (.slice tResult) false (.cons (.newResult (.int (.basic .int) 1)) .nil))).wf = true := by
  decide

/-- A Result is not a documented source type of any accessor: every `AsX` fails on it with the zero
    value, whatever it holds — `R(R(42)).AsInt()` is `(0, false)`, not `(42, true)` —, `ToSlice`
    wraps it into a one-element slice, and the store getters on a key holding it yield the default. -/
theorem result_opaque (c : Conv) (v e : GoVal) (s : Store) (k : String)
    (hs : s.get k = some (GoVal.result v e))
    (ds : String) (di : Option Int) (df : Nat) (db : Bool) (dsl : SliceV) (dm : MapV) :
    asString (GoVal.result v e) = ("", false) ∧ asInt c (GoVal.result v e) = (some 0, false)
    ∧ asFloat64 c (GoVal.result v e) = (0, false) ∧ asBool (GoVal.result v e) = (false, false)
    ∧ asMap (GoVal.result v e) = (none, false) ∧ asSlice (GoVal.result v e) = .ok (none, false)
    ∧ toSlice (GoVal.result v e) = some [GoVal.result v e]
    ∧ getStringOr s k ds = ds ∧ getIntOr c s k di = di ∧ getFloat64Or c s k df = df
    ∧ getBoolOr s k db = db ∧ getMapOr s k dm = dm ∧ getSliceOr s k dsl = .ok dsl := by
  obtain ⟨h1, h2, h3, h4, h5, h6, h7⟩ := result_accessors c v e
  have h := store_agrees_with_result c s k _ hs ds di df db dsl dm
  refine ⟨h1, h2, h3, h4, h5, h6, h7, ?_, ?_, ?_, ?_, ?_, ?_⟩
  · rw [h.1, asStringOr_eq, h1]; rfl
  · rw [h.2.2.1, asIntOr_eq, h2]; rfl
  · rw [h.2.2.2.2.1, asFloat64Or_eq, h3]; rfl
  · rw [h.2.2.2.2.2.2.1, asBoolOr_eq, h4]; rfl
  · rw [h.2.2.2.2.2.2.2.2.1, asMapOr_eq, h5]; rfl
  · rw [h.2.2.2.2.2.2.2.2.2.2.1, asSliceOr_closed]; rfl

/-- `R(R(42))`: the outer Result's accessors and the store see a Result, not the 42 inside it;
    the Result holding 42 itself converts -/
example : asInt ⟨fun _ _ => none, id, fun _ => 0⟩ (.newResult (.int (.basic .int) 42)) = (some 0, false)
    ∧ asInt ⟨fun _ _ => none, id, fun _ => 0⟩ (.int (.basic .int) 42) = (some 42, true)
    ∧ getIntOr ⟨fun _ _ => none, id, fun _ => 0⟩ (Store.set [] "k" (.newResult (.int (.basic .int) 42))) "k" (some (-7)) = some (-7)
    ∧ asSlice (.newResult (.slice tInts false (.cons (.int (.basic .int) 1) .nil))) = .ok (none, false)
    ∧ toSlice (.newResult (.int (.basic .int) 42)) = some [.newResult (.int (.basic .int) 42)]
    ∧ asSlice (.slice (.slice tResult) false (.cons (.newResult (.int (.basic .int) 1)) .nil))
        = .ok (some [.newResult (.int (.basic .int) 1)], true) := by decide

/-- A Result compares like what it holds: the value first, then the error (`flyt.Result` is a
    comparable struct type, so the only panic is the one of a non-comparable content). -/
theorem result_comparison (v e : GoVal) :
    ifaceEq (GoVal.result v e) (GoVal.result v e) = (match ifaceEq v v with | .eq => ifaceEq e e | x => x)
    ∧ ifaceEq (GoVal.newResult v) (GoVal.newResult v) = ifaceEq v v
    ∧ ifaceEq (GoVal.newErrorResult e) (GoVal.newErrorResult e) = ifaceEq e e := by
  refine ⟨result_ifaceEq v e, ?_, ?_⟩
  · rw [GoVal.newResult, result_ifaceEq]; cases ifaceEq v v <;> rfl
  · rw [GoVal.newErrorResult, result_ifaceEq]; rfl

/-- `R(42) == R(42)`, `R(NaN) ≠ R(NaN)`, `R([]int(nil)) == R([]int(nil))` panics, so does an error
    Result whose error has a non-comparable type; a Result never equals what it holds -/
example : ifaceEq (.newResult (.int (.basic .int) 42)) (.newResult (.int (.basic .int) 42)) = .eq
    ∧ ifaceEq (.newResult (.float (.basic .float64) 9221120237041090561)) (.newResult (.float (.basic .float64) 9221120237041090561)) = .ne
    ∧ ifaceEq (.newResult (.slice tInts true .nil)) (.newResult (.slice tInts true .nil)) = .panic
    ∧ ifaceEq (.newErrorResult (.struct (.named "MyNCErr" (.structField tStrings .structEnd)) (.cons (.slice tStrings true .nil) .nil)))
        (.newErrorResult (.struct (.named "MyNCErr" (.structField tStrings .structEnd)) (.cons (.slice tStrings true .nil) .nil))) = .panic
    ∧ ifaceEq (.newResult (.int (.basic .int) 42)) (.int (.basic .int) 42) = .ne
    ∧ ifaceEq (.newResult .nil) (.newErrorResult .nil) = .eq := by decide

/-- The whole property on a Result value: `Spec.c15` is true of the model's observation, and that
    observation says "not convertible" in all six families. -/
theorem holds_on_results (sc : Scenario) (v e : GoVal) (hv : sc.v = GoVal.result v e)
    (h1 : v.wf = true) (h2 : e.wf = true) :
    c15 sc (observe sc) = true
    ∧ (observe sc).str.as_ = .ok ("", false) ∧ (observe sc).int.as_ = .ok (some 0, false)
    ∧ (observe sc).flt.as_ = .ok (0, false) ∧ (observe sc).bool.as_ = .ok (false, false)
    ∧ (observe sc).slice.as_ = .ok (none, false) ∧ (observe sc).map.as_ = .ok (none, false)
    ∧ (observe sc).toSlice = .ok (some [sc.v]) := by
  obtain ⟨a1, a2, a3, a4, a5, a6, a7⟩ := result_accessors sc.conv v e
  unfold asSlice at a6
  refine ⟨holds sc (by rw [hv, result_wf, h1, h2]; rfl), ?_⟩
  simp [observe, observeWith, hv, a1, a2, a3, a4, a5, a6, a7]

example : c15 ⟨.newResult (.newResult (.int (.basic .int) 42)), ⟨"d", 7, 0, true, none, none⟩, ⟨fun _ _ => none, id, fun _ => 0⟩⟩
      (observe ⟨.newResult (.newResult (.int (.basic .int) 42)), ⟨"d", 7, 0, true, none, none⟩, ⟨fun _ _ => none, id, fun _ => 0⟩⟩) = true := by
  decide

/-- What a `NewResult` that hands an incoming Result through unchanged would do — the outer accessors
    answer for the *inner* value (`R(R(42)).AsInt() = (42, true)`) while the store still holds the
    Result — is not the property: the predicate is false of that observation. -/
example :
    c15 ⟨.newResult (.int (.basic .int) 42), ⟨"d", 7, 0, true, none, none⟩, ⟨fun _ _ => none, id, fun _ => 0⟩⟩
      { observe ⟨.newResult (.int (.basic .int) 42), ⟨"d", 7, 0, true, none, none⟩, ⟨fun _ _ => none, id, fun _ => 0⟩⟩ with
        int.as_ := .ok (some 42, true), int.or_ := .ok (some 42), int.must := .ok (some 42) } = false := by
  decide

/-! ## 6. Interface equality, and the unrepaired slice test (finding F4) -/

/-- Comparing a value with one of the same non-comparable dynamic type panics (Go's run-time
    panic "comparing uncomparable type"). -/
theorem ifaceEq_panics_on_noncomparable (v : GoVal) (t : GoType) (hv : v.typeOf? = some t)
    (h : t.comparable = false) : ifaceEq v v = .panic :=
  ifaceEq_self_noncomparable v t hv h

example : (GoVal.typeOf? witnessNC).map GoType.comparable = some false ∧ ifaceEq witnessNC witnessNC = .panic := by
  decide

/-- A NaN differs from itself (no panic: float types are comparable). -/
theorem ifaceEq_nan (t : GoType) (bits : Nat) (hw : (GoVal.float t bits).wf = true)
    (h : isNaN (is32 t) bits = true) : ifaceEq (.float t bits) (.float t bits) = .ne := by
  have hc : t.comparable = true := by
    rw [← GoType.comparable_underlying]
    simp only [GoVal.wf] at hw
    split at hw <;> simp_all [GoType.comparable]
  simp [ifaceEq, typeGuard, hc, floatEq_nan _ _ h, boolRes]

example : ifaceEq (.map tMapSA (some 1)) (.map tMapSA (some 1)) = .panic
    ∧ ifaceEq (.float (.basic .float64) 9221120237041090561) (.float (.basic .float64) 9221120237041090561) = .ne
    ∧ ifaceEq (.float (.basic .float64) 0) (.float (.basic .float64) 9223372036854775808) = .eq
    ∧ ifaceEq (.int (.basic .int) 1) (.int (.basic .int64) 1) = .ne := by decide

/-- **F4, characterised.** On a non-nil non-slice value the unrepaired `AsSlice` is decided by the
    interface comparison `v == v`: equal ⇒ "not a slice" (intended), unequal ⇒ the value is reported
    as the one-element slice `[v]`, panic ⇒ the accessor panics. -/
theorem legacy_asSlice_nonslice (v : GoVal) (hn : v ≠ .nil) (hk : v.kind ≠ .slice) :
    Legacy.asSlice v
      = match ifaceEq v v with
        | .eq => .ok (none, false) | .ne => .ok (some [v], true) | .panic => .panic :=
  Legacy.asSlice_nonslice v hn hk

example : Legacy.asSlice (.int (.basic .int) 3) = .ok (none, false)
    ∧ Legacy.asSlice (.struct (.structField (.basic .float64) .structEnd) (.cons (.float (.basic .float64) 9221120237041090561) .nil))
      = .ok (some [.struct (.structField (.basic .float64) .structEnd) (.cons (.float (.basic .float64) 9221120237041090561) .nil)], true)
    ∧ Legacy.asSlice (.chan (.chan (.basic .int)) (some 1)) = .ok (none, false) := by decide

/-- **F4, first half**: every non-Must slice accessor of the unrepaired code panics on *every*
    non-slice value of a non-comparable dynamic type (maps, funcs, structs / arrays containing
    slices, …) — results and store alike — where the repaired code answers "not a slice". -/
theorem legacy_panics_on_noncomparable (v : GoVal) (t : GoType) (hv : v.typeOf? = some t)
    (hk : v.kind ≠ .slice) (h : t.comparable = false)
    (s : Store) (k : String) (hs : s.get k = some v) (d : SliceV) :
    Legacy.asSlice v = .panic ∧ Legacy.asSliceOr v d = .panic ∧ Legacy.mustSlice v = .panic
    ∧ Legacy.getSliceOr s k d = .panic ∧ Legacy.getSlice s k = .panic
    ∧ asSlice v = .ok (none, false) ∧ getSliceOr s k d = .ok d := by
  have hn : v ≠ .nil := by intro e; subst e; simp [GoVal.typeOf?] at hv
  have he := ifaceEq_self_noncomparable v t hv h
  have h1 : Legacy.asSlice v = .panic := by rw [Legacy.asSlice_nonslice v hn hk, he]
  have h2 : ∀ d, Legacy.getSliceOr s k d = .panic := by
    intro d; rw [Legacy.getSliceOr_nonslice s k d v hs hn hk, he]
  refine ⟨h1, ?_, ?_, h2 d, h2 none, ?_, ?_⟩
  · unfold Legacy.asSlice at h1; simp [Legacy.asSliceOr, asSliceOrWith, h1]
  · unfold Legacy.asSlice at h1; simp [Legacy.mustSlice, mustSliceWith, h1]
  · simp [asSlice_closed, hk]
  · simp [getSliceOr_of_get s k v d hs, hk]

example : Legacy.asSlice (.map tMapSA (some 1)) = .panic
    ∧ Legacy.asSliceOr (.func (.func 0) false) none = .panic
    ∧ Legacy.getSlice (Store.set [] "k" witnessNC) "k" = .panic
    ∧ Legacy.asSlice (.array (.array 1 tInts) (.cons (.slice tInts true .nil) .nil)) = .panic := by decide

/-- **F4, second half**: a NaN is reported as the slice `[NaN]`. -/
theorem legacy_nan_is_a_slice (t : GoType) (bits : Nat) (hw : (GoVal.float t bits).wf = true)
    (h : isNaN (is32 t) bits = true) :
    Legacy.asSlice (.float t bits) = .ok (some [.float t bits], true)
    ∧ asSlice (.float t bits) = .ok (none, false) := by
  refine ⟨?_, by simp [asSlice_closed, GoVal.kind]⟩
  rw [Legacy.asSlice_nonslice _ (by simp) (by simp [GoVal.kind]), ifaceEq_nan t bits hw h]

example : Legacy.asSlice (.float (.basic .float32) 2143289344)
    = .ok (some [.float (.basic .float32) 2143289344], true) := by decide

/-- Apart from that the two tests coincide: wherever `v == v` holds for a non-slice and the only
    element of a one-element slice differs from the slice, the unrepaired `AsSlice` is the repaired one. -/
theorem legacy_agrees_elsewhere (v : GoVal)
    (h1 : v ≠ .nil → v.kind ≠ .slice → ifaceEq v v = .eq)
    (h2 : ∀ e, v.kind = .slice → elemsOf (toSlice v) = [e] → ifaceEq e v = .ne) :
    Legacy.asSlice v = asSlice v := by
  by_cases hn : v = .nil
  · subst hn; rfl
  by_cases hk : v.kind = .slice
  · unfold Legacy.asSlice asSlice asSliceWith
    cases v <;> simp [GoVal.kind] at hk
    case slice t isNil es =>
      simp only []
      cases ha : assertAnys (.slice t isNil es) with
      | some s => rfl
      | none =>
        have ht : Legacy.eqTest (toSlice (.slice t isNil es)) (.slice t isNil es) = .ok false := by
          simp only [Legacy.eqTest]
          split
          · rename_i e he; rw [h2 e rfl he]
          · rfl
        simp only [ht, kindTest, GoVal.kind]
        rfl
  · rw [Legacy.asSlice_nonslice v hn hk, h1 hn hk, asSlice_closed]; simp [hk]

example : Legacy.asSlice (.str tString "x") = asSlice (.str tString "x")
    ∧ Legacy.asSlice (.slice tInts false (.cons (.int (.basic .int) 5) .nil))
      = .ok (some [.int (.basic .int) 5], true) := by decide

/-- the same defect on a *slice*: a named slice type whose only element has that same type
    (`type MyAnys []any; MyAnys{MyAnys{}}`) — the heuristic compares two slices -/
example : Legacy.asSlice (.slice (.named "MyAnys" tAnys) false (.cons (.slice (.named "MyAnys" tAnys) false .nil) .nil))
      = .panic
    ∧ asSlice (.slice (.named "MyAnys" tAnys) false (.cons (.slice (.named "MyAnys" tAnys) false .nil) .nil))
      = .ok (some [.slice (.named "MyAnys" tAnys) false .nil], true) := by
  constructor
  · simp [Legacy.asSlice, asSliceWith, assertAnys, tAnys, toSlice, sliceElems, GoVals.toList, Legacy.eqTest,
      ifaceEq, typeGuard, GoType.comparable, tStrings, tInts, tFloat64s, tMapSAs, tMapSA]
  · simp [asSlice_closed, GoVal.kind, toSlice, sliceElems, GoVals.toList, tAnys, tStrings, tInts, tFloat64s,
      tMapSAs, tMapSA]

/-- The property is false of the unrepaired model, with a concrete well-formed scenario: the
    check's `VIOLATION` on the unrepaired repository is this theorem seen on the real code. -/
theorem legacy_violates :
    ∃ sc : Scenario, sc.v.wf = true ∧ c15 sc (Legacy.observe sc) = false
      ∧ (Legacy.observe sc).slice.as_ = .panic :=
  ⟨⟨.map tMapSA (some 1), ⟨"d", 7, 0, true, none, none⟩, ⟨fun _ _ => none, id, fun _ => 0⟩⟩, by decide⟩

/-- a second witness: on a NaN the unrepaired model answers `([NaN], true)` and the predicate is false,
    while it is true of the repaired model on the same scenario -/
example :
    c15 ⟨.float (.basic .float64) 9221120237041090561, ⟨"d", 7, 0, true, none, none⟩, ⟨fun _ _ => none, id, fun _ => 0⟩⟩
      (Legacy.observe ⟨.float (.basic .float64) 9221120237041090561, ⟨"d", 7, 0, true, none, none⟩, ⟨fun _ _ => none, id, fun _ => 0⟩⟩)
      = false
    ∧ c15 ⟨.float (.basic .float64) 9221120237041090561, ⟨"d", 7, 0, true, none, none⟩, ⟨fun _ _ => none, id, fun _ => 0⟩⟩
      (observe ⟨.float (.basic .float64) 9221120237041090561, ⟨"d", 7, 0, true, none, none⟩, ⟨fun _ _ => none, id, fun _ => 0⟩⟩)
      = true := by decide

end Flyt.Props.C15
