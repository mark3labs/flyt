import FlytModel.Proofs.BatchSeq
import FlytModel.Proofs.BatchConc
import FlytModel.Proofs.BatchBridge
/-!
# C07 — Batch processes every item exactly once, with per-item retry and fallback

Continue mode (`stop = false`, the default). Sequential / serial layer: closed form of the whole item phase,
for all item lists and scripts. Concurrent layer: every reachable state of the LTS, every schedule.
-/
namespace Flyt.Props.C07
open Flyt Flyt.BatchSeq

/-- **Every item exactly once, in order, each on its own.** In continue mode, when no callback cancels the
    context, the trace of a batch run (any concurrency setting of `runBatch`) is: prep, then for item 0, 1, 2, …
    exactly the events of `runItem` on that item's own script from a live context — none skipped, none
    repeated, whatever the other items do — then one post carrying each item's own outcome in its slot. -/
theorem every_item_once (kind : CtxKind) (n : NodeId) (v : Nat) (sid : StoreId) (cfg : BatchCfg) (scr : BatchScript)
    (l : List Val) (hs : cfg.stop = false) (hq : ∀ j, Quiet (scr.item j)) (hp : scr.prep.res = .ok l)
    (hpc : scr.prep.cancels = false) (hpost : cfg.hasPost = true) :
    (runBatch kind n v sid cfg scr .live).1 =
      .bprep n v sid :: (itemRuns kind n v cfg scr (normItems cfg.shape l) 0).flatMap (·.1) ++
        [.bpost n v sid ((normItems cfg.shape l).map Result.box)
          (((itemRuns kind n v cfg scr (normItems cfg.shape l) 0).map (fun r => slotOfRes r.2.2)).map Result.box)] ∧
    ∀ j, (itemRuns kind n v cfg scr (normItems cfg.shape l) 0)[j]? =
      (normItems cfg.shape l)[j]?.map fun it => runItem kind n v cfg j it (scr.item j) .live := by
  constructor
  · rw [runBatch_ok kind n v cfg scr sid .live hp]
    simp only [hpc, Ctx.after, hpost, if_true, Bool.false_eq_true, if_false]
    rw [itemsSeq_continue kind n v cfg scr hs hq]
  · intro j; simpa using itemRuns_getElem? kind n v cfg scr (normItems cfg.shape l) 0 j

/-- **A failing item never prevents, repeats or alters another item's processing.** Two behaviours that agree
    on item `j`'s script (and differ arbitrarily on all other items — failing, succeeding, retrying) give item
    `j` exactly the same events and the same slot. -/
theorem item_independent_of_others (kind : CtxKind) (n : NodeId) (v : Nat) (cfg : BatchCfg) (scr scr' : BatchScript)
    (hs : cfg.stop = false) (hq : ∀ j, Quiet (scr.item j)) (hq' : ∀ j, Quiet (scr'.item j))
    (items : List Result) (j : Nat) (hj : scr.item j = scr'.item j) :
    itemEvents j (itemsSeq kind n v cfg scr items 0 .live).1 = itemEvents j (itemsSeq kind n v cfg scr' items 0 .live).1 ∧
    (itemsSeq kind n v cfg scr items 0 .live).2.2[j]? = (itemsSeq kind n v cfg scr' items 0 .live).2.2[j]? := by
  rw [itemsSeq_continue kind n v cfg scr hs hq, itemsSeq_continue kind n v cfg scr' hs hq']
  have e : (itemRuns kind n v cfg scr items 0)[j]? = (itemRuns kind n v cfg scr' items 0)[j]? := by
    rw [itemRuns_getElem?, itemRuns_getElem?]; simp [hj]
  constructor
  · have h1 := itemEvents_itemRuns kind n v cfg scr items 0 j
    have h2 := itemEvents_itemRuns kind n v cfg scr' items 0 j
    simp only [Nat.zero_add] at h1 h2
    rw [h1, h2, e]
  · simp only [List.getElem?_map, e]

/-- the events of item `j` in the run are exactly one `runItem` run of item `j` — it is processed exactly once -/
theorem item_processed_exactly_once (kind : CtxKind) (n : NodeId) (v : Nat) (cfg : BatchCfg) (scr : BatchScript)
    (hs : cfg.stop = false) (hq : ∀ j, Quiet (scr.item j)) (items : List Result) (j : Nat) (hj : j < items.length) :
    itemEvents j (itemsSeq kind n v cfg scr items 0 .live).1 = (runItem kind n v cfg j items[j] (scr.item j) .live).1 ∧
    (itemsSeq kind n v cfg scr items 0 .live).2.2[j]? =
      some (slotOfRes (runItem kind n v cfg j items[j] (scr.item j) .live).2.2) := by
  rw [itemsSeq_continue kind n v cfg scr hs hq]
  have h1 := itemEvents_itemRuns kind n v cfg scr items 0 j
  have h2 := itemRuns_getElem? kind n v cfg scr items 0 j
  simp only [Nat.zero_add] at h1 h2
  simp [h1, h2, List.getElem?_eq_getElem hj]

/-- **Each item individually gets the retry budget and fallback treatment of a single node run** (`flyt.Run` on a
    retryable node with the same budget, wait, fallback and exec function): same context afterwards, same number of
    callback events, failure with the same error / success exactly when the node run fails / succeeds. -/
theorem item_gets_single_node_treatment (kind : CtxKind) (n : NodeId) (v : Nat) (cfg : BatchCfg) (i : Nat) (item : Result)
    (s : ItemScript) (sid : StoreId) :
    (runLeaf kind n v sid (leafOf cfg) (leafScriptOf s) .live).2.1 = (runItem kind n v cfg i item s .live).2.1 ∧
    (runLeaf kind n v sid (leafOf cfg) (leafScriptOf s) .live).1.length = (runItem kind n v cfg i item s .live).1.length ∧
    (runLeaf kind n v sid (leafOf cfg) (leafScriptOf s) .live).2.2 =
      (match (runItem kind n v cfg i item s .live).2.2 with
       | .slot _ => .ok defaultAction
       | .error e => .err e) :=
  runItem_like_runLeaf kind n v cfg i item s sid

/-- **Per-item retry budget and fallback are exact, and the slot is the last attempt's error or the fallback's
    outcome.** Processing item `i` (no cancellation) makes exactly the attempts `0 .. lastAttempt` — up to and
    including the first success, or the whole budget — each started and finished once, calls the fallback exactly
    when all attempts failed and a custom fallback exists, and yields `finalSlot`: the successful value, else the
    fallback's outcome, else the error of the LAST attempt (`Bridge.obsOf` turns `bexec i k` into `start i k, done i k`
    and `bfb i` into `fb i`). -/
theorem item_retry_budget_and_fallback_exact (kind : CtxKind) (n : NodeId) (v : Nat) (cfg : BatchCfg) (scr : BatchScript)
    (i nn : Nat) (item : Result) (hq : Quiet (scr.item i)) (hex : cfg.execS ≠ .absent) (hb : 0 < cfg.budget) :
    let c := Bridge.concCfgOf kind cfg scr nn
    let h := (runItem kind n v cfg i item (scr.item i) .live).1.flatMap Bridge.obsOf
    Spec.itemStarts h i = List.range (Spec.lastAttempt c i + 1) ∧
    Spec.itemDones h i = List.range (Spec.lastAttempt c i + 1) ∧
    Spec.itemFbs h i = Conc.finalFbs c i ∧
    slotOfRes (runItem kind n v cfg i item (scr.item i) .live).2.2 = Conc.finalSlot c i := by
  intro c h
  have ag := Bridge.agrees_concCfgOf kind { cfg with stop := false } scr nn
  have ho := (Bridge.runItem_loopEnd n v ag i item false (.inr hq) [] ⟨rfl, rfl, rfl⟩).origin
  have he : runItem kind n v { cfg with stop := false } i item (scr.item i) .live =
      runItem kind n v cfg i item (scr.item i) .live := by rw [runItem_eq, runItem_eq]
  rw [List.nil_append, he] at ho
  exact Conc.origin_uncancelled (c := Bridge.concCfgOf kind { cfg with stop := false } scr nn) ho rfl hex hb

/-! ### non-vacuity (the C06 example: item 1 fails twice and is rescued by its fallback; items 0 and 2 unaffected) -/

def exCfg : BatchCfg :=
  { budget := 2, wait := 0, fb := .custom, conc := 2, stop := false, execS := .any, hasPost := true, shape := .anys }

def exScr (bad : Nat) : BatchScript :=
  { prep := { res := .ok [.tok 1, .tok 2, .tok 3] },
    item := fun i =>
      { exec := fun k => if i = bad then { res := .error (10 + k) } else { res := .ok (.tok (100 + i)) },
        waitCancel := fun _ => false,
        fb := { res := .ok (.tok 55) } },
    post := { res := .ok "next" } }

example : exCfg.stop = false ∧ exCfg.hasPost = true ∧ exCfg.execS ≠ .absent ∧ 0 < exCfg.budget := by decide
example (bad : Nat) : (exScr bad).prep.res = .ok [.tok 1, .tok 2, .tok 3] ∧ (exScr bad).prep.cancels = false := ⟨rfl, rfl⟩
example (bad : Nat) : ∀ j, Quiet ((exScr bad).item j) := by
  intro j; refine ⟨fun k => ?_, fun _ => rfl, rfl⟩
  simp only [exScr]; split <;> rfl

-- item 2 has the same script in `exScr 1` and `exScr 0`; its events and slot are the same in both runs
example : (exScr 1).item 2 = (exScr 0).item 2 := by simp [exScr]
example : itemEvents 2 (runBatch .canceled 0 0 0 exCfg (exScr 1) .live).1 = [.bexec 0 0 2 0 (.tok 3)] ∧
    itemEvents 2 (runBatch .canceled 0 0 0 exCfg (exScr 0) .live).1 = [.bexec 0 0 2 0 (.tok 3)] := by decide

open Flyt.Conc Flyt.Spec

/-- **The stop flag is never raised in continue mode** (so it never influences any task). -/
theorem stop_flag_untouched {c : Cfg} {s : BState} (hr : Reachable c s) (hs : c.stop = false) : s.shouldStop = false :=
  (flagInv_reachable hr).stopOff hs

/-- **Each item's exec calls and slot are exactly what its own script prescribes.** In continue mode, in every
    reachable state in which the context is not cancelled, a finished item `i` has started and finished exactly
    the attempts `0 .. lastAttempt` (first success, or the whole budget), had its fallback called exactly when all
    attempts failed and a custom fallback exists, and its slot is `finalSlot c i`: the successful value, the
    fallback's outcome, or the error of the LAST attempt. All four are functions of item `i`'s script alone. -/
theorem item_follows_own_script {c : Cfg} {s : BState} (hr : Reachable c s) (hs : c.stop = false)
    (hnc : s.cancelled = false) (hex : c.execS ≠ .absent) (hb : 0 < c.budget) {i : Nat} {r : Result}
    (h : s.slots[i]? = some (some r)) :
    itemStarts (hist s) i = List.range (lastAttempt c i + 1) ∧ itemDones (hist s) i = List.range (lastAttempt c i + 1) ∧
    itemFbs (hist s) i = finalFbs c i ∧ r = finalSlot c i := by
  have := (logInv_reachable hr).slots i r h
  rw [hnc] at this
  exact origin_uncancelled this hs hex hb

/-- **Independence of the other items' scripts**, for every pair of schedules: two scenarios that agree on the
    configuration and on item `i`'s script (`exec i`, `fbOut i`) — and differ arbitrarily in all other items'
    scripts, worker counts, capacities and schedules — give item `i` the same exec calls and the same slot. -/
theorem item_trace_independent {c c' : Cfg} {s s' : BState} (hr : Reachable c s) (hr' : Reachable c' s')
    (hs : c.stop = false) (hs' : c'.stop = false) (hnc : s.cancelled = false) (hnc' : s'.cancelled = false)
    (hex : c.execS ≠ .absent) (hb : 0 < c.budget)
    (e1 : c'.budget = c.budget) (e2 : c'.fb = c.fb) (e3 : c'.execS = c.execS)
    {i : Nat} (e4 : c'.exec i = c.exec i) (e5 : c'.fbOut i = c.fbOut i) {r r' : Result}
    (h : s.slots[i]? = some (some r)) (h' : s'.slots[i]? = some (some r')) :
    itemStarts (hist s') i = itemStarts (hist s) i ∧ itemDones (hist s') i = itemDones (hist s) i ∧
    itemFbs (hist s') i = itemFbs (hist s) i ∧ r' = r := by
  obtain ⟨a1, a2, a3, a4⟩ := item_follows_own_script hr hs hnc hex hb h
  obtain ⟨b1, b2, b3, b4⟩ := item_follows_own_script hr' hs' hnc' (e3 ▸ hex) (e1 ▸ hb) h'
  have hl : lastAttempt c' i = lastAttempt c i := by simp [lastAttempt, e1, e4]
  refine ⟨by rw [a1, b1, hl], by rw [a2, b2, hl], ?_, ?_⟩
  · rw [a3, b3]; simp [finalFbs, hl, e2, e4]
  · rw [a4, b4]; simp [finalSlot, hl, e2, e3, e4, e5]

/-- **None skipped, none duplicated**: when `Wait` returns in continue mode without cancellation, every index
    `i < n` has its slot written and its first attempt was started exactly once. -/
theorem none_skipped_none_duplicated {c : Cfg} {s s' : BState} (hr : Reachable c s) (hs : c.stop = false)
    (hnc : s.cancelled = false) (hex : c.execS ≠ .absent) (hb : 0 < c.budget) (hw : apply c s .waitRet = some s') :
    ∀ i, i < c.n → (∃ r, s.slots[i]? = some (some r)) ∧ (itemStarts (hist s) i).count 0 = 1 ∧ (itemStarts (hist s) i).Nodup := by
  obtain ⟨hn, hq, hrun, _, _⟩ := waitRet_inv hw
  intro i hi
  obtain ⟨r, h⟩ := all_slots_written hr hn hq hrun i hi
  obtain ⟨a1, _⟩ := item_follows_own_script hr hs hnc hex hb h
  refine ⟨⟨r, h⟩, ?_, ?_⟩
  · rw [a1, List.count_eq_length_filter]
    have : (List.range (lastAttempt c i + 1)).filter (· == 0) = [0] := by
      rw [List.range_succ_eq_map]; simp [List.filter_map, Function.comp_def]
    rw [this]; rfl
  · rw [a1]; exact List.nodup_range

/-- **Bridge (gated family `gbatch`).** `Spec.c07` holds of the model's observation in the state right after post,
    for every schedule and every script — no side condition: `Spec.cancelFree` itself inspects the exec scripts, the
    fallback scripts (of nodes with a custom fallback) and the explicit cancellation. -/
theorem spec_c07_holds {c : Cfg} {s s' : BState} (items : List Val) (hr : Reachable c s)
    (hw : apply c s .waitRet = some s') :
    Spec.c07 c (viewOf s' items) = true := by
  unfold Spec.c07
  split
  · rfl
  · rename_i hcond
    simp only [Bool.or_eq_true, not_or, Bool.not_eq_true, beq_eq_false_iff_ne, ne_eq, Bool.not_eq_false'] at hcond
    obtain ⟨⟨⟨hstop, hcf⟩, hex⟩, hb⟩ := hcond
    have hr' : Reachable c s' := hr.step ⟨_, hw⟩
    have hp : s'.posted = true := (waitRet_inv hw).2.2.2.2 ▸ rfl
    have hnc := Bridge.not_cancelled_of_cancelFree items hr' hp hcf
    rw [List.all_eq_true]
    intro i hi
    obtain ⟨r, hs, ho⟩ := posted_slots hr' hp (List.mem_range.1 hi)
    obtain ⟨a1, a2, a3, _⟩ := item_follows_own_script hr' hstop hnc hex (Nat.pos_of_ne_zero hb) hs
    simp only [Bool.and_eq_true, beq_iff_eq]
    refine ⟨⟨⟨a1, a2⟩, a3⟩, ?_⟩
    rw [viewOf_slot hs]
    exact origin_slotMatches ho hex (Nat.pos_of_ne_zero hb)

/-- **Bridge (sequential families).** `Spec.c07` on `runBatch`'s own observation, as the driver evaluates it, for
    runs without cancellation in either error-handling mode. -/
theorem spec_c07_holds_seq (kind : CtxKind) (n : NodeId) (v : Nat) (sid : StoreId) (cfg : BatchCfg) (scr : BatchScript)
    (l : List Val) (hp : scr.prep.res = .ok l) (hpost : cfg.hasPost = true) (hq : ∀ j, Quiet (scr.item j))
    (hpc : scr.prep.cancels = false) :
    Spec.c07 (Bridge.concCfgOf kind cfg scr (normItems cfg.shape l).length)
      (Bridge.batchViewOf (runBatch kind n v sid cfg scr .live).1 (runBatch kind n v sid cfg scr .live).2.2) = true := by
  unfold Spec.c07
  split
  · rfl
  · rename_i hcond
    simp only [Bool.or_eq_true, not_or, Bool.not_eq_true, beq_eq_false_iff_ne, ne_eq] at hcond
    obtain ⟨⟨⟨hstop, _⟩, hex⟩, hb⟩ := hcond
    rw [Bridge.batchViewOf_runBatch n v sid .live hp hpost]
    simp only [hpc, Ctx.after, Bool.false_eq_true, if_false]
    rw [List.all_eq_true]
    intro i hi
    have hi' : i < (normItems cfg.shape l).length := List.mem_range.1 hi
    -- item `i` is processed exactly once, on its own script; its slot has an uncancelled LTS provenance
    obtain ⟨hev, hslot⟩ := item_processed_exactly_once kind n v cfg scr hstop hq (normItems cfg.shape l) i hi'
    have ho := Bridge.origin_of_own n v (Bridge.agrees_concCfgOf kind cfg scr (normItems cfg.shape l).length) i _ false
      (.inr (hq i)) _ hev
    obtain ⟨a1, a2, a3, _⟩ := Conc.origin_uncancelled ho hstop hex (Nat.pos_of_ne_zero hb)
    simp only [Bool.and_eq_true, beq_iff_eq]
    refine ⟨⟨⟨a1, a2⟩, a3⟩, ?_⟩
    rw [List.getD_eq_getElem?_getD, hslot]
    exact origin_slotMatches ho hex (Nat.pos_of_ne_zero hb)

/-! ### non-vacuity: two failing items among four, two workers, one release order -/

def exConc : Cfg :=
  { n := 4, w := 2, cap := 4, stop := false, budget := 2, fb := .passThrough, execS := .any,
    exec := fun i k => if i % 2 = 1 then { res := .error (10 * i + k) } else { res := .ok (.tok (100 + i)) },
    fbOut := fun _ => { res := .error 0 }, kind := .canceled }

example : exConc.stop = false ∧ exConc.execS ≠ .absent ∧ 0 < exConc.budget := by decide
example : ((simulate exConc 300 [.release 1, .release 0, .release 1, .release 2, .release 3, .release 3]).bind
      fun sts => sts.getLast?.map fun s => (s.slots, s.posted, s.cancelled, s.shouldStop)) =
    some ([some (newResult (.tok 100)), some (newErrorResult (.user 11)), some (newResult (.tok 102)),
           some (newErrorResult (.user 31))], true, false, false) := by decide
example : finalSlot exConc 1 = newErrorResult (.user 11) ∧ finalSlot exConc 2 = newResult (.tok 102) := by decide

-- a second scenario that agrees with `exConc` on item 2 only (all other items succeed at once, 3 workers)
def exConc' : Cfg :=
  { exConc with w := 3, exec := fun i k => if i = 2 then exConc.exec 2 k else { res := .ok (.tok 7) } }
example : exConc'.exec 2 = exConc.exec 2 ∧ exConc'.fbOut 2 = exConc.fbOut 2 ∧ exConc'.budget = exConc.budget := ⟨rfl, rfl, rfl⟩
-- `Spec.cancelFree` (the guard of `c07`): true of `exConc`; false as soon as a custom fallback's script cancels
example : Spec.cancelFree exConc { events := [], quiescent := [], items := [], slots := [], posts := 0, outOk := true } = true := by
  decide
example : Spec.cancelFree { exConc with fb := .custom, fbOut := fun i => { res := .error 0, cancels := i == 3 } }
    { events := [], quiescent := [], items := [], slots := [], posts := 0, outOk := true } = false := by decide

end Flyt.Props.C07
