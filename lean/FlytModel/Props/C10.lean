import FlytModel.Proofs.Flatten
import FlytModel.Proofs.Path
import FlytModel.Proofs.ExampleEnv
/-!
# C10 — A flow used as a node behaves like a node

Theorems about `runNode` / `flowLoop` (`Model/Flow.lean`, the model of `flyt.Run` and `Flow.Exec`) for EVERY
arena (any nesting depth, inner flows shared between several places), every behaviour, every run state
and every fuel that does not run out.
-/
namespace Flyt.Props.C10
open Flyt Flyt.Proofs

/-- **Flattening theorem (iii).**  Whatever the recursive semantics computes — callback events in order,
    final run state (context + visit counters) and outcome — is computed by the flattened stack machine
    `Flat.run` (frames = (connections, current node); no recursion), for every sufficiently large step
    budget.  Any arena, any nesting depth, any behaviour, any initial context. -/
theorem flattening (env : Env) (fuel : Nat) (root : NodeId) (sid : StoreId) (st : RunSt)
    (hfuel : (runNode env fuel root sid st).2.2 ≠ .fuel) :
    ∃ n, ∀ m, n ≤ m → Flat.run env m root sid st = runNode env fuel root sid st := by
  have hb : Big env sid (.node root) st (runNode env fuel root sid st).1 (runNode env fuel root sid st).2.1
      (runNode env fuel root sid st).2.2 := big_of_runNode rfl hfuel
  exact flat_run_of_big hb

example : (runNode Ex.env1 10 0 7 Ex.st0).2.2 = .ok "again" ∧
    (Flat.run Ex.env1 40 0 7 Ex.st0).1 = (runNode Ex.env1 10 0 7 Ex.st0).1 ∧
    (Flat.run Ex.env1 40 0 7 Ex.st0).2.2 = .ok "again" ∧
    ((runNode Ex.env1 10 0 7 Ex.st0).1.map Spec.evKey).eraseDups = [(1, 0), (4, 0), (5, 0), (3, 0)] := by decide

/-- … in the form the driver evaluates (`Spec.c10` on the two observations, whatever projection `obs` of
    a result the driver compares). -/
theorem spec_c10 (obs : List Ev × RunSt × Outcome → Spec.RunObs) (env : Env) (fuel : Nat) (root : NodeId)
    (sid : StoreId) (st : RunSt) (hfuel : (runNode env fuel root sid st).2.2 ≠ .fuel) :
    ∃ n, ∀ m, n ≤ m →
      Spec.c10 (obs (runNode env fuel root sid st)) (obs (Flat.run env m root sid st)) = true := by
  obtain ⟨n, hn⟩ := flattening env fuel root sid st hfuel
  exact ⟨n, fun m hm => by rw [hn m hm]; simp [Spec.c10]⟩

example : Spec.c10 ⟨(runNode Ex.envFail 10 0 7 Ex.st0).1, (runNode Ex.envFail 10 0 7 Ex.st0).2.2, []⟩
    ⟨(Flat.run Ex.envFail 40 0 7 Ex.st0).1, (Flat.run Ex.envFail 40 0 7 Ex.st0).2.2, []⟩ = true ∧
    (runNode Ex.envFail 10 0 7 Ex.st0).2.2 = .err (.user 42) := by decide

/-- **(i) A flow run as a node.**  `flyt.Run` on a flow node (on a live context) runs the flow's own loop from
    its own start node on the SAME store `sid` and the same run state; it returns an action iff the loop does, and
    then presents the loop's last action, normalised (`"" ↦ "default"`) like any node's action; an error of the
    inner flow is passed through unchanged (not swallowed, not re-rooted). -/
theorem nested_flow_presents_inner_result (env : Env) (f : Nat) (id : NodeId) (sid : StoreId) (st : RunSt)
    {s ops} (hA : env.arena id = .flow (some s) ops) (hlive : st.ctx = .live) (evs : List Ev) (st' : RunSt) :
    (∀ a, runNode env (f + 1) id sid st = (evs, st', .ok a) ↔
      ∃ a', flowLoop env f (buildTable ops) s sid st = (evs, st', .ok a') ∧ a = norm a') ∧
    (∀ e, runNode env (f + 1) id sid st = (evs, st', .err e) ↔
      flowLoop env f (buildTable ops) s sid st = (evs, st', .err e)) := by
  simp only [runNode, hA, hlive]
  cases hl : flowLoop env f (buildTable ops) s sid st with
  | mk evs1 p =>
    obtain ⟨st1, r1⟩ := p
    cases r1 <;> simp <;> grind

/-- … where the inner flow's last action is the action returned by the last node it executed, and the inner
    flow stopped there because that node has no (non-nil) connection for it.  The parent then routes on the
    presented action with the very same `next` lookup it uses for a leaf (`IsPath`, C03). -/
theorem inner_action_is_last_nodes_action (env : Env) (fuel : Nat) (id : NodeId) (sid : StoreId) (st : RunSt)
    {s ops evs st' a} (hA : env.arena id = .flow (some s) ops)
    (h : runNode env fuel id sid st = (evs, st', .ok a)) :
    ∃ (vs : List Visit) (v : Visit) (a' : Action), IsPath ops s st vs st' (.ok a') ∧ evs = vs.flatMap (·.evs) ∧
      vs.getLast? = some v ∧ v.Genuine env sid ∧ v.out = .ok a' ∧ a = norm a' ∧
      (∀ nxt, next ops v.node a' ≠ some (some nxt)) := by
  have hlive : st.ctx = .live := by
    cases hc : st.ctx with
    | live => rfl
    | done k => cases fuel <;> simp [runNode, hA, hc] at h
  obtain ⟨vs, r, _, hp, he, hg, hout⟩ := path_of_runFlow hA hlive h (by simp)
  cases r with
  | ok a' =>
    simp only [presentOut, Outcome.ok.injEq] at hout
    obtain ⟨v, hl, ho, _, hn⟩ := isPath_ok_last hp
    exact ⟨vs, v, a', hp, he, hl, .of_big (hg v (List.mem_of_getLast? hl)), ho, hout, hn⟩
  | _ => cases hout

example : (runNode Ex.env1 10 2 7 Ex.st0).2.2 = .ok "y" ∧
    (runNode Ex.env1 10 5 7 (runNode Ex.env1 10 4 7 Ex.st0).2.1).2.2 = .ok "y" ∧
    next [⟨4, "x", some 5⟩] 5 "y" = none := by decide

/-- **(ii) One shared store.**  Every callback that receives a store (prep / post of leaves and batch nodes),
    at every nesting depth, receives the store `sid` that was handed to the outermost `Run`. -/
theorem same_store_everywhere (env : Env) (fuel : Nat) (root : NodeId) (sid : StoreId) (st : RunSt) {evs st' out}
    (h : runNode env fuel root sid st = (evs, st', out)) (hfuel : out ≠ .fuel) :
    ∀ e ∈ evs, evSid e = none ∨ evSid e = some sid := by
  intro e he
  obtain ⟨n, v, ⟨cfg, _, hl⟩ | ⟨cfg, _, hb⟩⟩ := big_events (big_of_runNode h hfuel) e he
  · exact hl.sid
  · exact hb.sid

example : ((runNode Ex.env1 10 0 7 Ex.st0).1.filterMap evSid).eraseDups = [7] := by decide

end Flyt.Props.C10
