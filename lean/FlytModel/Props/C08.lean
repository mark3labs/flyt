import FlytModel.Proofs.Pool
/-!
# C08 — the concurrency limit is a hard bound and is fully usable (worker-pool level)

The batch executor runs its items as pool tasks on `max 1 c` workers, so the pool statements below are
the bound for batches as well (`runBatchConcurrent` creates `NewWorkerPool(concurrency)`).
-/
namespace Flyt.Props.C08
open Flyt.Pool

/-- **Hard bound**: in every reachable state of a pool created with `workers` (≤ 0 meaning 1), for every
    schedule, at most that many tasks are being executed. -/
theorem in_flight_le_workers {cap : Nat} {workers : Int} {p : Pool} (h : Reachable cap workers p) :
    p.running.length ≤ p.w := by
  have := (inv_reachable h).workers
  omega

/-- the number of workers never changes: it is what `NewWorkerPool` was given (≤ 0 ⇒ 1) -/
theorem w_const {cap : Nat} {workers : Int} {p : Pool} (h : Reachable cap workers p) :
    p.w = (if workers ≤ 0 then 1 else workers.toNat) := by
  induction h with
  | init => simp [init]
  | step _ hs ih =>
    obtain ⟨l, hl⟩ := hs
    rw [← ih]
    cases fires_of_apply hl <;> rfl

/-- **Usable**: whenever a task is queued and some worker is idle, the step that starts it is enabled — an
    idle worker never refuses work. Hence as long as fewer than `w` tasks run and the pool is not closed,
    queued work can always start: `c` mutually dependent tasks all get to run together. -/
theorem idle_worker_takes {cap : Nat} {workers : Int} {p : Pool} (h : Reachable cap workers p)
    (hq : p.queue ≠ []) (hrun : p.running.length + p.exited < p.w) : (apply p .take).isSome := by
  have inv := (inv_reachable h).workers
  have hi : p.idle > 0 := by omega
  cases hqq : p.queue with
  | nil => exact absurd hqq hq
  | cons t q => simp [apply, hqq, hi]

/-- … and a pending Submit completes whenever the queue has room -/
theorem pending_send_enabled (p : Pool) (t : Nat) (ht : t ∈ p.pend) (hroom : p.queue.length < p.cap) :
    (apply p (.send t)).isSome := by
  simp [apply, ht, hroom]

example : (init 4 0).w = 1 ∧ (init 4 (-3)).w = 1 ∧ (init 4 3).w = 3 := by decide

end Flyt.Props.C08
