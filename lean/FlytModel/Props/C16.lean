import FlytModel.Proofs.Bind
/-!
# C16  Bind: identity for matching types, JSON round-trip otherwise, never panics

Theorems about `Flyt.Bind.bindVal / storeBind / resultBind / mustOf` (model of flyt.go:378-423,
result.go:294-337) for EVERY type universe `T`, value universe `V`, byte type `B`, error type `E` and
every `Codec` (`reflect.TypeOf`, `json.Marshal`, `json.Unmarshal` as arbitrary functions).
Each theorem is followed by a non-vacuity example on a concrete codec.
-/
namespace Flyt.Props.C16
open Flyt.Bind Flyt.Spec

variable {K T V B E : Type} [DecidableEq T]

/-! A concrete codec for the examples: types are strings, values are `(type, payload)`, "JSON" is the
payload as a number, marshalling type `"chan"` fails, decoding into `"bool"` fails after writing. -/
def exCodec : Codec String (String × Nat) Nat String where
  typeOf := fun v => v.1
  marshal := fun
    | none => .ok 0
    | some v => if v.1 = "chan" then .error "unsupported type" else .ok v.2
  unmarshal := fun b t cur => if t = "bool" then ((t, cur.2 + 1), some "type mismatch") else ((t, b), none)
  invalidDest := "invalid unmarshal"

def exStore : Store String (String × Nat) := fun k =>
  if k = "user" then some (some ("User", 7)) else if k = "nil" then some none else none

/-- **Never panics.**  Whatever the destination (untyped nil, non-pointer, typed nil pointer, valid
    pointer), the value (nil or not) and the codec, no `Bind` reaches a panicking `reflect` call. -/
theorem never_panics (c : Codec T V B E) (s : Store K V) (key : K) (value : Option V) (d : Dest T V) :
    (storeBind c s key d).1.isPanic = false ∧ (resultBind c value d).isPanic = false := by
  obtain ⟨_, h1⟩ := storeBind_not_panic c s key d
  obtain ⟨_, h2⟩ := resultBind_not_panic c value d
  rw [h1, h2]
  exact ⟨rfl, rfl⟩

example : (storeBind exCodec exStore "user" (.nilPointer "User")).1 = .ok ⟨some .badDest, .nilPointer "User", []⟩ := by
  decide

/-- **Bad destination ⇒ error, nothing touched, JSON not called** (untyped nil, non-pointer, typed nil
    pointer of ANY element type — in particular of the value's own type), for a present store value
    and for a non-nil Result. -/
theorem bad_dest_is_error (c : Codec T V B E) (s : Store K V) (key : K) (val : Option V) (v : V)
    (d : Dest T V) (hd : d.valid = false) (hs : s key = some val) :
    (storeBind c s key d).1 = .ok ⟨some .badDest, d, []⟩ ∧
    resultBind c (some v) d = .ok ⟨some .badDest, d, []⟩ := by
  constructor
  · simp [storeBind, hs, bindVal_invalid c val d hd]
  · simp [resultBind, bindVal_invalid c (some v) d hd]

example : resultBind exCodec (some ("User", 7)) (.nonPointer "User") = .ok ⟨some .badDest, .nonPointer "User", []⟩ ∧
    resultBind exCodec (some ("User", 7)) .untypedNil = .ok ⟨some .badDest, .untypedNil, []⟩ := by
  decide

/-- **Missing key ⇒ error** (before the destination is even looked at). -/
theorem missing_key_is_error (c : Codec T V B E) (s : Store K V) (key : K) (d : Dest T V) (hs : s key = none) :
    (storeBind c s key d).1 = .ok ⟨some .keyNotFound, d, []⟩ := by
  simp [storeBind, hs]

example : (storeBind exCodec exStore "absent" .untypedNil).1 = .ok ⟨some .keyNotFound, .untypedNil, []⟩ := by
  decide

/-- **Nil Result value ⇒ error.** -/
theorem nil_result_is_error (c : Codec T V B E) (d : Dest T V) :
    resultBind c none d = .ok ⟨some .nilResult, d, []⟩ := rfl

example : resultBind exCodec none (.ptr "User" ("User", 0)) = .ok ⟨some .nilResult, .ptr "User" ("User", 0), []⟩ := by
  decide

/-- **Identity for matching types.**  A non-nil value whose type is the destination's element type is
    stored into the destination unchanged, without error and with NO call to marshal / unmarshal. -/
theorem same_type_identity (c : Codec T V B E) (s : Store K V) (key : K) (v : V) (t : T) (cur : V)
    (hs : s key = some (some v)) (ht : c.typeOf v = t) :
    (storeBind c s key (.ptr t cur)).1 = .ok ⟨none, .ptr t v, []⟩ ∧
    resultBind c (some v) (.ptr t cur) = .ok ⟨none, .ptr t v, []⟩ := by
  simp [storeBind, resultBind, hs, bindVal_same c v t cur ht]

example : (storeBind exCodec exStore "user" (.ptr "User" ("User", 0))).1 = .ok ⟨none, .ptr "User" ("User", 7), []⟩ := by
  decide
-- the identity path also carries values the codec cannot encode (a channel into a *chan)
example : resultBind exCodec (some ("chan", 3)) (.ptr "chan" ("chan", 0)) = .ok ⟨none, .ptr "chan" ("chan", 3), []⟩ := by
  decide

/-- **JSON round trip otherwise, including both error cases.**  For a non-nil value of any other type,
    Bind is exactly `marshal v >>= unmarshal dest`: same error (tagged by phase, the codec's error
    carried unchanged), same destination contents (also what a failing decode left behind), one marshal
    call and at most one unmarshal call. -/
theorem other_type_is_json (c : Codec T V B E) (s : Store K V) (key : K) (v : V) (t : T) (cur : V)
    (hs : s key = some (some v)) (ht : c.typeOf v ≠ t) :
    (storeBind c s key (.ptr t cur)).1 = .ok (jsonRoundTrip c (some v) t cur) ∧
    resultBind c (some v) (.ptr t cur) = .ok (jsonRoundTrip c (some v) t cur) := by
  have h : (some v).map c.typeOf ≠ some t := by simpa using ht
  simp [storeBind, resultBind, hs, bindVal_other c (some v) t cur h]

/-- the error of the round trip is the codec's own (transparent wrapping) -/
theorem json_errors_transparent (c : Codec T V B E) (v : V) (t : T) (cur : V) (ht : c.typeOf v ≠ t) :
    ∃ o, resultBind c (some v) (.ptr t cur) = .ok o ∧
      o.err = (match c.marshal (some v) with
               | .error e => some (.marshal e)
               | .ok b => (c.unmarshal b t cur).2.map .unmarshal) := by
  have h : (some v).map c.typeOf ≠ some t := by simpa using ht
  exact ⟨_, by simp [resultBind, bindVal_other c (some v) t cur h], jsonRoundTrip_err c (some v) t cur⟩

example : resultBind exCodec (some ("User", 7)) (.ptr "Other" ("Other", 0)) =
    .ok ⟨none, .ptr "Other" ("Other", 7), [.marshal (some ("User", 7)), .unmarshal 7 (.ptr "Other" ("Other", 0))]⟩ := by
  decide
example : resultBind exCodec (some ("chan", 1)) (.ptr "Other" ("Other", 0)) =
    .ok ⟨some (.marshal "unsupported type"), .ptr "Other" ("Other", 0), [.marshal (some ("chan", 1))]⟩ := by
  decide
example : (resultBind exCodec (some ("User", 7)) (.ptr "bool" ("bool", 0))) =
    .ok ⟨some (.unmarshal "type mismatch"), .ptr "bool" ("bool", 1),
         [.marshal (some ("User", 7)), .unmarshal 7 (.ptr "bool" ("bool", 0))]⟩ := by
  decide

/-- A stored nil (key present, value nil) has no type, so it always takes the JSON path: `null`
    decoded into the destination (the design's parenthesis; not an error, unlike a nil Result). -/
theorem stored_nil_is_json_null (c : Codec T V B E) (s : Store K V) (key : K) (t : T) (cur : V)
    (hs : s key = some none) :
    (storeBind c s key (.ptr t cur)).1 = .ok (jsonRoundTrip c none t cur) := by
  simp [storeBind, hs, bindVal_other c none t cur (by simp)]

example : (storeBind exCodec exStore "nil" (.ptr "User" ("User", 5))).1 =
    .ok ⟨none, .ptr "User" ("User", 0), [.marshal none, .unmarshal 0 (.ptr "User" ("User", 5))]⟩ := by
  decide

/-- **The two Binds agree on every non-nil value**, for every destination (valid or not). -/
theorem store_result_agree (c : Codec T V B E) (s : Store K V) (key : K) (v : V) (d : Dest T V)
    (hs : s key = some (some v)) :
    (storeBind c s key d).1 = resultBind c (some v) d := by
  simp [storeBind, resultBind, hs]

example : (storeBind exCodec exStore "user" (.ptr "bool" ("bool", 0))).1 =
    resultBind exCodec (some ("User", 7)) (.ptr "bool" ("bool", 0)) := by decide

/-- **The source is never written**: the store after `Bind` / `MustBind` is the store before, on every
    path (errors, identity copy, failed decode). -/
theorem source_not_written (c : Codec T V B E) (s : Store K V) (key : K) (d : Dest T V) :
    (storeBind c s key d).2 = s ∧ (storeMustBind c s key d).2 = s := by
  constructor
  · unfold storeBind; cases s key <;> rfl
  · unfold storeMustBind storeBind; cases s key <;> rfl

example : (storeBind exCodec exStore "user" (.ptr "bool" ("bool", 0))).2 "user" = some (some ("User", 7)) := by
  decide

/-- **MustBind panics iff Bind errs** (with Bind's error in the panic), and in both cases leaves the
    destination exactly as Bind does; it never dies of a panic inside Bind. -/
theorem mustBind_panics_iff_bind_errs (c : Codec T V B E) (value : Option V) (d : Dest T V) :
    ∃ o, resultBind c value d = .ok o ∧
      resultMustBind c value d = (match o.err with | some e => .mustPanic e o.dest | none => .returned o.dest) := by
  obtain ⟨o, h⟩ := resultBind_not_panic c value d
  exact ⟨o, h, by rw [resultMustBind, h]; rfl⟩

theorem store_mustBind_panics_iff_bind_errs (c : Codec T V B E) (s : Store K V) (key : K) (d : Dest T V) :
    ∃ o, (storeBind c s key d).1 = .ok o ∧
      (storeMustBind c s key d).1 = (match o.err with | some e => .mustPanic e o.dest | none => .returned o.dest) := by
  obtain ⟨o, h⟩ := storeBind_not_panic c s key d
  exact ⟨o, h, by simp only [storeMustBind, h]; rfl⟩

example : resultMustBind exCodec none (.ptr "User" ("User", 0)) = .mustPanic .nilResult (.ptr "User" ("User", 0)) ∧
    resultMustBind exCodec (some ("User", 7)) (.ptr "User" ("User", 0)) = .returned (.ptr "User" ("User", 7)) ∧
    (storeMustBind exCodec exStore "absent" (.ptr "User" ("User", 0))).1 = .mustPanic .keyNotFound (.ptr "User" ("User", 0)) := by
  decide

/-- **The property predicate holds of the model's observation on every case descriptor the harness can
    produce** (destination kind × presence × same-type × reference outcome: a finite table of 128
    descriptors, checked by evaluation; the general statements are the theorems above). -/
theorem holds (cs : Case) (h : caseWf cs = true) : Spec.c16 cs (modelObs cs) = true := by
  revert h
  obtain ⟨d, p, s, r⟩ := cs
  cases d <;> cases p <;> cases s <;> cases r <;> decide

/-- and the model's observation matches itself under the driver's comparison (so `agree` is not
    vacuously false) -/
theorem model_matches_itself (cs : Case) : (modelObs cs).matches (modelObs cs) = true :=
  Obs.matches_self _

example : caseWf ⟨.ptr, .val, false, .unmarshalErr⟩ = true ∧
    (modelObs ⟨.ptr, .val, false, .unmarshalErr⟩).store =
      { cls := .unmarshalErr, destInit := false, destSrc := false, destRef := true, srcSame := true, wraps := true } ∧
    c16Nontrivial ⟨.ptr, .val, false, .unmarshalErr⟩ = true := by
  decide

end Flyt.Props.C16
