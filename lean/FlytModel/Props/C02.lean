import FlytModel.Proofs.L.Retry
import FlytModel.Proofs.L.LeafSpec
import FlytModel.Proofs.L.Visits
import FlytModel.Proofs.L.ConcRetry
/-!
# C02 — Retry budget and fallback are exact

Theorems about the retry loop + fallback of `flyt.Run` (`Flyt.runLeaf`, flyt.go:714-745) and about its
duplicate `runExecWithRetries` (`Flyt.runItem`, batch.go:317-357) for EVERY budget `N`, EVERY exec
outcome sequence (of any length), fallback absent / pass-through / succeeding / failing, EVERY node
kind / configuration, payload, wait setting, and — at the end — for every item of every batch run
(any number of items, any prep shape, sequential or worker pool in its serial schedule, stop or
continue mode).

Vocabulary (Proofs/L/Attempts.lean, Proofs/L/Leaf.lean, Proofs/L/LeafFacts.lean, Proofs/L/Item.lean):
`FirstOk exec k` attempt `k` is the first one the script lets succeed · `AllFail exec N` the first `N`
attempts fail · `execCount tr` / `fbCalls tr` / `postCalls tr` the exec attempts / fallback calls / post
calls in a trace · `bexecCount i tr` / `bfbCalls i tr` the same for item `i` of a batch ·
`PrepDone cfg scr pv` prep handed `pv` to the exec phase (no prep callback, or it succeeded without
cancelling the context) · `NoCancel` no callback of the loop cancels the context and no wait is
interrupted (the statement's "attempted until the first success" presupposes an uncancelled run; the
upper bounds need no such hypothesis).
-/
namespace Flyt.Props.C02
open Flyt Flyt.Spec Flyt.Proofs.Attempts Flyt.Proofs.Leaf Flyt.Proofs.Item Flyt.Proofs.Retry Flyt.Proofs.LeafSpec

/-! ### scenario for the non-vacuity examples: budget 3, custom fallback; attempts 0, 1 fail -/
def exCfg : LeafCfg :=
  { retryable := true, budget := 3, wait := 5, fb := .custom, prepS := .direct, execS := .direct, postS := .direct }
def exScr (firstOk : Nat) : LeafScript :=
  { prep := { res := .ok (.tok 7) },
    exec := fun k => if k < firstOk then { res := .error (100 + k) } else { res := .ok (.tok 9) },
    waitCancel := fun _ => false, fb := { res := .ok (.tok 5) }, post := { res := .ok "next" } }

theorem ex_hyps (f : Nat) : NoCancel exCfg (exScr f) ∧ PrepDone exCfg (exScr f) (.tok 7) ∧ exCfg.execS ≠ .absent ∧
    1 ≤ exCfg.effBudget :=
  ⟨⟨rfl, fun k => by unfold exScr; dsimp only; split <;> rfl, Or.inr fun _ => rfl⟩, ⟨rfl, Or.inr rfl⟩, by decide, by decide⟩

theorem ex_firstOk (f : Nat) : FirstOk (exScr f).exec f :=
  ⟨⟨.tok 9, by simp [exScr]⟩, fun j hj => ⟨100 + j, by simp [exScr, hj]⟩⟩

/-- **Never more than `N` attempts, and never an attempt after the first success** — in every
    scenario, including every pattern of cancellation. -/
theorem attempts_never_exceed (kind : CtxKind) (n v sid : Nat) (cfg : LeafCfg) (scr : LeafScript) :
    execCount (runLeaf kind n v sid cfg scr .live).1 ≤ cfg.effBudget ∧
    ∀ k, FirstOk scr.exec k → execCount (runLeaf kind n v sid cfg scr .live).1 ≤ min (k + 1) cfg.effBudget := by
  have h := runLeaf_live_spec kind n v sid cfg scr
  by_cases hd : ∃ pv, PrepDone cfg scr pv
  · obtain ⟨pv, hd⟩ := hd
    obtain ⟨loop, fbs, m, res, spec, _, hm, _⟩ := h.toPhase hd
    rw [hm]
    exact ⟨spec.le, fun k hk => spec.count_le hk⟩
  · rw [(h.stopped hd).1]
    exact ⟨Nat.zero_le _, fun _ _ => Nat.zero_le _⟩

/-- **Exactly `min (k+1) N` attempts** where `k` is the index of the first succeeding attempt
    (0-based; the statement's "min(k, N)" with 1-based `k`), and exactly `N` when none of the first `N`
    succeeds. -/
theorem attempts_exact (kind : CtxKind) (n v sid : Nat) (cfg : LeafCfg) (scr : LeafScript)
    (hnc : NoCancel cfg scr) {pv : Val} (hd : PrepDone cfg scr pv) (hS : cfg.execS ≠ .absent) :
    (∀ k, FirstOk scr.exec k → execCount (runLeaf kind n v sid cfg scr .live).1 = min (k + 1) cfg.effBudget) ∧
    (AllFail scr.exec cfg.effBudget → execCount (runLeaf kind n v sid cfg scr .live).1 = cfg.effBudget) := by
  obtain ⟨loop, fbs, m, res, spec, _, hm, _, _, hncr⟩ := (runLeaf_live_spec kind n v sid cfg scr).toPhase hd
  have hncr := hncr (runLeaf_noCancel kind n v sid cfg scr hnc)
  rw [hm]
  exact ⟨fun k hk => spec.count_firstOk hS hncr hk, fun hall => spec.count_allFail hS hncr hall⟩

-- first success at attempt 1 of 3: two attempts; at attempt 7 of 3: three attempts
example : execCount (runLeaf .canceled 4 0 1 exCfg (exScr 1) .live).1 = 2 := by decide
example : execCount (runLeaf .canceled 4 0 1 exCfg (exScr 7) .live).1 = 3 := by decide

/-- **The attempts are numbered 0, 1, 2, …** (and each gets the prep value, see C01). -/
theorem attempts_numbered (kind : CtxKind) (n v sid : Nat) (cfg : LeafCfg) (scr : LeafScript)
    {pv : Val} (hd : PrepDone cfg scr pv) :
    (runLeaf kind n v sid cfg scr .live).1.filter isExecEv =
      (List.range (execCount (runLeaf kind n v sid cfg scr .live).1)).map
        (fun k => Ev.exec n v k (execArg cfg.execS pv)) := by
  obtain ⟨loop, fbs, m, res, spec, hE, hm, _⟩ := (runLeaf_live_spec kind n v sid cfg scr).toPhase hd
  rw [hm, hE]

/-- **The fallback is invoked at most once, only by a node that has one, only after all `N` attempts
    were made and failed — never after a success — and with the prep value and the error of the LAST
    attempt** (every scenario, including every pattern of cancellation). -/
theorem fallback_only_after_exhaustion (kind : CtxKind) (n v sid : Nat) (cfg : LeafCfg) (scr : LeafScript) :
    fbCalls (runLeaf kind n v sid cfg scr .live).1 = [] ∨
    (cfg.fb = .custom ∧ execCount (runLeaf kind n v sid cfg scr .live).1 = cfg.effBudget ∧
      AllFail scr.exec cfg.effBudget ∧
      ∃ j e pv, cfg.effBudget = j + 1 ∧ (scr.exec j).res = .error e ∧ PrepDone cfg scr pv ∧
        fbCalls (runLeaf kind n v sid cfg scr .live).1 = [.fb n v pv (.user e)]) := by
  have h := runLeaf_live_spec kind n v sid cfg scr
  by_cases hd : ∃ pv, PrepDone cfg scr pv
  · obtain ⟨pv, hd⟩ := hd
    obtain ⟨loop, fbs, m, res, spec, _, hm, hf, _⟩ := h.toPhase hd
    rw [hm, hf]
    rcases spec.fb_only_if with h0 | ⟨h1, h2, h3, j, e, h4, h5, h6⟩
    · exact Or.inl h0
    · exact Or.inr ⟨h1, h2, h3, j, e, pv, h4, h5, hd, h6⟩
  · exact Or.inl (h.stopped hd).2.1

/-- **… and it is invoked (exactly once, by the theorem above) if and only if all `N` attempts failed**
    (and the node has a fallback of its own). -/
theorem fallback_iff_all_failed (kind : CtxKind) (n v sid : Nat) (cfg : LeafCfg) (scr : LeafScript)
    (hnc : NoCancel cfg scr) {pv : Val} (hd : PrepDone cfg scr pv) (hS : cfg.execS ≠ .absent) (hb : 1 ≤ cfg.effBudget) :
    fbCalls (runLeaf kind n v sid cfg scr .live).1 ≠ [] ↔ (cfg.fb = .custom ∧ AllFail scr.exec cfg.effBudget) := by
  constructor
  · intro hne
    rcases fallback_only_after_exhaustion kind n v sid cfg scr with h0 | ⟨h1, _, h3, _⟩
    · exact absurd h0 hne
    · exact ⟨h1, h3⟩
  · rintro ⟨hc, hall⟩
    obtain ⟨loop, fbs, m, res, spec, _, hm, hf, _, hncr⟩ := (runLeaf_live_spec kind n v sid cfg scr).toPhase hd
    rw [hf]
    obtain ⟨_, e, _, ⟨hne, _⟩ | ⟨_, hfb, _⟩⟩ :=
      spec.allFail hS (hncr (runLeaf_noCancel kind n v sid cfg scr hnc)) hall hb
    · exact absurd hc hne
    · simp [hfb]

example : fbCalls (runLeaf .canceled 4 0 1 exCfg (exScr 7) .live).1 = [.fb 4 0 (.tok 7) (.user 102)] := by decide
example : fbCalls (runLeaf .canceled 4 0 1 exCfg (exScr 2) .live).1 = [] := by decide

/-- **The fallback's outcome replaces the exec outcome.**  The post phase (`PostEnd`: post's events
    and the run's outcome as a function of the exec phase's result `res`) is entered with
    * the first success's value, no fallback call, when an attempt `k < N` succeeds;
    * the last attempt's error, no fallback call — and that error is the run's — when all fail and the
      node has no fallback of its own;
    * the fallback's value / the fallback's error, after exactly one call with the last error, when
      all fail and it has one. -/
theorem outcome_after_retries (kind : CtxKind) (n v sid : Nat) (cfg : LeafCfg) (scr : LeafScript)
    (hnc : NoCancel cfg scr) {pv : Val} (hd : PrepDone cfg scr pv) (hS : cfg.execS ≠ .absent) (hb : 1 ≤ cfg.effBudget) :
    ∃ res, PostEnd n v sid cfg scr pv res (postCalls (runLeaf kind n v sid cfg scr .live).1)
        (runLeaf kind n v sid cfg scr .live).2.2 ∧
      (∀ k y, FirstOk scr.exec k → k < cfg.effBudget → (scr.exec k).res = .ok y →
          res = .ok (execRet cfg.execS y) ∧ fbCalls (runLeaf kind n v sid cfg scr .live).1 = []) ∧
      (AllFail scr.exec cfg.effBudget → cfg.fb ≠ .custom →
          ∃ e, (scr.exec (cfg.effBudget - 1)).res = .error e ∧ res = .error (.user e) ∧
            fbCalls (runLeaf kind n v sid cfg scr .live).1 = [] ∧
            (runLeaf kind n v sid cfg scr .live).2.2 = .err (.user e)) ∧
      (AllFail scr.exec cfg.effBudget → cfg.fb = .custom →
          ∃ e, (scr.exec (cfg.effBudget - 1)).res = .error e ∧
            fbCalls (runLeaf kind n v sid cfg scr .live).1 = [.fb n v pv (.user e)] ∧
            res = (match scr.fb.res with | .ok x => .ok x | .error e' => .error (.user e'))) := by
  obtain ⟨loop, fbs, m, res, spec, _, hm, hf, hpost, hncr⟩ := (runLeaf_live_spec kind n v sid cfg scr).toPhase hd
  have hncr := hncr (runLeaf_noCancel kind n v sid cfg scr hnc)
  refine ⟨res, hpost, ?_, ?_, ?_⟩
  · intro k y hk hkb hy
    rw [hf]
    exact (spec.firstOk hS hncr hk hkb hy).2
  · intro hall hfb
    obtain ⟨_, e, h1, ⟨_, h3, h2⟩ | ⟨hc, _⟩⟩ := spec.allFail hS hncr hall hb
    · exact ⟨e, h1, h2, by rw [hf]; exact h3, ((show res = _ from h2) ▸ hpost).err.1⟩
    · exact absurd hc hfb
  · intro hall hfb
    obtain ⟨_, e, h1, ⟨hne, _⟩ | ⟨_, h2, h3⟩⟩ := spec.allFail hS hncr hall hb
    · exact absurd hfb hne
    · exact ⟨e, h1, by rw [hf]; exact h2, h3⟩

example : ∀ f, NoCancel exCfg (exScr f) ∧ PrepDone exCfg (exScr f) (.tok 7) ∧ exCfg.execS ≠ .absent ∧ 1 ≤ exCfg.effBudget :=
  ex_hyps
example : FirstOk (exScr 1).exec 1 ∧ AllFail (exScr 7).exec exCfg.effBudget :=
  ⟨ex_firstOk 1, fun j hj => ⟨100 + j, by
    have : j < 3 := hj
    simp only [exScr]; rw [if_pos (by omega)]⟩⟩
-- the fallback's value (token 5) is what post receives
example : postCalls (runLeaf .canceled 4 0 1 exCfg (exScr 7) .live).1 = [.post 4 0 1 (.tok 7) (.tok 5)] := by decide

/-- **A node that does not expose retry settings gets exactly one attempt** — whatever its script,
    whatever is cancelled when. -/
theorem nonretryable_single_attempt (kind : CtxKind) (n v sid : Nat) (cfg : LeafCfg) (scr : LeafScript)
    (hr : cfg.retryable = false) {pv : Val} (hd : PrepDone cfg scr pv) (hS : cfg.execS ≠ .absent) :
    execCount (runLeaf kind n v sid cfg scr .live).1 = 1 := by
  have hr : cfg.effBudget = 1 := by simp [LeafCfg.effBudget, hr]
  obtain ⟨loop, fbs, m, res, spec, _, hm, _⟩ := (runLeaf_live_spec kind n v sid cfg scr).toPhase hd
  have h1 := spec.le
  have h2 := spec.count_pos hS (by omega)
  omega

example : execCount (runLeaf .canceled 4 0 1 { exCfg with retryable := false } (exScr 7) .live).1 = 1 := by decide

theorem c02Visit_bridge (kind : CtxKind) (n v sid : Nat) (cfg : LeafCfg) (scr : LeafScript) (hnc : NoCancel cfg scr) :
    c02Visit cfg scr (runLeaf kind n v sid cfg scr .live).1 = true :=
  c02Visit_of_leafRun (runLeaf_live_spec kind n v sid cfg scr) (runLeaf_noCancel kind n v sid cfg scr hnc)

/-- … inside flows: every group of the trace of a run of any node (any flow shape, nesting, routing)
    that belongs to a plain / function-style node satisfies `c02Visit`, when no callback cancels -/
theorem c02Visit_flow_bridge (env : Env) (fuel : Nat) (root : NodeId) (sid : StoreId) (st : RunSt)
    (hnc : ∀ n v cfg, env.arena n = .leaf cfg → NoCancel cfg (env.leafBeh n v)) :
    ∀ p ∈ segments (noWaits (runNode env fuel root sid st).1), ∀ cfg, env.arena p.1.1 = .leaf cfg →
      c02Visit cfg (env.leafBeh p.1.1 p.1.2) p.2 = true := by
  intro p hp cfg hcfg
  rw [Flyt.Proofs.Visits.run_segment_leaf hp hcfg, c02Visit_noWaits]
  exact c02Visit_bridge env.kind p.1.1 p.1.2 sid cfg _ (hnc _ _ cfg hcfg)

/-- **the cancellation-proof clauses of C02, as the driver judges them on EVERY run** (`Spec.c02Bounds`): at most
    `N` attempts, every attempt but the last failed, the fallback at most once and only after `N` failed
    attempts, with the prep value and the last error — no hypothesis about what cancels the context when, about
    the configuration (no exec callback, budget 0, …) or about the script -/
theorem c02Bounds_bridge (kind : CtxKind) (n v sid : Nat) (cfg : LeafCfg) (scr : LeafScript) :
    c02Bounds cfg scr (runLeaf kind n v sid cfg scr .live).1 = true :=
  c02Bounds_of_leafRun (runLeaf_live_spec kind n v sid cfg scr)

/-- … inside flows: every group of the trace of a run of any node (any flow shape, nesting, routing, any
    pattern of cancellation, any context at the start) that belongs to a plain / function-style node
    satisfies `c02Bounds` -/
theorem c02Bounds_flow_bridge (env : Env) (fuel : Nat) (root : NodeId) (sid : StoreId) (st : RunSt) :
    ∀ p ∈ segments (noWaits (runNode env fuel root sid st).1), ∀ cfg, env.arena p.1.1 = .leaf cfg →
      c02Bounds cfg (env.leafBeh p.1.1 p.1.2) p.2 = true := by
  intro p hp cfg hcfg
  rw [Flyt.Proofs.Visits.run_segment_leaf hp hcfg, c02Bounds_noWaits]
  exact c02Bounds_bridge env.kind p.1.1 p.1.2 sid cfg _

/-- the example script, with the context cancelled asynchronously during the retry wait before attempt `w` and
    (if `c`) by attempt 2 itself -/
def exScrCancel (firstOk w : Nat) (c : Bool) : LeafScript :=
  { exScr firstOk with
    waitCancel := fun k => k == w,
    exec := fun k => { (exScr firstOk).exec k with cancels := c && k == 2 } }

-- cut short during the wait before attempt 2 (2 of 3 attempts, no fallback): `c02Bounds` holds, `c02Visit` does not
example : execCount (runLeaf .canceled 4 0 1 exCfg (exScrCancel 7 2 false) .live).1 = 2 ∧
    (runLeaf .canceled 4 0 1 exCfg (exScrCancel 7 2 false) .live).2.2 = .err (.ctx .canceled) ∧
    c02Bounds exCfg (exScrCancel 7 2 false) (runLeaf .canceled 4 0 1 exCfg (exScrCancel 7 2 false) .live).1 = true ∧
    c02Visit exCfg (exScrCancel 7 2 false) (runLeaf .canceled 4 0 1 exCfg (exScrCancel 7 2 false) .live).1 = false := by
  decide
-- the last attempt cancels the context and fails: all 3 attempts were made, the fallback still runs once (the
-- fallback branch of `c02Bounds`: custom fallback, `m = N`, all failed, prep value and last error)
example : fbCalls (runLeaf .canceled 4 0 1 exCfg (exScrCancel 7 9 true) .live).1 = [.fb 4 0 (.tok 7) (.user 102)] ∧
    c02Bounds exCfg (exScrCancel 7 9 true) (runLeaf .canceled 4 0 1 exCfg (exScrCancel 7 9 true) .live).1 = true := by
  decide
-- the predicate is not trivially true: it rejects a 4th attempt, an attempt after a success, a fallback call
-- after 2 of 3 attempts and a fallback call with another error
example : c02Bounds exCfg (exScr 7) ((List.range 4).map fun k => Ev.exec 4 0 k (.tok 7)) = false ∧
    c02Bounds exCfg (exScr 0) ((List.range 2).map fun k => Ev.exec 4 0 k (.tok 7)) = false ∧
    c02Bounds exCfg (exScr 7) (((List.range 2).map fun k => Ev.exec 4 0 k (.tok 7)) ++ [.fb 4 0 (.tok 7) (.user 101)]) = false ∧
    c02Bounds exCfg (exScr 7) (((List.range 3).map fun k => Ev.exec 4 0 k (.tok 7)) ++ [.fb 4 0 (.tok 7) (.user 101)]) = false := by
  decide
-- no exec callback / budget 0 (a node whose `maxRetries` is 0): no side condition is needed there either
example : c02Bounds { exCfg with execS := .absent } (exScr 7)
      (runLeaf .canceled 4 0 1 { exCfg with execS := .absent } (exScr 7) .live).1 = true ∧
    ({ exCfg with budget := 0 } : LeafCfg).effBudget = 0 ∧
    c02Bounds { exCfg with budget := 0 } (exScr 7) (runLeaf .canceled 4 0 1 { exCfg with budget := 0 } (exScr 7) .live).1 = true := by
  decide

def exBatch : BatchCfg :=
  { budget := 3, wait := 0, fb := .custom, conc := 0, stop := false, execS := .any, hasPost := true, shape := .anys }
def exItem (firstOk : Nat) : ItemScript :=
  { exec := fun k => if k < firstOk then { res := .error (100 + k) } else { res := .ok (.tok 9) },
    waitCancel := fun _ => false, fb := { res := .ok (.tok 5) } }

/-- never more than `N` attempts on an item, never one after its first success (every scenario) -/
theorem item_attempts_never_exceed (kind : CtxKind) (n v : Nat) (cfg : BatchCfg) (i : Nat) (item : Result)
    (scr : ItemScript) (c : Ctx) :
    bexecCount i (runItem kind n v cfg i item scr c).1 ≤ cfg.budget ∧
    ∀ k, FirstOk scr.exec k → bexecCount i (runItem kind n v cfg i item scr c).1 ≤ min (k + 1) cfg.budget := by
  rw [runItem_eq]
  cases c with
  | done kd => simp [itemPhase_done, bexecCount]
  | live =>
    obtain ⟨loop, fbs, m, spec⟩ := runItem_spec kind n v cfg i item scr
    rw [(phase_filters spec).2.1]
    exact ⟨spec.le, fun k hk => spec.count_le hk⟩

/-- exactly `min (k+1) N` attempts on an item / exactly `N` when all fail -/
theorem item_attempts_exact (kind : CtxKind) (n v : Nat) (cfg : BatchCfg) (i : Nat) (item : Result) (scr : ItemScript)
    (hnc : Flyt.Proofs.Item.NoCancel cfg scr) (hS : cfg.execS ≠ .absent) :
    (∀ k, FirstOk scr.exec k → bexecCount i (runItem kind n v cfg i item scr .live).1 = min (k + 1) cfg.budget) ∧
    (AllFail scr.exec cfg.budget → bexecCount i (runItem kind n v cfg i item scr .live).1 = cfg.budget) := by
  rw [runItem_eq]
  obtain ⟨loop, fbs, m, spec⟩ := runItem_spec kind n v cfg i item scr
  have hncr := itemPhase_noCancel kind n v cfg i item scr hnc
  rw [(phase_filters spec).2.1]
  exact ⟨fun k hk => spec.count_firstOk hS hncr hk, fun hall => spec.count_allFail hS hncr hall⟩

/-- the item's attempts are numbered 0, 1, 2, … and each receives the item -/
theorem item_attempts_numbered (kind : CtxKind) (n v : Nat) (cfg : BatchCfg) (i : Nat) (item : Result) (scr : ItemScript) :
    (runItem kind n v cfg i item scr .live).1.filter (isBexecOf i) =
      (List.range (bexecCount i (runItem kind n v cfg i item scr .live).1)).map
        (fun k => Ev.bexec n v i k (execArg cfg.execS item.box)) := by
  rw [runItem_eq]
  obtain ⟨loop, fbs, m, spec⟩ := runItem_spec kind n v cfg i item scr
  rw [(phase_filters spec).2.1, (phase_filters spec).1]

/-- the item's fallback: at most once, only after all `N` attempts failed, with the item and the LAST error -/
theorem item_fallback_only_after_exhaustion (kind : CtxKind) (n v : Nat) (cfg : BatchCfg) (i : Nat) (item : Result)
    (scr : ItemScript) (c : Ctx) :
    bfbCalls i (runItem kind n v cfg i item scr c).1 = [] ∨
    (cfg.fb = .custom ∧ bexecCount i (runItem kind n v cfg i item scr c).1 = cfg.budget ∧ AllFail scr.exec cfg.budget ∧
      ∃ j e, cfg.budget = j + 1 ∧ (scr.exec j).res = .error e ∧
        bfbCalls i (runItem kind n v cfg i item scr c).1 = [.bfb n v i item.box (.user e)]) := by
  rw [runItem_eq]
  cases c with
  | done kd => simp [itemPhase_done, bfbCalls]
  | live =>
    obtain ⟨loop, fbs, m, spec⟩ := runItem_spec kind n v cfg i item scr
    rw [(phase_filters spec).2.1, (phase_filters spec).2.2.1]
    exact spec.fb_only_if

theorem item_fallback_iff_all_failed (kind : CtxKind) (n v : Nat) (cfg : BatchCfg) (i : Nat) (item : Result)
    (scr : ItemScript) (hnc : Flyt.Proofs.Item.NoCancel cfg scr) (hS : cfg.execS ≠ .absent) (hb : 1 ≤ cfg.budget) :
    bfbCalls i (runItem kind n v cfg i item scr .live).1 ≠ [] ↔ (cfg.fb = .custom ∧ AllFail scr.exec cfg.budget) := by
  constructor
  · intro hne
    rcases item_fallback_only_after_exhaustion kind n v cfg i item scr .live with h0 | ⟨h1, _, h3, _⟩
    · exact absurd h0 hne
    · exact ⟨h1, h3⟩
  · rintro ⟨hc, hall⟩
    rw [runItem_eq]
    obtain ⟨loop, fbs, m, spec⟩ := runItem_spec kind n v cfg i item scr
    rw [(phase_filters spec).2.2.1]
    obtain ⟨_, e, _, ⟨hne, _⟩ | ⟨_, hfb, _⟩⟩ :=
      spec.allFail hS (itemPhase_noCancel kind n v cfg i item scr hnc) hall hb
    · exact absurd hc hne
    · simp [hfb]

/-- what ends up in the item's slot / the error reported for the item: the first success's value, the
    last error, or the fallback's outcome -/
theorem item_outcome_after_retries (kind : CtxKind) (n v : Nat) (cfg : BatchCfg) (i : Nat) (item : Result)
    (scr : ItemScript) (hnc : Flyt.Proofs.Item.NoCancel cfg scr) (hS : cfg.execS ≠ .absent) (hb : 1 ≤ cfg.budget) :
    (∀ k y, FirstOk scr.exec k → k < cfg.budget → (scr.exec k).res = .ok y →
        (runItem kind n v cfg i item scr .live).2.2 = .slot (slotOfVal (execRet cfg.execS y)) ∧
        bfbCalls i (runItem kind n v cfg i item scr .live).1 = []) ∧
    (AllFail scr.exec cfg.budget → cfg.fb ≠ .custom →
        ∃ e, (scr.exec (cfg.budget - 1)).res = .error e ∧
          (runItem kind n v cfg i item scr .live).2.2 = .error (.user e) ∧
          bfbCalls i (runItem kind n v cfg i item scr .live).1 = []) ∧
    (AllFail scr.exec cfg.budget → cfg.fb = .custom →
        ∃ e, (scr.exec (cfg.budget - 1)).res = .error e ∧
          bfbCalls i (runItem kind n v cfg i item scr .live).1 = [.bfb n v i item.box (.user e)] ∧
          (runItem kind n v cfg i item scr .live).2.2 =
            (match scr.fb.res with | .ok x => .slot (slotOfVal x) | .error e' => .error (.user e'))) := by
  rw [runItem_eq]
  obtain ⟨loop, fbs, m, spec⟩ := runItem_spec kind n v cfg i item scr
  have hncr := itemPhase_noCancel kind n v cfg i item scr hnc
  rw [(phase_filters spec).2.2.1]
  refine ⟨?_, ?_, ?_⟩
  · intro k y hk hkb hy
    obtain ⟨_, h1, h2⟩ := spec.firstOk hS hncr hk hkb hy
    exact ⟨by simp only [h1, itemResOf], h2⟩
  · intro hall hfb
    obtain ⟨_, e, h1, ⟨_, h3, h2⟩ | ⟨hc, _⟩⟩ := spec.allFail hS hncr hall hb
    · exact ⟨e, h1, by simp only [h2, itemResOf], h3⟩
    · exact absurd hc hfb
  · intro hall hfb
    obtain ⟨_, e, h1, ⟨hne, _⟩ | ⟨_, h2, h3⟩⟩ := spec.allFail hS hncr hall hb
    · exact absurd hfb hne
    · refine ⟨e, h1, h2, ?_⟩
      simp only [h3]
      cases scr.fb.res <;> rfl

example : Flyt.Proofs.Item.NoCancel exBatch (exItem 7) ∧ exBatch.execS ≠ .absent ∧ 1 ≤ exBatch.budget :=
  ⟨⟨fun k => by unfold exItem; dsimp only; split <;> rfl, Or.inl rfl⟩, by decide, by decide⟩
example : (runItem .canceled 2 0 exBatch 1 (newResult (.tok 3)) (exItem 7) .live).1 =
    [.bexec 2 0 1 0 (.tok 3), .bexec 2 0 1 1 (.tok 3), .bexec 2 0 1 2 (.tok 3),
     .bfb 2 0 1 (.res (.tok 3) none) (.user 102)] := by decide

/-- **In the trace of a whole batch run, the events of item `i` are either none (the item was never
    executed: stop mode / cancellation) or exactly the events of `runExecWithRetries` on the `i`-th
    item that prep produced, with item `i`'s own script** — so all item theorems above hold for every
    item of every batch, independently of what the other items do. -/
theorem batch_item_own_loop (kind : CtxKind) (n v sid : Nat) (cfg : BatchCfg) (scr : BatchScript) (ctx : Ctx) (i : Nat) :
    (runBatch kind n v sid cfg scr ctx).1.filter (isItemEv i) = [] ∨
    ∃ l it c, scr.prep.res = .ok l ∧ (normItems cfg.shape l)[i]? = some it ∧
      (runBatch kind n v sid cfg scr ctx).1.filter (isItemEv i) = (runItem kind n v cfg i it (scr.item i) c).1 :=
  Flyt.Proofs.BatchItems.runBatch_item kind n v sid cfg scr ctx i

/-- per item of a whole batch run: never more than `N` attempts, never one after the item's first
    success, fallback at most once and only after the item's `N` failures (every scenario) -/
theorem batch_item_bounds (kind : CtxKind) (n v sid : Nat) (cfg : BatchCfg) (scr : BatchScript) (ctx : Ctx) (i : Nat) :
    bexecCount i (runBatch kind n v sid cfg scr ctx).1 ≤ cfg.budget ∧
    (∀ k, FirstOk (scr.item i).exec k → bexecCount i (runBatch kind n v sid cfg scr ctx).1 ≤ min (k + 1) cfg.budget) ∧
    (bfbCalls i (runBatch kind n v sid cfg scr ctx).1 = [] ∨
      (cfg.fb = .custom ∧ bexecCount i (runBatch kind n v sid cfg scr ctx).1 = cfg.budget ∧
        AllFail (scr.item i).exec cfg.budget ∧ (bfbCalls i (runBatch kind n v sid cfg scr ctx).1).length = 1)) := by
  obtain ⟨h1, h2⟩ := count_filter i (runBatch kind n v sid cfg scr ctx).1
  rw [← h1, ← h2]
  rcases batch_item_own_loop kind n v sid cfg scr ctx i with h0 | ⟨l, it, c, _, _, hev⟩
  · rw [h0]; simp [bexecCount, bfbCalls]
  · rw [hev]
    obtain ⟨ha, hb⟩ := item_attempts_never_exceed kind n v cfg i it (scr.item i) c
    refine ⟨ha, hb, ?_⟩
    rcases item_fallback_only_after_exhaustion kind n v cfg i it (scr.item i) c with h | ⟨x1, x2, x3, j, e, _, _, x4⟩
    · exact Or.inl h
    · exact Or.inr ⟨x1, x2, x3, by rw [x4]; rfl⟩

/-- per item of a whole batch run that was executed and not disturbed by cancellation: exactly
    `min (k+1) N` attempts, fallback iff all `N` failed -/
theorem batch_item_exact (kind : CtxKind) (n v sid : Nat) (cfg : BatchCfg) (scr : BatchScript) (ctx : Ctx) (i : Nat)
    (hrun : (runBatch kind n v sid cfg scr ctx).1.filter (isItemEv i) ≠ [])
    (hnc : Flyt.Proofs.Item.NoCancel cfg (scr.item i)) (hS : cfg.execS ≠ .absent) (hb : 1 ≤ cfg.budget) :
    (∀ k, FirstOk (scr.item i).exec k → bexecCount i (runBatch kind n v sid cfg scr ctx).1 = min (k + 1) cfg.budget) ∧
    (AllFail (scr.item i).exec cfg.budget → bexecCount i (runBatch kind n v sid cfg scr ctx).1 = cfg.budget) ∧
    (bfbCalls i (runBatch kind n v sid cfg scr ctx).1 ≠ [] ↔ (cfg.fb = .custom ∧ AllFail (scr.item i).exec cfg.budget)) := by
  obtain ⟨h1, h2⟩ := count_filter i (runBatch kind n v sid cfg scr ctx).1
  rw [← h1, ← h2]
  rcases batch_item_own_loop kind n v sid cfg scr ctx i with h0 | ⟨l, it, c, _, _, hev⟩
  · exact absurd h0 hrun
  · rw [hev] at hrun ⊢
    cases c with
    | done kd => rw [runItem_eq] at hrun; simp [itemPhase_done] at hrun
    | live =>
      obtain ⟨ha, hb'⟩ := item_attempts_exact kind n v cfg i it (scr.item i) hnc hS
      exact ⟨ha, hb', item_fallback_iff_all_failed kind n v cfg i it (scr.item i) hnc hS hb⟩

def exBatchScr : BatchScript :=
  { prep := { res := .ok [.tok 1, .tok 2, .tok 3] }, post := { res := .ok "" },
    item := fun i => if i = 1 then exItem 7 else exItem i }

-- three items: item 0 succeeds at once, item 1 fails three times and falls back, item 2 succeeds at
-- its third attempt — each with its own count
example : ((List.range 3).map fun i => bexecCount i (runBatch .canceled 2 0 0 exBatch exBatchScr .live).1) = [1, 3, 3] ∧
    ((List.range 3).map fun i => (bfbCalls i (runBatch .canceled 2 0 0 exBatch exBatchScr .live).1).length) = [0, 1, 0] := by
  decide

-- the hypotheses of `batch_item_exact` for item 1 of the example (it was executed, nothing cancels)
example : (runBatch .canceled 2 0 0 exBatch exBatchScr .live).1.filter (isItemEv 1) ≠ [] ∧
    exBatch.execS ≠ .absent ∧ 1 ≤ exBatch.budget := by decide
example : Flyt.Proofs.Item.NoCancel exBatch (exBatchScr.item 1) := by
  have : exBatchScr.item 1 = exItem 7 := rfl
  rw [this]
  exact ⟨fun k => by unfold exItem; dsimp only; split <;> rfl, Or.inl rfl⟩

/-- a flow 0 = node 1 —next→ node 2, both with the retry configuration of the examples -/
def exEnv : Env :=
  { kind := .canceled,
    arena := fun id => if id = 0 then .flow (some 1) [⟨1, "next", some 2⟩] else .leaf exCfg,
    leafBeh := fun id _ => exScr id,
    batchBeh := fun _ _ => exBatchScr }

-- the hypothesis of `c02Visit_flow_bridge` on it, and its trace: node 1 succeeds at its 2nd attempt, node 2 at its 3rd
example : ∀ n v cfg, exEnv.arena n = .leaf cfg → NoCancel cfg (exEnv.leafBeh n v) := by
  intro n v cfg h
  have hc : cfg = exCfg := by
    simp only [exEnv] at h
    split at h <;> simp at h
    exact h.symm
  subst hc
  exact (ex_hyps n).1
example : execCount ((runNode exEnv 5 0 1 { ctx := .live, visits := fun _ => 0 }).1.filter (fun e => (evKey e).1 == 1)) = 2 ∧
    execCount ((runNode exEnv 5 0 1 { ctx := .live, visits := fun _ => 0 }).1.filter (fun e => (evKey e).1 == 2)) = 3 := by
  decide

/-! ### … and under EVERY schedule of the concurrent executor (`runBatchConcurrent` on the worker pool)

`Flyt.Conc` (Model/BatchConc.lean) is the labelled transition system of the concurrent batch executor:
submitter, task channel, `w` workers, the per-task steps (stop check, context check, retry loop, gated
exec call, fallback, slot store) and cancellation from anywhere, interleaved arbitrarily.
`Reachable c s`: `s` is reachable from `Conc.init c` by any sequence of labels.  `s.log.reverse` is the
sequence of callback events so far (oldest first); `Spec.itemStarts ev i` / `Spec.itemFbs ev i` are the
attempt numbers of item `i`'s exec calls / the number of its fallback calls in it. -/

open Flyt.Proofs.ConcRetry in
/-- **At every moment of every schedule**: the exec calls of item `i` so far are attempts
    `0, 1, …, m-1` in this order, `m ≤ N`, every one of them but the last failed (so none after a
    success: `m ≤ k+1` for the first succeeding attempt `k`), and the item's fallback ran at most once
    — only if the node has one and all `N` attempts had been made and failed. -/
theorem concurrent_item_bounds (c : Conc.Cfg) (s : Conc.BState) (h : Reachable c s) (i : Nat) :
    ∃ m, itemStarts s.log.reverse i = List.range m ∧ m ≤ c.budget ∧
      (∀ j, j + 1 < m → ∃ e, (c.exec i j).res = .error e) ∧
      (∀ k, FirstOk (c.exec i) k → m ≤ min (k + 1) c.budget) ∧
      itemFbs s.log.reverse i ≤ 1 ∧
      (itemFbs s.log.reverse i = 1 → c.fb = .custom ∧ m = c.budget ∧ AllFail (c.exec i) c.budget) :=
  reachable_bounded h i

open Flyt.Proofs.ConcRetry in
/-- **Once the task of item `i` is over, in a run that was not cancelled**: either the item was never
    executed (stop mode skipped it), or exactly the attempts `0 … min (k+1) N - 1` were made, with no
    fallback call when an attempt `k < N` succeeded and exactly one (for a node that has a fallback)
    when all `N` failed — whatever the other items and workers did meanwhile. -/
theorem concurrent_item_exact (c : Conc.Cfg) (s : Conc.BState) (h : Reachable c s) (hnc : s.cancelled = false)
    (i : Nat) (hover : TaskOver s i) :
    itemStarts s.log.reverse i = [] ∨
    ((∀ k, FirstOk (c.exec i) k → itemStarts s.log.reverse i = List.range (min (k + 1) c.budget)) ∧
     (∀ k, FirstOk (c.exec i) k → k < c.budget → itemFbs s.log.reverse i = 0) ∧
     (AllFail (c.exec i) c.budget → itemStarts s.log.reverse i = List.range c.budget ∧
        itemFbs s.log.reverse i = (if c.fb = .custom then 1 else 0))) :=
  reachable_exact h hnc i hover

/-- two items on two workers, budget 2: item 0 fails twice (fallback), item 1 succeeds at once -/
def exConc : Conc.Cfg :=
  { n := 2, w := 2, cap := 4, stop := false, budget := 2, fb := .custom, execS := .any,
    exec := fun i k => if i = 0 then { res := .error k } else { res := .ok (.tok 9) },
    fbOut := fun _ => { res := .ok (.tok 5) }, kind := .canceled }

/-- an interleaved schedule: both tasks are in their exec call at the same time; item 1 returns first -/
def exSchedule : List Conc.Label :=
  [.submit, .submit, .take, .take, .step 0, .step 1, .step 0, .step 1, .step 0, .step 1,
   .ret 1, .ret 0, .step 1, .step 0, .ret 0, .step 0, .step 0, .waitRet]

def runSchedule (c : Conc.Cfg) : List Conc.Label → Conc.BState → Option Conc.BState
  | [], s => some s
  | l :: ls, s => (Conc.apply c s l).bind (runSchedule c ls)

theorem runSchedule_reachable (c : Conc.Cfg) : ∀ (ls : List Conc.Label) (s s' : Conc.BState),
    Flyt.Proofs.ConcRetry.Reachable c s → runSchedule c ls s = some s' → Flyt.Proofs.ConcRetry.Reachable c s'
  | [], s, s', hs, h => by simp [runSchedule] at h; subst h; exact hs
  | l :: ls, s, s', hs, h => by
    simp only [runSchedule] at h
    cases hl : Conc.apply c s l with
    | none => simp [hl] at h
    | some s1 => simp only [hl, Option.bind] at h; exact runSchedule_reachable c ls s1 s' (.step hs hl) h

-- the schedule is a path of the LTS; at its end both tasks are over, nothing was cancelled, and the log shows
-- item 0: attempts 0, 1 and one fallback call; item 1: attempt 0 only
example : ((runSchedule exConc exSchedule (Conc.init exConc)).map fun s =>
    (s.log.reverse, s.cancelled, s.posted, s.next, s.queue, s.running.length)) =
    some ([.start 0 0, .start 1 0, .done 1 0, .done 0 0, .start 0 1, .done 0 1, .fb 0, .post], false, true, 2, [], 0) := by
  rfl

end Flyt.Props.C02
