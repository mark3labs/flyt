import FlytModel.Proofs.L.Payload
import FlytModel.Proofs.L.LeafFacts
import FlytModel.Proofs.L.Styles
import FlytModel.Proofs.L.Visits
/-!
# C17 — Function-style nodes pass values between phases unchanged

Theorems about the function-style adapters (`CustomNode.Prep/Exec/Post`, the Any-style wrappers and the
builder delegation: flyt.go:1116-1162, 1329-1388, builder.go:91-122 — `Flyt.prepRet`, `execArg`,
`execRet`, `postArgs`) and about whole runs through them (`Flyt.runLeaf`, `Flyt.runItem`), for ALL
style combinations (each of prep / exec / post: Result-style `.res`, Any-style `.any`, a method
`.direct`, or not provided), every budget, script and context, and every payload that is not itself a
`flyt.Result` (`Plain`, boundary B2 of DESIGN.md).  Option-built and builder-built nodes are the same
`LeafCfg` (C19 proves the two construction styles equivalent).

Vocabulary (Proofs/L/Payload.lean): `returned s y` the `Result` a function of style `s` returned (a
Result-style function returns a `Result`, the value of any other is wrapped by `NewResult`) ·
`received s r` how a function of style `s` sees the Result `r` (Result-style: `r` itself; Any-style:
`r.Value()`) · `PlainPayloads cfg scr` prep's payload and the exec values are not `flyt.Result`s.
-/
namespace Flyt.Props.C17
open Flyt Flyt.Spec Flyt.Proofs.Attempts Flyt.Proofs.Leaf Flyt.Proofs.LeafSpec Flyt.Proofs.Payload Flyt.Proofs.Item
open Flyt.Proofs.Styles

/-- **The value the prep function returns is the value the exec function receives**: prep of style
    `ps` returns payload `p` (a Result-style function as `NewResult(p)`), `Run` holds `p`, and the exec
    function of style `es` receives `NewResult(p)` — wrapped exactly once — if Result-style, `p` itself
    otherwise. -/
theorem prep_value_reaches_exec (ps es : Style) (p : Val) (hp : Plain p) :
    prepRet ps (match ps with | .res => (newResult p).box | _ => p) = p ∧
    execArg es p = (match es with | .res => (newResult p).box | _ => p) := by
  refine ⟨?_, execArg_plain hp es⟩
  cases ps <;> simp [prepRet, toResult, Val.asResult?, Result.box, newResult, Result.valueOf]

example : Plain (.tok 7) ∧ execArg .res (.tok 7) = .res (.tok 7) none ∧ execArg .any (.tok 7) = .tok 7 := by decide

/-- **The result the exec function returns — its value, or its error state — is what the post
    function receives, never wrapped a second time and never stripped**, for all 16 combinations of
    exec and post style; and post receives the prep payload the same way exec did. -/
theorem exec_result_reaches_post (es ps : Style) (pv y : Val) (h : Plain (returned es y).valueOf) :
    (postArgs ps pv (execRet es y)).2 = received ps (returned es y) ∧
    (postArgs ps pv (execRet es y)).1 = (match ps with | .res => (newResult pv).box | _ => pv) :=
  ⟨postArgs_snd_execRet es ps pv y h, postArgs_fst ps pv _⟩

/-- an **error result** of a Result-style exec function (`NewErrorResult(e)` returned with a nil Go
    error) reaches a Result-style post function as that very Result — `IsError`, the same error,
    wrapped exactly once (the F3 repair) — and an Any-style post function as its `Value()` (nil). -/
theorem error_result_reaches_post (pv : Val) (e : ErrRoot) :
    (postArgs .res pv (execRet .res (newErrorResult e).box)).2 = (newErrorResult e).box ∧
    (postArgs .any pv (execRet .res (newErrorResult e).box)).2 = Val.nil := by
  have h := fun ps => postArgs_snd_execRet .res ps pv (newErrorResult e).box rfl
  exact ⟨by rw [h]; rfl, by rw [h]; rfl⟩

/-- **Result-style and Any-style are interchangeable**: an exec function returning payload `p` as
    `NewResult(p)` (Result-style) and one returning `p` (Any-style / method) hand the same Result to
    post, whatever post's style; a prep function likewise hands the same value to `Run`. -/
theorem styles_interchangeable_adapters (ps : Style) (pv p : Val) (hp : Plain p) :
    (postArgs ps pv (execRet .res (newResult p).box)).2 = (postArgs ps pv (execRet .any p)).2 ∧
    (postArgs ps pv (execRet .any p)).2 = (postArgs ps pv (execRet .direct p)).2 ∧
    prepRet .res (newResult p).box = prepRet .any p := by
  have h1 := postArgs_snd_execRet .res ps pv (newResult p).box (by simpa [returned, toResult_box, valueOf_newResult] using hp)
  have h2 := postArgs_snd_execRet .any ps pv p (by simpa [returned, valueOf_newResult] using hp)
  have h3 := postArgs_snd_execRet .direct ps pv p (by simpa [returned, valueOf_newResult] using hp)
  refine ⟨by rw [h1, h2]; simp [returned, toResult_box], by rw [h2, h3]; simp [returned], ?_⟩
  simp [prepRet, toResult_box, valueOf_newResult]

def exCfg : LeafCfg :=
  { retryable := true, budget := 2, wait := 0, fb := .absent, prepS := .res, execS := .any, postS := .res }
/-- Result-style prep returns `NewResult(tok 7)`; Any-style exec fails once, then returns tok 9 -/
def exScr : LeafScript :=
  { prep := { res := .ok (.res (.tok 7) none) },
    exec := fun k => if k = 0 then { res := .error 1 } else { res := .ok (.tok 9) },
    waitCancel := fun _ => false, fb := { res := .ok (.tok 5) }, post := { res := .ok "done" } }

theorem ex_plain : PlainPayloads exCfg exScr := by
  constructor
  · intro pv h
    have : pv = .tok 7 := by
      have h' : prepValue exCfg exScr = some (.tok 7) := by decide
      rw [h'] at h; cases h; rfl
    subst this; rfl
  · intro k y hy
    have : y = .tok 9 := by
      simp only [exScr] at hy
      split at hy <;> simp at hy
      exact hy.symm
    subst this; rfl

/-- **In every run, every exec attempt receives the prep payload** (a Result-style exec function as
    `NewResult(pv)`, any other as `pv`), where `pv` = the value prep returned (`Value()` of the
    Result for a Result-style prep). -/
theorem run_exec_receives_prep_payload (kind : CtxKind) (n v sid : Nat) (cfg : LeafCfg) (scr : LeafScript)
    (hp : PlainPayloads cfg scr) (n' v' k : Nat) (a : Val)
    (h : Ev.exec n' v' k a ∈ (runLeaf kind n v sid cfg scr .live).1) :
    ∃ pv, prepValue cfg scr = some pv ∧ a = (match cfg.execS with | .res => (newResult pv).box | _ => pv) :=
  leafRun_exec_payload (runLeaf_live_spec kind n v sid cfg scr) hp h

/-- **In every run, post receives the prep payload and — when an attempt (not the fallback) produced
    the result — exactly the Result that attempt's exec function returned**, seen through post's style. -/
theorem run_post_receives_exec_result (kind : CtxKind) (n v sid : Nat) (cfg : LeafCfg) (scr : LeafScript)
    (hp : PlainPayloads cfg scr) (s : Nat) (a b : Val)
    (h : Ev.post n v s a b ∈ (runLeaf kind n v sid cfg scr .live).1) :
    ∃ pv, prepValue cfg scr = some pv ∧
      a = (match cfg.postS with | .res => (newResult pv).box | _ => pv) ∧
      (fbCalls (runLeaf kind n v sid cfg scr .live).1 = [] → cfg.execS ≠ .absent → 1 ≤ cfg.effBudget →
        ∃ k y, execCount (runLeaf kind n v sid cfg scr .live).1 = k + 1 ∧ (scr.exec k).res = .ok y ∧
          b = received cfg.postS (returned cfg.execS y)) :=
  leafRun_post_payload (runLeaf_live_spec kind n v sid cfg scr) hp h

example : PlainPayloads exCfg exScr := ex_plain
-- Result-style prep returned NewResult(tok 7): Any-style exec sees tok 7 (twice: one retry); Result-style
-- post sees NewResult(tok 7) and NewResult(tok 9), each wrapped exactly once
example : (runLeaf .canceled 3 0 1 exCfg exScr .live).1 =
    [.prep 3 0 1, .exec 3 0 0 (.tok 7), .exec 3 0 1 (.tok 7), .post 3 0 1 (.res (.tok 7) none) (.res (.tok 9) none)] := by
  decide

/-! ### any mix of the two styles observes the same payloads

A *base script* `b` says which payloads the user functions return; `encScript cfg b` is that behaviour
written in the styles of `cfg` (a Result-style function returns `NewResult(x)` where `b` says `x`);
`decEv cfg` reads the payload a user function observes out of its argument (`Value()` of the Result
for Result-style); `flatCfg cfg` is the same node with methods instead of functions. -/

/-- **Every style mix, decoded, IS the plain method-style node**: the same callbacks in the same order
    with the same payloads, the same context afterwards and the same outcome — for every
    configuration (budget, wait, fallback, which phases are provided), every base script of plain
    payloads (any exec outcome sequence, cancellations, interrupted waits) and every context. -/
theorem any_style_mix_is_the_method_node (kind : CtxKind) (n v sid : Nat) (cfg : LeafCfg) (b : LeafScript)
    (hb : PlainScript b) (ctx : Ctx) :
    (runLeaf kind n v sid cfg (encScript cfg b) ctx).1.map (decEv cfg) = (runLeaf kind n v sid (flatCfg cfg) b ctx).1 ∧
    (runLeaf kind n v sid cfg (encScript cfg b) ctx).2 = (runLeaf kind n v sid (flatCfg cfg) b ctx).2 :=
  run_flat kind n v sid cfg b hb ctx

/-- **The Result-style and Any-style variants are interchangeable**: two nodes that differ only in the
    style of their prep / exec / post functions observe the same payloads at every callback and end the
    same way (all 8 × 8 pairs of style combinations, and method-style too). -/
theorem styles_interchangeable (kind : CtxKind) (n v sid : Nat) (cfg cfg' : LeafCfg) (b : LeafScript)
    (hsame : flatCfg cfg = flatCfg cfg') (hb : PlainScript b) (ctx : Ctx) :
    (runLeaf kind n v sid cfg (encScript cfg b) ctx).1.map (decEv cfg) =
      (runLeaf kind n v sid cfg' (encScript cfg' b) ctx).1.map (decEv cfg') ∧
    (runLeaf kind n v sid cfg (encScript cfg b) ctx).2 = (runLeaf kind n v sid cfg' (encScript cfg' b) ctx).2 := by
  obtain ⟨h1, h2⟩ := run_flat kind n v sid cfg b hb ctx
  obtain ⟨h1', h2'⟩ := run_flat kind n v sid cfg' b hb ctx
  rw [h1, h2, h1', h2', hsame]
  exact ⟨rfl, rfl⟩

/-- base script of the example: prep hands out tok 7, exec fails once then returns tok 9 -/
def exBase : LeafScript :=
  { prep := { res := .ok (.tok 7) },
    exec := fun k => if k = 0 then { res := .error 1 } else { res := .ok (.tok 9) },
    waitCancel := fun _ => false, fb := { res := .ok (.tok 5) }, post := { res := .ok "done" } }
/-- the opposite style mix of `exCfg` -/
def exCfg' : LeafCfg := { exCfg with prepS := .any, execS := .res, postS := .any }

example : flatCfg exCfg = flatCfg exCfg' := by decide
example : PlainScript exBase :=
  ⟨fun x h => by cases h; rfl,
   fun k x h => by
     simp only [exBase] at h
     split at h <;> simp at h
     subst h; rfl,
   fun x h => by cases h; rfl⟩
-- (res, any, res) and (any, res, any): different wire values, the same payloads
example : (runLeaf .canceled 3 0 1 exCfg' (encScript exCfg' exBase) .live).1 =
    [.prep 3 0 1, .exec 3 0 0 (.res (.tok 7) none), .exec 3 0 1 (.res (.tok 7) none), .post 3 0 1 (.tok 7) (.tok 9)] ∧
  (runLeaf .canceled 3 0 1 exCfg' (encScript exCfg' exBase) .live).1.map (decEv exCfg') =
    [.prep 3 0 1, .exec 3 0 0 (.tok 7), .exec 3 0 1 (.tok 7), .post 3 0 1 (.tok 7) (.tok 9)] ∧
  (runLeaf .canceled 3 0 1 exCfg (encScript exCfg exBase) .live).1.map (decEv exCfg) =
    [.prep 3 0 1, .exec 3 0 0 (.tok 7), .exec 3 0 1 (.tok 7), .post 3 0 1 (.tok 7) (.tok 9)] := by decide

/-- **… inside batches too**: a Result-style and an Any-style exec function of a batch node observe
    the same item payload at every attempt, and the item ends with the same slot / error. -/
theorem batch_styles_interchangeable (kind : CtxKind) (n v : Nat) (cfg : BatchCfg) (i : Nat) (item : Result)
    (b : ItemScript) (ctx : Ctx) (hs : cfg.execS = .res ∨ cfg.execS = .any) :
    (runItem kind n v cfg i item (encItem cfg.execS b) ctx).1.map (decB cfg.execS) =
      (runItem kind n v { cfg with execS := .any } i item b ctx).1 ∧
    (runItem kind n v cfg i item (encItem cfg.execS b) ctx).2 = (runItem kind n v { cfg with execS := .any } i item b ctx).2 :=
  item_flat kind n v cfg i item b ctx hs

/-- **Inside a batch the item is passed as is**: every attempt on item `i` receives the item — the
    `Result` itself for a Result-style exec function, its `Value()` for an Any-style one. -/
theorem batch_item_passed_as_is (kind : CtxKind) (n v : Nat) (cfg : BatchCfg) (i : Nat) (item : Result)
    (scr : ItemScript) :
    (runItem kind n v cfg i item scr .live).1.filter (isBexecOf i) =
      (List.range (bexecCount i (runItem kind n v cfg i item scr .live).1)).map
        (fun k => Ev.bexec n v i k (match cfg.execS with | .any => item.valueOf | _ => item.box)) := by
  have harg : execArg cfg.execS item.box = (match cfg.execS with | .any => item.valueOf | _ => item.box) := by
    cases cfg.execS <;> simp [execArg, Result.box, Val.asResult?]
  rw [runItem_eq]
  obtain ⟨loop, fbs, m, spec⟩ := runItem_spec kind n v cfg i item scr
  rw [(phase_filters spec).2.1, (phase_filters spec).1, harg]

/-- **… and slot `i` is exec's result**: when attempt `k` is the first to succeed, the item's slot is
    exactly the `Result` the exec function returned (Result-style), resp. `NewResult` of the value it
    returned (Any-style). -/
theorem batch_slot_is_exec_result (kind : CtxKind) (n v : Nat) (cfg : BatchCfg) (i : Nat) (item : Result)
    (scr : ItemScript) (hnc : Flyt.Proofs.Item.NoCancel cfg scr) (hS : cfg.execS ≠ .absent)
    (k : Nat) (y : Val) (hk : FirstOk scr.exec k) (hkb : k < cfg.budget) (hy : (scr.exec k).res = .ok y)
    (hplain : Plain (returned cfg.execS y).valueOf) :
    (runItem kind n v cfg i item scr .live).2.2 = .slot (returned cfg.execS y) := by
  rw [runItem_eq]
  obtain ⟨loop, fbs, m, spec⟩ := runItem_spec kind n v cfg i item scr
  simp only [(spec.firstOk hS (itemPhase_noCancel kind n v cfg i item scr hnc) hk hkb hy).2.1, itemResOf,
    slot_execRet cfg.execS y hplain]

-- hypotheses of `batch_slot_is_exec_result`: a Result-style exec function that fails once, then returns
-- `NewResult(tok 9)`: the slot is that Result
def exBatch : BatchCfg :=
  { budget := 2, wait := 0, fb := .passThrough, conc := 0, stop := false, execS := .res, hasPost := true, shape := .anys }
def exItem : ItemScript :=
  { exec := fun k => if k = 0 then { res := .error 1 } else { res := .ok (.res (.tok 9) none) },
    waitCancel := fun _ => false, fb := { res := .ok (.tok 5) } }
example : Flyt.Proofs.Item.NoCancel exBatch exItem ∧ exBatch.execS ≠ .absent ∧ FirstOk exItem.exec 1 ∧ 1 < exBatch.budget ∧
    (exItem.exec 1).res = .ok (.res (.tok 9) none) ∧ Plain (returned exBatch.execS (.res (.tok 9) none)).valueOf :=
  ⟨⟨fun k => by unfold exItem; dsimp only; split <;> rfl, Or.inl rfl⟩, by decide,
   ⟨⟨_, rfl⟩, fun j hj => by
      have : j = 0 := by omega
      subst this
      exact ⟨1, rfl⟩⟩,
   by decide, rfl, by decide⟩
example : (runItem .canceled 2 0 exBatch 0 (newResult (.tok 3)) exItem .live).2.2 = .slot ⟨.tok 9, none⟩ := by decide

theorem c17Visit_bridge (kind : CtxKind) (n v sid : Nat) (cfg : LeafCfg) (scr : LeafScript)
    (hp : PlainPayloads cfg scr) : c17Visit cfg scr (runLeaf kind n v sid cfg scr .live).1 = true :=
  c17Visit_of_leafRun (runLeaf_live_spec kind n v sid cfg scr) hp

/-- … inside flows: every group of the trace of a run of any node (any flow shape, nesting, routing)
    that belongs to a plain / function-style node satisfies `c17Visit` -/
theorem c17Visit_flow_bridge (env : Env) (fuel : Nat) (root : NodeId) (sid : StoreId) (st : RunSt)
    (hp : ∀ n v cfg, env.arena n = .leaf cfg → PlainPayloads cfg (env.leafBeh n v)) :
    ∀ p ∈ segments (noWaits (runNode env fuel root sid st).1), ∀ cfg, env.arena p.1.1 = .leaf cfg →
      c17Visit cfg (env.leafBeh p.1.1 p.1.2) p.2 = true := by
  intro p hmem cfg hcfg
  rw [Flyt.Proofs.Visits.run_segment_leaf hmem hcfg, c17Visit_noWaits]
  exact c17Visit_bridge env.kind p.1.1 p.1.2 sid cfg _ (hp _ _ cfg hcfg)

/-- a flow 0 = node 1 (styles res/any/res) —done→ node 2 (styles any/res/any) -/
def exEnv : Env :=
  { kind := .canceled,
    arena := fun id => if id = 0 then .flow (some 1) [⟨1, "done", some 2⟩] else if id = 1 then .leaf exCfg else .leaf exCfg',
    leafBeh := fun id _ => if id = 1 then encScript exCfg exBase else encScript exCfg' exBase,
    batchBeh := fun _ _ => { prep := { res := .ok [] }, post := { res := .ok "" }, item := fun _ => exItem } }

example : (runNode exEnv 5 0 1 { ctx := .live, visits := fun _ => 0 }).1 =
    [.prep 1 0 1, .exec 1 0 0 (.tok 7), .exec 1 0 1 (.tok 7), .post 1 0 1 (.res (.tok 7) none) (.res (.tok 9) none),
     .prep 2 0 1, .exec 2 0 0 (.res (.tok 7) none), .exec 2 0 1 (.res (.tok 7) none), .post 2 0 1 (.tok 7) (.tok 9)] := by
  decide

end Flyt.Props.C17
