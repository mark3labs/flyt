import FlytModel.Proofs.L.LeafFacts
import FlytModel.Proofs.L.LeafSpec
import FlytModel.Proofs.L.Flow
import FlytModel.Proofs.L.Visits
/-!
# C01 — Node lifecycle: prep once, exec attempts, post at most once, data threaded

Theorems about `Flyt.runLeaf` (model of `flyt.Run` on a non-batch, non-flow node, flyt.go:679-759)
for EVERY node configuration (`LeafCfg`: retryable or not, any budget, any wait, fallback absent /
pass-through / custom, each phase absent / a method / a Result-style function / an Any-style function),
EVERY callback script (prep ok/err, any sequence of exec outcomes, fallback ok/err, post
ok/err/empty action, any payload, any callback cancelling the context, any interrupted wait), EVERY
context, node id, visit number and store — and, through `runNode`, for every such node run as a step
of a flow of any shape.

`1 ≤ cfg.effBudget` (boundary B4 of DESIGN.md: budgets < 1 are outside the statement) is the only
hypothesis of the readable theorems; the closed form `lifecycle` needs none.
Vocabulary (defined in `Proofs/L/Attempts.lean`, `Proofs/L/Leaf.lean`, `Proofs/L/LeafFacts.lean`):
`LeafRun` every way a run can go · `PhaseEnd` the six ways the exec phase ends · `PostEnd` the post
phase · `preEvs` the prep event of the visit · `PrepDone pv` prep handed `pv` to the exec phase ·
`Produced r` an attempt or the fallback returned `r` without error.
-/
namespace Flyt.Props.C01
open Flyt Flyt.Spec Flyt.Proofs.Attempts Flyt.Proofs.Leaf Flyt.Proofs.LeafSpec Flyt.Proofs.Flow Flyt.Proofs.Visits

/-! ### a concrete scenario for the non-vacuity examples
retryable struct node, budget 3, custom fallback; prep returns token 7, attempts 0 and 1 fail,
attempt 2 returns token 9, post returns the empty action. -/
def exCfg : LeafCfg :=
  { retryable := true, budget := 3, wait := 0, fb := .custom, prepS := .direct, execS := .direct, postS := .direct }

def exScr : LeafScript :=
  { prep := { res := .ok (.tok 7) },
    exec := fun k => if k < 2 then { res := .error k } else { res := .ok (.tok 9) },
    waitCancel := fun _ => false,
    fb := { res := .ok (.tok 5) },
    post := { res := .ok "" } }

/-- the same node when every attempt fails: the fallback produces token 5 -/
def exScrFail : LeafScript := { exScr with exec := fun k => { res := .error k } }

/-- **Closed form of every run (no hypothesis).**  On a live context `runLeaf` does one of: prep fails
    (one prep event, its error) · prep cancels the context (one prep event, the context's error) · prep
    hands over `pv`, the retry loop makes `m ≤ effBudget` exec calls numbered `0..m-1` each with argument
    `execArg execS pv` (only wait events between them, all calls but the last failed), the exec phase ends
    in one of the six `PhaseEnd` ways, and post runs (once, last, with the run's store, `pv` and the
    result) iff that end is `ok`. -/
theorem lifecycle (kind : CtxKind) (n v sid : Nat) (cfg : LeafCfg) (scr : LeafScript) :
    LeafRun kind n v sid cfg scr (runLeaf kind n v sid cfg scr .live).1 (runLeaf kind n v sid cfg scr .live).2.2 :=
  runLeaf_live_spec kind n v sid cfg scr

example : runLeaf .canceled 4 0 1 exCfg exScr .live =
    ([.prep 4 0 1, .exec 4 0 0 (.tok 7), .exec 4 0 1 (.tok 7), .exec 4 0 2 (.tok 7), .post 4 0 1 (.tok 7) (.tok 9)],
     .live, .ok "default") := by decide

/-- **A run on a context that is already done invokes no callback** and returns the context's error. -/
theorem done_context_runs_nothing (kind : CtxKind) (n v sid : Nat) (cfg : LeafCfg) (scr : LeafScript) (k : CtxKind) :
    runLeaf kind n v sid cfg scr (.done k) = ([], .done k, .err (.ctx k)) := rfl

/-- **Prep exactly once, first, with the very store given to the run.**  (A node without prep
    callback — `BaseNode.Prep` — has no prep event at all.) -/
theorem prep_exactly_once (kind : CtxKind) (n v sid : Nat) (cfg : LeafCfg) (scr : LeafScript)
    (hp : cfg.prepS ≠ .absent) :
    ∃ rest, (runLeaf kind n v sid cfg scr .live).1 = .prep n v sid :: rest ∧ ∀ e ∈ rest, isPrepEv e = false := by
  obtain ⟨rest, h1, h2⟩ := (lifecycle kind n v sid cfg scr).prep_first
  exact ⟨rest, by simpa [preEvs, hp] using h1, h2⟩

example : exCfg.prepS ≠ .absent := by decide

/-- **Then only exec attempts, then post at most once**: the events of a run are the prep event,
    then nothing but retry-loop events of this visit (waits, exec attempts), then at most one fallback
    call, then at most one post call, which gets the store of the run. -/
theorem phases_in_order (kind : CtxKind) (n v sid : Nat) (cfg : LeafCfg) (scr : LeafScript) :
    ∃ loop fbs posts, (runLeaf kind n v sid cfg scr .live).1 = preEvs n v sid cfg ++ loop ++ fbs ++ posts ∧
      (∀ e ∈ loop, (∃ k f, e = .wait n v k cfg.effWait f) ∨ (∃ k arg, e = .exec n v k arg)) ∧
      (fbs = [] ∨ ∃ arg er, fbs = [.fb n v arg er]) ∧
      (posts = [] ∨ ∃ a b, posts = [.post n v sid a b]) :=
  (lifecycle kind n v sid cfg scr).phases

/-- **Each exec attempt receives exactly the value prep returned**; the attempts are numbered
    `0, 1, 2, …` and there are at most `effBudget` of them.  (`prepValue` = what `Prep` returned to `Run`
    according to the script; `execArg .direct pv = pv`, for function-style nodes see C17.) -/
theorem exec_receives_prep_value (kind : CtxKind) (n v sid : Nat) (cfg : LeafCfg) (scr : LeafScript) :
    (∀ pv, prepValue cfg scr = some pv → ∃ m, m ≤ cfg.effBudget ∧
      (runLeaf kind n v sid cfg scr .live).1.filter isExecEv =
        (List.range m).map (fun k => Ev.exec n v k (execArg cfg.execS pv))) ∧
    (prepValue cfg scr = none → (runLeaf kind n v sid cfg scr .live).1.filter isExecEv = []) :=
  (lifecycle kind n v sid cfg scr).execs

example : prepValue exCfg exScr = some (.tok 7) ∧ execArg exCfg.execS (.tok 7) = .tok 7 := by decide

/-- **Post runs if and only if the exec phase (an attempt or the fallback) produced a result without
    error; it runs at most once, last, and receives the same store, the prep value and that result.** -/
theorem post_iff_exec_produced (kind : CtxKind) (n v sid : Nat) (cfg : LeafCfg) (scr : LeafScript)
    (hb : 1 ≤ cfg.effBudget) :
    ((∃ s a b, Ev.post n v s a b ∈ (runLeaf kind n v sid cfg scr .live).1) ↔
      cfg.postS ≠ .absent ∧ ∃ r, Produced n v cfg scr (runLeaf kind n v sid cfg scr .live).1 r) ∧
    (∀ s a b, Ev.post n v s a b ∈ (runLeaf kind n v sid cfg scr .live).1 →
      s = sid ∧
      (runLeaf kind n v sid cfg scr .live).1.filter isPostEv = [Ev.post n v s a b] ∧
      (runLeaf kind n v sid cfg scr .live).1.getLast? = some (Ev.post n v s a b) ∧
      ∃ pv r, PrepDone cfg scr pv ∧ Produced n v cfg scr (runLeaf kind n v sid cfg scr .live).1 r ∧
        a = (postArgs cfg.postS pv r).1 ∧ b = (postArgs cfg.postS pv r).2) :=
  (lifecycle kind n v sid cfg scr).post hb

example : 1 ≤ exCfg.effBudget := by decide
-- all attempts fail: the fallback's result (token 5) is what post receives
example : (runLeaf .canceled 4 0 1 exCfg exScrFail .live).1 =
    [.prep 4 0 1, .exec 4 0 0 (.tok 7), .exec 4 0 1 (.tok 7), .exec 4 0 2 (.tok 7),
     .fb 4 0 (.tok 7) (.user 2), .post 4 0 1 (.tok 7) (.tok 5)] := by decide

/-- **The run returns post's action (the default action when post returns the empty action, or when
    the node has no post callback) with a nil error — exactly when the exec phase produced a result and
    post did not fail — or an empty action with a non-nil error; never both, never neither.** -/
theorem outcome_action_xor_error (kind : CtxKind) (n v sid : Nat) (cfg : LeafCfg) (scr : LeafScript)
    (hb : 1 ≤ cfg.effBudget) :
    (∃ a, (runLeaf kind n v sid cfg scr .live).2.2 = .ok a ∧ a ≠ "" ∧
        (∃ r, Produced n v cfg scr (runLeaf kind n v sid cfg scr .live).1 r) ∧
        ((cfg.postS = .absent ∧ a = defaultAction) ∨
         (cfg.postS ≠ .absent ∧ ∃ a', scr.post.res = .ok a' ∧ a = norm a'))) ∨
    (∃ e, (runLeaf kind n v sid cfg scr .live).2.2 = .err e ∧
        ¬ ((∃ r, Produced n v cfg scr (runLeaf kind n v sid cfg scr .live).1 r) ∧
           (cfg.postS = .absent ∨ ∃ a', scr.post.res = .ok a'))) :=
  (lifecycle kind n v sid cfg scr).outcome hb

/-- … in particular the outcome is never `(action, error)` and never the model's fuel marker. -/
theorem outcome_never_both (kind : CtxKind) (n v sid : Nat) (cfg : LeafCfg) (scr : LeafScript) (ctx : Ctx) :
    (∀ a e, (runLeaf kind n v sid cfg scr ctx).2.2 ≠ .both a e) ∧ (runLeaf kind n v sid cfg scr ctx).2.2 ≠ .fuel ∧
    (runLeaf kind n v sid cfg scr ctx).2.2 ≠ .ok "" := by
  cases ctx with
  | done k => simp [runLeaf]
  | live =>
    rcases (lifecycle kind n v sid cfg scr).ok_or_err with ⟨a, h, ha⟩ | ⟨e, h⟩
    · rw [h]; simpa using ha
    · rw [h]; simp

/-- a node that does not implement `RetryableNode` (a plain `Node` implementation) has budget 1: the
    hypothesis `1 ≤ effBudget` holds for it whatever it is; for retryable nodes (structs embedding
    `BaseNode`, `CustomNode`s, builders) it says `GetMaxRetries() ≥ 1`. -/
theorem budget_hypothesis (cfg : LeafCfg) : 1 ≤ cfg.effBudget ↔ (cfg.retryable = false ∨ 1 ≤ cfg.budget) := by
  unfold LeafCfg.effBudget
  cases cfg.retryable <;> simp

/-- **A node run as a step of a flow (or as the root) goes through exactly the same lifecycle**:
    `Run` on a leaf of the arena is `runLeaf` with the node's id, its visit number, the flow's store
    and the current context — so every theorem above applies to every step of every flow. -/
theorem inside_flow (env : Env) (fuel : Nat) (id : NodeId) (sid : StoreId) (st : RunSt) (cfg : LeafCfg)
    (h : env.arena id = .leaf cfg) :
    (runNode env (fuel + 1) id sid st).1 =
      (runLeaf env.kind id (st.visits id) sid cfg (env.leafBeh id (st.visits id)) st.ctx).1 ∧
    (runNode env (fuel + 1) id sid st).2.2 =
      (runLeaf env.kind id (st.visits id) sid cfg (env.leafBeh id (st.visits id)) st.ctx).2.2 ∧
    (runNode env (fuel + 1) id sid st).2.1.ctx =
      (runLeaf env.kind id (st.visits id) sid cfg (env.leafBeh id (st.visits id)) st.ctx).2.1 := by
  rw [runNode_leaf env fuel id sid st cfg h]
  exact ⟨rfl, rfl, rfl⟩

theorem lifecycle_inside_flow (env : Env) (fuel : Nat) (id : NodeId) (sid : StoreId) (st : RunSt) (cfg : LeafCfg)
    (h : env.arena id = .leaf cfg) (hl : st.ctx = .live) :
    LeafRun env.kind id (st.visits id) sid cfg (env.leafBeh id (st.visits id))
      (runNode env (fuel + 1) id sid st).1 (runNode env (fuel + 1) id sid st).2.2 := by
  obtain ⟨h1, h2, _⟩ := inside_flow env fuel id sid st cfg h
  rw [h1, h2, hl]
  exact lifecycle _ _ _ _ _ _

/-- **The trace of a run of any node — a flow of any shape, nested to any depth, with loops — is a
    sequence of visits, and each visit of a plain / function-style node is literally a standalone run
    of that node** (`runLeaf` on a live context with the node's id, its visit number, that visit's
    script and the flow's store): prep once, exec attempts, post at most once, as proved above.
    (`VisitSeq`, Proofs/L/Visits.lean; `st.visits` = how often each node has been visited before.) -/
theorem flow_trace_is_visits (env : Env) (fuel : Nat) (id : NodeId) (sid : StoreId) (st : RunSt) :
    VisitSeq env sid st.visits (runNode env fuel id sid st).2.1.visits (runNode env fuel id sid st).1 :=
  (run_visits env sid fuel).1 id st

def exEnv : Env :=
  { kind := .canceled,
    arena := fun id => if id = 0 then .flow (some 1) [⟨1, "default", some 2⟩] else .leaf exCfg,
    leafBeh := fun id _ => if id = 1 then exScr else exScrFail,
    batchBeh := fun _ _ => { prep := { res := .ok [] }, item := fun _ => ⟨fun _ => { res := .ok (.tok 0) }, fun _ => false, { res := .ok (.tok 0) }⟩, post := { res := .ok "" } } }

-- a flow 1 → 2: both steps go through the lifecycle, the second one with its fallback
example : (runNode exEnv 5 0 1 { ctx := .live, visits := fun _ => 0 }).1 =
    [.prep 1 0 1, .exec 1 0 0 (.tok 7), .exec 1 0 1 (.tok 7), .exec 1 0 2 (.tok 7), .post 1 0 1 (.tok 7) (.tok 9),
     .prep 2 0 1, .exec 2 0 0 (.tok 7), .exec 2 0 1 (.tok 7), .exec 2 0 2 (.tok 7), .fb 2 0 (.tok 7) (.user 2),
     .post 2 0 1 (.tok 7) (.tok 5)] := by decide

/-! ### bridge to the executable predicates the driver evaluates (`Spec.c01Visit`, `Spec.c01Outcome`)

`PrepCancelVisible`: the predicates read "no exec event" as "exec phase skipped with result nil" for
nodes without exec phase; a prep that cancels the context of such a node is outside their domain. -/

theorem c01Visit_bridge (kind : CtxKind) (n v : Nat) (cfg : LeafCfg) (scr : LeafScript)
    (hA : PrepCancelVisible cfg scr) :
    c01Visit cfg scr n v (runLeaf kind n v 0 cfg scr .live).1 = true :=
  c01Visit_of_leafRun (lifecycle kind n v 0 cfg scr) hA

theorem c01Outcome_bridge (kind : CtxKind) (n v : Nat) (cfg : LeafCfg) (scr : LeafScript)
    (hA : PrepCancelVisible cfg scr) :
    c01Outcome cfg scr (runLeaf kind n v 0 cfg scr .live).1 (runLeaf kind n v 0 cfg scr .live).2.2 = true :=
  c01Outcome_of_leafRun (lifecycle kind n v 0 cfg scr) hA

example : PrepCancelVisible exCfg exScr ∧ PrepCancelVisible exCfg exScrFail := by
  unfold PrepCancelVisible; decide

/-- **… and inside flows: every group `Spec.segments` cuts the (wait-free) trace of a run of any node
    into — which is how the driver applies `c01Visit` — that belongs to a plain / function-style node
    satisfies the predicate**, whatever the flow's shape, nesting and routing. -/
theorem c01Visit_flow_bridge (env : Env) (fuel : Nat) (root : NodeId) (st : RunSt)
    (hA : ∀ n v cfg, env.arena n = .leaf cfg → PrepCancelVisible cfg (env.leafBeh n v)) :
    ∀ p ∈ segments (noWaits (runNode env fuel root 0 st).1), ∀ cfg, env.arena p.1.1 = .leaf cfg →
      c01Visit cfg (env.leafBeh p.1.1 p.1.2) p.1.1 p.1.2 p.2 = true := by
  intro p hp cfg hcfg
  rw [run_segment_leaf hp hcfg, c01Visit_noWaits]
  exact c01Visit_bridge env.kind p.1.1 p.1.2 cfg _ (hA _ _ cfg hcfg)

example : ∀ n v cfg, exEnv.arena n = .leaf cfg → PrepCancelVisible cfg (exEnv.leafBeh n v) := by
  intro n v cfg h
  have hc : cfg = exCfg := by
    simp only [exEnv] at h
    split at h <;> simp at h
    exact h.symm
  subst hc
  simp only [exEnv]
  split <;> (unfold PrepCancelVisible; decide)

/-- a node run on its own whose trace is not empty: the driver sees exactly one group, the run itself -/
theorem root_leaf_single_segment (kind : CtxKind) (n v sid : Nat) (cfg : LeafCfg) (scr : LeafScript)
    (hne : noWaits (runLeaf kind n v sid cfg scr .live).1 ≠ []) :
    segments (noWaits (runLeaf kind n v sid cfg scr .live).1) = [((n, v), noWaits (runLeaf kind n v sid cfg scr .live).1)] := by
  have := segments_append_uniform (n, v) _ [] hne
    (fun e he => (lifecycle kind n v sid cfg scr).keys e (List.mem_filter.mp he).1) (by simp)
  simpa [segments] using this

end Flyt.Props.C01
