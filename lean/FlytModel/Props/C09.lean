import FlytModel.Proofs.BatchSeq
import FlytModel.Proofs.BatchConc
import FlytModel.Proofs.BatchBridge
import FlytModel.Proofs.BatchGated
/-!
# C09 — Stop-on-error halts the batch; unprocessed items are never reported as successes

Sequential / serial layer: closed form of the stop-mode loop, and the "never run ⇒ error slot" clause in EVERY
mode, with or without cancellation. Concurrent layer: invariants of every reachable state of the LTS.
-/
namespace Flyt.Props.C09
open Flyt Flyt.BatchSeq

/-- **Stop mode: after the first failing item nothing is executed.** If `f` is the first item whose
    processing returns an error (items before it succeed), then — sequentially AND on the pool's serial
    schedule (one worker) — the events are exactly those of items `0..f`, so no `bexec i` with `i > f` exists;
    slot `f` holds the error; every later slot holds the "batch stopped" error. -/
theorem stop_halts_after_first_failure (kind : CtxKind) (n : NodeId) (v : Nat) (cfg : BatchCfg) (scr : BatchScript)
    (hs : cfg.stop = true) (hq : ∀ j, Quiet (scr.item j)) (items : List Result) (f : Nat) (hf : f < items.length)
    (e : ErrRoot) (hfail : (runItem kind n v cfg f items[f] (scr.item f) .live).2.2 = .error e)
    (hpre : ∀ j (hj : j < f), ∃ s, (runItem kind n v cfg j (items[j]'(by omega)) (scr.item j) .live).2.2 = .slot s) :
    let r := itemsSeq kind n v cfg scr items 0 .live
    itemsSerialPool kind n v cfg scr items 0 false .live = r ∧
    (∀ ev ∈ r.1, ∃ j, evItem ev = some j ∧ j ≤ f) ∧
    r.2.2[f]? = some (newErrorResult e) ∧
    (∀ j, f < j → j < items.length → r.2.2[j]? = some BatchSeq.stoppedSlot) ∧
    r.2.2.length = items.length := by
  intro r
  have hclosed := itemsSeq_stop kind n v cfg scr hs hq items 0 f hf ⟨e, by simpa using hfail⟩
    (fun j hj => by simpa using hpre j hj)
  have hlen : (itemRuns kind n v cfg scr (items.take (f + 1)) 0).length = f + 1 := by
    rw [itemRuns_length, List.length_take]; omega
  refine ⟨itemsSerialPool_eq_seq _ _ _ _ _ _ _ _, ?_, ?_, ?_, itemsSeq_length _ _ _ _ _ _ _ _⟩
  · intro ev hev
    obtain ⟨j, hj, _⟩ := itemsSeq_evItem kind n v cfg scr items 0 .live ev hev
    refine ⟨j, hj, Nat.le_of_not_lt fun hjf => ?_⟩
    -- the closed form has no run, hence no event, of an item beyond `f`
    have hmem : ev ∈ itemEvents j r.1 := List.mem_filter.2 ⟨hev, by simp [hj]⟩
    have hnone := itemEvents_itemRuns kind n v cfg scr (items.take (f + 1)) 0 j
    rw [Nat.zero_add, List.getElem?_eq_none (by rw [hlen]; omega)] at hnone
    simp only [r, hclosed, hnone] at hmem
    cases hmem
  · simp only [r, hclosed]
    rw [List.getElem?_append_left (by simp [hlen]), List.getElem?_map,
      itemRuns_getElem? kind n v cfg scr (items.take (f + 1)) 0 f]
    simp [hf, hfail]
  · intro j hj1 hj2
    simp only [r, hclosed]
    have hlen' : ((itemRuns kind n v cfg scr (items.take (f + 1)) 0).map (fun r => slotOfRes r.2.2)).length = f + 1 := by
      rw [List.length_map, hlen]
    rw [List.getElem?_append_right (by rw [hlen']; omega), hlen', List.getElem?_replicate]
    rw [if_pos (by omega)]

/-- **Every mode, with or without cancellation: an item that never ran is never presented as a success.**
    For a node with an exec function and a retry budget ≥ 1: if no event of the item loop carries index `j`,
    slot `j` is an error. (Equivalently: a non-error slot belongs to an item that was executed.) -/
theorem never_run_never_success (kind : CtxKind) (n : NodeId) (v : Nat) (cfg : BatchCfg) (scr : BatchScript)
    (hb : 0 < cfg.budget) (hex : cfg.execS ≠ .absent) (items : List Result) (ctx : Ctx) (j : Nat) (hj : j < items.length)
    (hnever : itemEvents j (itemsSeq kind n v cfg scr items 0 ctx).1 = []) :
    ∃ r, (itemsSeq kind n v cfg scr items 0 ctx).2.2[j]? = some r ∧ r.isError = true := by
  have := itemsSeq_own kind n v cfg scr items 0 ctx j hj
  rw [Nat.zero_add] at this
  exact Bridge.own_unexecuted_isError n v hb hex this hnever

/-- … and a slot that is not one of the two "never processed" error markers is the outcome of `runItem` on that
    very item's own script, whose events are in the trace: the real outcome of executing that item. -/
theorem slot_is_real_outcome_or_error (kind : CtxKind) (n : NodeId) (v : Nat) (cfg : BatchCfg) (scr : BatchScript)
    (items : List Result) (ctx : Ctx) (j : Nat) (hj : j < items.length) :
    ((itemsSeq kind n v cfg scr items 0 ctx).2.2[j]? =
        some (slotOfRes (runItem kind n v cfg j items[j] (scr.item j) .live).2.2) ∧
      itemEvents j (itemsSeq kind n v cfg scr items 0 ctx).1 = (runItem kind n v cfg j items[j] (scr.item j) .live).1) ∨
    (∃ r, (itemsSeq kind n v cfg scr items 0 ctx).2.2[j]? = some r ∧ r.isError = true) := by
  have := itemsSeq_own kind n v cfg scr items 0 ctx j hj
  simp only [Nat.zero_add] at this
  rcases this with ⟨h1, h2⟩ | ⟨_, r, h2, hm⟩
  · exact .inl ⟨h2, h1⟩
  · exact .inr ⟨r, h2, isMarker_isError hm⟩

/-- **Stop mode with arbitrary scripts (cancellation included): nothing is executed after a final failure.** A
    *final failure* is an exec call that the item's own script makes fail on its last attempt with no successful
    fallback (`Spec.isFinalFailure`). In the item loop — sequential, or the pool's serial schedule — no exec call of
    ANY item follows such a call. -/
theorem stop_mode_nothing_after_final_failure (kind : CtxKind) (n : NodeId) (v : Nat) (cfg : BatchCfg) (scr : BatchScript)
    (nn : Nat) (hs : cfg.stop = true) (items : List Result) (ctx : Ctx) (pre post : List Ev) (e : Ev)
    (hsplit : (itemsSeq kind n v cfg scr items 0 ctx).1 = pre ++ e :: post)
    (hff : Bridge.ffEv (Bridge.concCfgOf kind cfg scr nn) e = true) : ∀ x ∈ post, isBexec x = false := by
  have h := Bridge.itemsSeq_ff n v (Bridge.agrees_concCfgOf kind cfg scr nn) hs items 0 ctx
  rw [hsplit] at h
  exact Bridge.qafter_split h hff

/-- **Bridge (sequential families).** `Spec.c09` — both clauses — on `runBatch`'s own observation, evaluated as
    `Driver.FlowFam.judgeBatchRoot` does, for every context and script whose prep succeeds. -/
theorem spec_c09_holds_seq (kind : CtxKind) (n : NodeId) (v : Nat) (sid : StoreId) (cfg : BatchCfg) (scr : BatchScript)
    (ctx : Ctx) (l : List Val) (hp : scr.prep.res = .ok l) (hpost : cfg.hasPost = true) (hex : cfg.execS ≠ .absent)
    (hb : 0 < cfg.budget) :
    Spec.c09 (Bridge.concCfgOf kind cfg scr (normItems cfg.shape l).length)
      (Bridge.batchViewOf (runBatch kind n v sid cfg scr ctx).1 (runBatch kind n v sid cfg scr ctx).2.2) = true := by
  rw [Bridge.batchViewOf_runBatch n v sid ctx hp hpost]
  have ag := Bridge.agrees_concCfgOf kind cfg scr (normItems cfg.shape l).length
  simp only [Spec.c09, Bool.and_eq_true, Bool.or_eq_true, Bool.not_eq_true']
  refine ⟨Bridge.itemsSeq_slotMatches n v ag hex hb _ _ rfl, ?_⟩
  cases hs : cfg.stop with
  | false => exact .inl hs
  | true => exact .inr (Bridge.c09_order_of_quiet (Bridge.itemsSeq_ffObs n v ag hs _ 0 _) fun _ => rfl)

/-! ### non-vacuity: 5 items, item 2 fails, stop mode, sequential (the F1 scenario) -/

def exCfg : BatchCfg :=
  { budget := 1, wait := 0, fb := .passThrough, conc := 0, stop := true, execS := .any, hasPost := true, shape := .anys }

def exScr : BatchScript :=
  { prep := { res := .ok [.tok 1, .tok 2, .tok 3, .tok 4, .tok 5] },
    item := fun i =>
      { exec := fun _ => if i = 2 then { res := .error 7 } else { res := .ok (.tok (100 + i)) },
        waitCancel := fun _ => false, fb := { res := .error 0 } },
    post := { res := .ok "" } }

example : ∀ j, Quiet (exScr.item j) := by
  intro j; refine ⟨fun k => ?_, fun _ => rfl, rfl⟩
  simp only [exScr]; split <;> rfl
example : exCfg.stop = true ∧ exCfg.hasPost = true ∧ exCfg.execS ≠ .absent ∧ 0 < exCfg.budget := by decide
example : (runItem .canceled 0 0 exCfg 2 (newResult (.tok 3)) (exScr.item 2) .live).2.2 = .error (.user 7) := by decide
example : (runItem .canceled 0 0 exCfg 0 (newResult (.tok 1)) (exScr.item 0) .live).2.2 = .slot (newResult (.tok 100)) ∧
    (runItem .canceled 0 0 exCfg 1 (newResult (.tok 2)) (exScr.item 1) .live).2.2 = .slot (newResult (.tok 101)) := by decide
example : Bridge.ffEv (Bridge.concCfgOf .canceled exCfg exScr 5) (.bexec 0 0 2 0 (.tok 3)) = true := by decide
example : (runBatch .canceled 0 0 0 exCfg exScr .live).1 =
    [.bprep 0 0 0, .bexec 0 0 0 0 (.tok 1), .bexec 0 0 1 0 (.tok 2), .bexec 0 0 2 0 (.tok 3),
     .bpost 0 0 0 [.res (.tok 1) none, .res (.tok 2) none, .res (.tok 3) none, .res (.tok 4) none, .res (.tok 5) none]
       [.res (.tok 100) none, .res (.tok 101) none, .res (.tok 0) (some (.user 7)),
        .res (.tok 0) (some (.fw .batchStopped)), .res (.tok 0) (some (.fw .batchStopped))]] := by decide

open Flyt.Conc Flyt.Spec

/-- **Once `shouldStop` is set (stop mode) no task passes the stop check, and the only exec calls that still
    start belong to tasks that had already passed it** — for every continuation of every schedule. Since those
    tasks are held by workers, there are at most `running.length ≤ w` of them. -/
theorem after_failure_only_committed_items_run {c : Cfg} {s s' : BState} (hr : Reachable c s) (hp : Path c s s')
    (hstop : c.stop = true) (hs : s.shouldStop = true) :
    s'.shouldStop = true ∧ (∀ j, pastStopCheck s' j → pastStopCheck s j) ∧
    (∃ new, s'.log = new ++ s.log ∧ ∀ j k, .start j k ∈ new → pastStopCheck s j ∧ j ∈ ids s) ∧
    (ids s).length ≤ c.w ∧ (ids s).Nodup := by
  obtain ⟨h1, h2, new, h3, h4⟩ := after_stop hp hstop hs
  refine ⟨h1, h2, ⟨new, h3, fun j k hjk => ⟨h4 j k hjk, ?_⟩⟩, ?_, ?_⟩
  · obtain ⟨q, hq, _⟩ := h4 j k hjk
    exact List.mem_map.2 ⟨_, hq, rfl⟩
  · have := (inv_reachable hr).workers
    simp only [ids, List.length_map]; omega
  · exact (List.nodup_append.1 (inv_reachable hr).nodup).2.1

/-- **The failing task's store step raises the flag and frees its worker**: afterwards at most `w - 1` tasks —
    those already picked up by the other `w - 1` workers — are in flight, and only they can still start.
    "Failing" = the task's `runExecWithRetries` returned an ERROR (program counter `.store r true`; batch.go raises
    `shouldStop` under `if err != nil`), which `failed_task_meaning` below spells out in terms of the item's script —
    NOT merely "the slot is an error Result" (see `error_result_value_does_not_stop`). -/
theorem failing_item_raises_stop {c : Cfg} {s s1 : BState} {i : Nat} {r : Result} (hr : Reachable c s) (hstop : c.stop = true)
    (hpc : pcOf s i = some (.store r true)) (h : apply c s (.step i) = some s1) :
    s1.shouldStop = true ∧ (ids s1).length + 1 ≤ c.w ∧ s1.slots = setSlot s.slots i r ∧
    ∀ s', Path c s1 s' → ∃ new, s'.log = new ++ s1.log ∧ ∀ j k, .start j k ∈ new → j ∈ ids s1 := by
  have hw := (inv_trans (inv_reachable hr) (trans_of_apply h)).workers
  simp only [apply, hpc, Option.some.injEq] at h
  subst h
  have a : (finish { s with slots := setSlot s.slots i r, shouldStop := s.shouldStop || (true && c.stop) } i).shouldStop
      = true := by simp [hstop]
  refine ⟨a, by simp only [finish_idle] at hw; simp only [ids, List.length_map]; omega, rfl, fun s' hp => ?_⟩
  obtain ⟨_, _, new, h3, h4⟩ := after_stop hp hstop a
  refine ⟨new, h3, fun j k hjk => ?_⟩
  obtain ⟨q, hq, _⟩ := h4 j k hjk
  exact List.mem_map.2 ⟨_, hq, rfl⟩

/-- **What "the task failed" means, every schedule.** A task of a reachable state that is about to store `r` with the
    flag `failed`: `r` is explained by the item's own script and events (`LoopEnd`); a failed task stores an ERROR
    Result; and `failed = true` exactly when the item's retry loop was cut by cancellation before an attempt
    `k < budget`, or all `budget ≥ 1` attempts failed and there is no custom fallback / the fallback failed too
    (i.e. the last exec call was a `Spec.isFinalFailure`, or the loop was cancelled). -/
theorem failed_task_meaning {c : Cfg} {s : BState} {i : Nat} {r : Result} {failed : Bool} (hr : Reachable c s)
    (hpc : pcOf s i = some (.store r failed)) :
    LoopEnd c s.cancelled (hist s) i r failed ∧ (failed = true → r.isError = true) ∧
    (failed = true ↔
      ((s.cancelled = true ∧ ∃ k, k < c.budget ∧ itemDones (hist s) i = List.range k ∧ AllErr c i k ∧
          itemFbs (hist s) i = 0 ∧ r = newErrorResult (.ctx c.kind)) ∨
       (0 < c.budget ∧ itemDones (hist s) i = List.range c.budget ∧ AllErr c i c.budget ∧
          ((c.fb = .custom ∧ ∃ e', (c.fbOut i).res = .error e' ∧ r = newErrorResult (.user e')) ∨
           (c.fb ≠ .custom ∧ ∃ e, (c.exec i (c.budget - 1)).res = .error e ∧ r = newErrorResult (.user e)))))) := by
  have hl : LoopEnd c s.cancelled (hist s) i r failed := (logInv_reachable hr).running _ _ (pcOf_mem hpc)
  exact ⟨hl, fun hf => by subst hf; exact hl.failed_isError, hl.failed_iff⟩

/-- **An error *Result* returned as a value (nil error) fills the slot but does not stop the batch** — in either
    mode the store step of a task whose processing returned a value leaves `shouldStop` exactly as it was. -/
theorem error_result_value_does_not_stop {c : Cfg} {s s1 : BState} {i : Nat} {r : Result}
    (hpc : pcOf s i = some (.store r false)) (h : apply c s (.step i) = some s1) :
    s1.shouldStop = s.shouldStop ∧ s1.slots = setSlot s.slots i r ∧ s1.log = s.log := by
  simp only [apply, hpc, Option.some.injEq] at h
  subst h
  exact ⟨by simp, rfl, rfl⟩

/-- … counted: after the failing task has stored its result, the items that still start an exec call are at most
    `w - 1` — at most one per other worker. -/
theorem at_most_one_new_item_per_other_worker {c : Cfg} {s s1 s' : BState} {i : Nat} {r : Result} (hr : Reachable c s)
    (hstop : c.stop = true) (hpc : pcOf s i = some (.store r true))
    (h : apply c s (.step i) = some s1) (hp : Path c s1 s') (new : List Obs) (hnew : s'.log = new ++ s1.log)
    (L : List Nat) (hL : L.Nodup) (hstarted : ∀ j ∈ L, ∃ k, .start j k ∈ new) : L.length + 1 ≤ c.w := by
  obtain ⟨_, b, _, d⟩ := failing_item_raises_stop hr hstop hpc h
  obtain ⟨new', h3, h4⟩ := d s' hp
  have : new' = new := List.append_cancel_right (h3.symm.trans hnew)
  subst this
  have := hL.length_le_of_subset (l₂ := ids s1) fun j hj => by
    obtain ⟨k, hk⟩ := hstarted j hj
    exact h4 j k hk
  omega

/-- **One worker (or sequential): no item after the failing one is executed at all.** -/
theorem one_worker_nothing_runs_after_failure {c : Cfg} {s s1 s' : BState} {i : Nat} {r : Result} (hr : Reachable c s)
    (hw : c.w = 1) (hstop : c.stop = true) (hpc : pcOf s i = some (.store r true))
    (h : apply c s (.step i) = some s1) (hp : Path c s1 s') :
    ∃ new, s'.log = new ++ s1.log ∧ ∀ j k, .start j k ∉ new := by
  obtain ⟨_, b, _, d⟩ := failing_item_raises_stop hr hstop hpc h
  obtain ⟨new, h3, h4⟩ := d s' hp
  refine ⟨new, h3, fun j k hjk => ?_⟩
  have := h4 j k hjk
  have hl : (ids s1).length = 0 := by omega
  rw [List.length_eq_zero_iff.1 hl] at this
  simp at this

/-- in stop mode with the flag set, a task at the stop check ends with the "batch stopped" ERROR slot
    (never a zero, success-looking one) and logs nothing -/
theorem stopped_task_gets_error {c : Cfg} {s s' : BState} {i : Nat} (hstop : c.stop = true) (hs : s.shouldStop = true)
    (hpc : pcOf s i = some .stopCheck) (h : apply c s (.step i) = some s') :
    s'.slots = setSlot s.slots i Conc.stoppedSlot ∧ Conc.stoppedSlot.isError = true ∧ i ∉ ids s' ∧ s'.log = s.log := by
  simp only [apply, hpc, hs, hstop, and_self, if_true, Option.some.injEq] at h
  subst h
  refine ⟨rfl, rfl, ?_, rfl⟩
  rw [ids_finish]; simp

/-- **Every mode, every schedule: never executed ⇒ error slot.** In every reachable state, a written slot whose
    item never started an exec call holds an error. -/
theorem never_executed_slot_is_error {c : Cfg} {s : BState} (hr : Reachable c s) (hex : c.execS ≠ .absent)
    (hb : 0 < c.budget) {i : Nat} {r : Result} (h : s.slots[i]? = some (some r))
    (hnever : ∀ k, .start i k ∉ hist s) : r.isError = true :=
  origin_unexecuted_isError ((logInv_reachable hr).slots i r h) hex hb hnever

/-- **Every mode, every schedule: a success-looking slot is the item's real outcome.** If slot `i` does not hold
    an error, then item `i` was executed: an exec attempt `k` of item `i` started and returned (both events are in
    the history) with exactly that value, or its fallback was called and returned exactly that value. -/
theorem ok_slot_is_real_outcome {c : Cfg} {s : BState} (hr : Reachable c s) (hex : c.execS ≠ .absent)
    (hb : 0 < c.budget) {i : Nat} {r : Result} (h : s.slots[i]? = some (some r)) (hok : r.isError = false) :
    (∃ k x, .start i k ∈ hist s ∧ .done i k ∈ hist s ∧ (c.exec i k).res = .ok x ∧ r = slotOfVal (execRet c.execS x)) ∨
    (∃ x, .fb i ∈ hist s ∧ c.fb = .custom ∧ (c.fbOut i).res = .ok x ∧ r = slotOfVal x) :=
  origin_success ((logInv_reachable hr).slots i r h) hex hb hok

/-- **Bridge (per-slot clause of `Spec.c09`, also used by `c06`/`c07`/`c11`).** Every written slot of every
    reachable state passes the driver's `slotMatches` check. -/
theorem spec_slotMatches_holds {c : Cfg} {s : BState} (hr : Reachable c s) (hex : c.execS ≠ .absent) (hb : 0 < c.budget)
    {i : Nat} {r : Result} (h : s.slots[i]? = some (some r)) : slotMatches c (hist s) i r = true :=
  origin_slotMatches ((logInv_reachable hr).slots i r h) hex hb

/-- **Every schedule (not only gated ones).** `Spec.c09` on the LTS observation right after post: the per-slot clause
    always, the whole predicate in continue mode. (The ordering clause in stop mode is NOT an invariant of all
    schedules — see `exConcRace` below — it is proved for the gated schedules in `spec_c09_holds_gated`.) -/
theorem spec_c09_holds_partial {c : Cfg} {s s' : BState} (items : List Val) (hr : Reachable c s) (hex : c.execS ≠ .absent)
    (hb : 0 < c.budget) (hw : apply c s .waitRet = some s') :
    ((List.range c.n).all fun i =>
        slotMatches c (viewOf s' items).events i ((viewOf s' items).slots.getD i default)) = true ∧
    (c.stop = false → Spec.c09 c (viewOf s' items) = true) := by
  have hp : s'.posted = true := (waitRet_inv hw).2.2.2.2 ▸ rfl
  have h1 := viewOf_slotMatches items (hr.step ⟨_, hw⟩) hp hex hb
  refine ⟨h1, fun hstop => ?_⟩
  simp only [Spec.c09, Bool.and_eq_true, hstop]
  exact ⟨h1, rfl⟩

/-- **Key lemma: the states the gated simulation visits are quiescent.** With enough fuel (`Conc.measure` of the
    initial state; the driver's fuel is enough, `driver_fuel_is_enough`) every state of `simulate` — after start-up
    and after each decision — has nothing internal left to do, and every task held by a worker is parked inside
    its exec callback: none is at `stopCheck` / `ctxCheck` / `loopTop` / `store`. Every mode. -/
theorem gated_states_quiescent {c : Cfg} {fuel : Nat} {ds : List Decision} {sts : List BState}
    (hfuel : Conc.measure c (init c) ≤ fuel) (h : simulate c fuel ds = some sts) {s : BState} (hs : s ∈ sts) :
    nextInternal c s = none ∧ ∀ i pc, pcOf s i = some pc → ∃ k, pc = .inExec k := by
  obtain ⟨_, h1, _⟩ := Gated.simulate_atRest hfuel h s hs
  exact ⟨h1, fun i pc hpc => Gated.quiescent_pc (Gated.quiescent_of_nextInternal_none h1) hpc⟩

/-- the fuel `Driver/BatchFam.lean` hands to `simulate` (`50 * (n + 2) * (budget + 2) + 100`) is enough -/
theorem driver_fuel_is_enough (c : Cfg) : Conc.measure c (init c) ≤ 50 * (c.n + 2) * (c.budget + 2) + 100 :=
  Gated.driver_fuel_adequate c

/-- **Gated schedules, stop mode: no new item starts after a final failure.** In the log of every state of the gated
    simulation, no `start j 0` event follows a `done i k` event that is a final failure of item `i`
    (`Spec.isFinalFailure`: last attempt, failed, no successful fallback) — the released task runs to its store step,
    raises `shouldStop` and returns before any other task leaves the queue; whatever is taken afterwards is stopped
    at the stop check. Cancellation at any point included. -/
theorem gated_no_new_item_after_final_failure {c : Cfg} {fuel : Nat} {ds : List Decision} {sts : List BState}
    (hstop : c.stop = true) (hfuel : Conc.measure c (init c) ≤ fuel) (h : simulate c fuel ds = some sts)
    {s : BState} (hs : s ∈ sts) (p : Nat) (hp : p < (hist s).length) {i k : Nat} (hev : (hist s)[p] = .done i k)
    (hff : isFinalFailure c i k = true) : ∀ j, Obs.start j 0 ∉ (hist s).drop (p + 1) := by
  intro j hj
  have hq := ((Gated.simulate_atRest hfuel h s hs).2.2 hstop).quiet
  have := Bridge.qafter_drop _ _ _ hq p hp (by rw [hev]; exact hff) _ hj
  simp [Gated.isStart0] at this

/-- **Bridge (gated family `gbatch`) — the full predicate.** `Spec.c09` — the per-slot clause AND the ordering clause,
    in both error-handling modes, with or without cancellation — holds of the model's observation (the LTS's own log
    as the event list, as in `C06.spec_c06_holds` / `C11.spec_c11_holds`) in every state of the gated simulation in
    which post has run; nodes with an exec function and a retry budget ≥ 1. -/
theorem spec_c09_holds_gated {c : Cfg} {fuel : Nat} {ds : List Decision} {sts : List BState} (items : List Val)
    (hfuel : Conc.measure c (init c) ≤ fuel) (h : simulate c fuel ds = some sts) (hex : c.execS ≠ .absent)
    (hb : 0 < c.budget) {s : BState} (hs : s ∈ sts) (hp : s.posted = true) :
    Spec.c09 c (viewOf s items) = true := by
  obtain ⟨hr, _, hG⟩ := Gated.simulate_atRest hfuel h s hs
  simp only [Spec.c09, Bool.and_eq_true, Bool.or_eq_true, Bool.not_eq_true']
  refine ⟨viewOf_slotMatches items hr hp hex hb, ?_⟩
  cases hstop : c.stop with
  | false => exact .inl rfl
  | true => exact .inr (Bridge.c09_order_of_quiet (hG hstop).quiet fun _ => rfl)

def exConcRace : Cfg :=
  { n := 2, w := 2, cap := 4, stop := true, budget := 1, fb := .passThrough, execS := .any,
    exec := fun i _ => if i = 0 then { res := .error 5 } else { res := .ok (.tok (100 + i)) },
    fbOut := fun _ => { res := .error 0 }, kind := .canceled }

/-
`Spec.c09`'s ordering clause ("no new item after a final failure's `done` event") is NOT an invariant of all
schedules of the LTS, and is not claimed: between the return of the failing exec call and the critical section in
which its task sets `shouldStop`, another worker may legitimately pass the stop check (the property text says "once
an item has failed no further item is started *by the worker that observed it*"). The statement that holds for
every schedule is `after_failure_only_committed_items_run` above (anchored at `shouldStop = true`); the driver
evaluates `c09` on gated runs, where the failing task finishes before the next quiescent point
(`gated_no_new_item_after_final_failure`, `spec_c09_holds_gated`). The schedule below is a non-gated interleaving: item 1 starts after `done 0 0` was logged, before task 0 has stored its result.
-/
example : (do
    let s ← apply exConcRace (init exConcRace) .submit
    let s ← apply exConcRace s .submit
    let s ← apply exConcRace s .take
    let s ← apply exConcRace s .take
    let s ← apply exConcRace s (.step 0); let s ← apply exConcRace s (.step 0); let s ← apply exConcRace s (.step 0)
    let s ← apply exConcRace s (.ret 0)                       -- exec of item 0 returns its error
    let s ← apply exConcRace s (.step 1); let s ← apply exConcRace s (.step 1); let s ← apply exConcRace s (.step 1)
    pure (s.log.reverse, s.shouldStop)) = some ([.start 0 0, .done 0 0, .start 1 0], false) := by decide

/-! ### non-vacuity: 4 items, 2 workers, stop mode; item 0 fails while item 1 is parked in its exec call:
item 1 (already picked up) still finishes, items 2 and 3 get the "batch stopped" error -/

def exConc : Cfg :=
  { n := 4, w := 2, cap := 4, stop := true, budget := 1, fb := .passThrough, execS := .any,
    exec := fun i _ => if i = 0 then { res := .error 5 } else { res := .ok (.tok (100 + i)) },
    fbOut := fun _ => { res := .error 0 }, kind := .canceled }

example : ((simulate exConc 300 [.release 0, .release 1]).map fun sts =>
      sts.map fun s => (s.slots, s.shouldStop, parked s)) =
    some [([none, none, none, none], false, [(0, 0), (1, 0)]),
          ([some (newErrorResult (.user 5)), none, some (newErrorResult (.fw .batchStopped)),
            some (newErrorResult (.fw .batchStopped))], true, [(1, 0)]),
          ([some (newErrorResult (.user 5)), some (newResult (.tok 101)), some (newErrorResult (.fw .batchStopped)),
            some (newErrorResult (.fw .batchStopped))], true, [])] := by decide

-- the hypotheses of `spec_c09_holds_gated` / `gated_no_new_item_after_final_failure` on this run: enough fuel (also with
-- the driver's formula), post has run in the last state, and the log does contain a final failure followed by events
example : Conc.measure exConc (init exConc) ≤ 300 ∧ exConc.stop = true := by decide
example : ((simulate exConc 300 [.release 0, .release 1]).bind fun sts => sts.getLast?.map fun s =>
      (s.posted, hist s, isFinalFailure exConc 0 0, Spec.c09 exConc (viewOf s []))) =
    some (true, [.start 0 0, .start 1 0, .done 0 0, .done 1 0, .post], true, true) := by decide

-- the hypotheses of `failing_item_raises_stop`: task 0 FAILED and is about to store its error; its step raises the flag
example : (do
    let s ← apply exConc (init exConc) .submit
    let s ← apply exConc s .take
    let s ← apply exConc s (.step 0); let s ← apply exConc s (.step 0); let s ← apply exConc s (.step 0)
    let s ← apply exConc s (.ret 0)
    let s ← apply exConc s (.step 0)
    let s1 ← apply exConc s (.step 0)
    pure (pcOf s 0, s.shouldStop, s1.shouldStop, s1.slots)) =
    some (some (.store (newErrorResult (.user 5)) true), false, true, [some (newErrorResult (.user 5)), none, none, none]) := by
  decide
example : exConc.stop = true ∧ exConc.execS ≠ .absent ∧ 0 < exConc.budget := by decide

/-- stop mode, Result-style exec function: item 0 RETURNS an error Result as a value (nil error) -/
def exConcVal : Cfg :=
  { n := 2, w := 1, cap := 2, stop := true, budget := 1, fb := .passThrough, execS := .res,
    exec := fun i _ => if i = 0 then { res := .ok (.res Val.nil (some (.user 5))) } else { res := .ok (.tok (100 + i)) },
    fbOut := fun _ => { res := .error 0 }, kind := .canceled }

-- the hypotheses of `error_result_value_does_not_stop`: task 0 is about to store an error Result it got as a VALUE;
-- the slot is an error, the flag stays down, and the gated run goes on to execute item 1
example : (do
    let s ← apply exConcVal (init exConcVal) .submit
    let s ← apply exConcVal s .take
    let s ← apply exConcVal s (.step 0); let s ← apply exConcVal s (.step 0); let s ← apply exConcVal s (.step 0)
    let s ← apply exConcVal s (.ret 0)
    let s1 ← apply exConcVal s (.step 0)
    pure (pcOf s 0, (newErrorResult (.user 5)).isError, s1.shouldStop, s1.slots)) =
    some (some (.store (newErrorResult (.user 5)) false), true, false, [some (newErrorResult (.user 5)), none]) := by
  decide
example : ((simulate exConcVal 300 [.release 0, .release 1]).map fun sts =>
      sts.map fun s => (s.slots, s.shouldStop, parked s)) =
    some [([none, none], false, [(0, 0)]),
          ([some (newErrorResult (.user 5)), none], false, [(1, 0)]),
          ([some (newErrorResult (.user 5)), some (newResult (.tok 101))], false, [])] := by decide

end Flyt.Props.C09
