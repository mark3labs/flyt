import FlytModel.Proofs.FlowRetry
import FlytModel.Proofs.ExampleEnv
/-!
# C02 for a flow with a retry budget: the bridge to the executable predicate `Spec.c02Flow`

`Spec.c02Flow N s cancelFree` is what the correspondence driver (`Driver/RFlowFam.lean`) evaluates on the
IMPLEMENTATION's observation; attempts of `Flow.Exec` are counted there as prep events of the flow's start node `s`.
Here: the predicate holds of the MODEL's own observation (`runFlowRetried`, `Model/FlowRetry.lean`) for every scenario
of the shape that makes the count exact.

* `c02Flow_of_shape` — the general form: the shape is given by ANY set of nodes `Safe` that does not contain `s`, holds
  every target of the root flow's connections and is closed under "start node of a flow" / "target of a connection of a
  flow" (`Proofs.Shape`).
* `c02Flow_holds` — the concrete, checkable form: `s` is a leaf with a prep callback; no connection of the root or of any
  flow of the arena leads to `s` (`hops`, `hnotarget`: what the driver checks); and no flow that starts at `s` is itself
  the target of a connection or the start node of a flow (`hnested`: what the driver does NOT check — see the
  counterexample `guard_insufficient` below).
* Neither theorem needs a hypothesis on cancellation: in the model an outcome other than an action or the context's
  error is only ever returned when the budget is used up (`Proofs.retryLoop_nonctx_exhausts`), so the clause
  `!cancelFree || k == N` holds with `cancelFree = true` for EVERY scenario. `cancelFree` is universally quantified.
* The only hypothesis on fuel is the one the driver checks: the final outcome is not `fuel`. Earlier attempts may have
  run out of fuel — they still show exactly one prep event of `s`.
-/
namespace Flyt.Props.C02Flow
open Flyt Flyt.Proofs

/-- what the model's observation looks like, in terms of the prep events of the start node -/
theorem runFlowRetried_obs {env : Env} {s : NodeId} {Safe : NodeId → Prop} {ops : List ConnOp}
    (sh : Shape env s Safe (buildTable ops)) (fuel N : Nat) (sid : StoreId) (st : RunSt)
    (hfuel : (runFlowRetried env fuel (some s) ops N sid st).2.2.1 ≠ .fuel) :
    Spec.startPreps s (runFlowRetried env fuel (some s) ops N sid st).1 ≤ N ∧
    (∀ a, (runFlowRetried env fuel (some s) ops N sid st).2.2.1 = .ok a →
      N = 0 ∨ 1 ≤ Spec.startPreps s (runFlowRetried env fuel (some s) ops N sid st).1) ∧
    (∀ e, (runFlowRetried env fuel (some s) ops N sid st).2.2.1 = .err e → (∀ c, e ≠ .ctx c) →
      Spec.startPreps s (runFlowRetried env fuel (some s) ops N sid st).1 = N) ∧
    (∀ a e, (runFlowRetried env fuel (some s) ops N sid st).2.2.1 ≠ .both a e) := by
  unfold runFlowRetried at hfuel ⊢
  cases hc : st.ctx with
  | done c => simp [startPreps_nil]
  | live =>
    simp only [hc] at hfuel ⊢
    by_cases h0 : N = 0
    · simp [h0, startPreps_nil]
    · simp only [h0, if_false] at hfuel ⊢
      obtain ⟨k, rfl⟩ : ∃ k, N = k + 1 := ⟨N - 1, by omega⟩
      have hle := retryLoop_attempts_le env fuel (buildTable ops) s sid (k + 1) (.err (.fw .other)) st
      have hpos := retryLoop_ok_pos env fuel (buildTable ops) s sid k (.err (.fw .other)) st
      have hex := retryLoop_nonctx_exhausts env fuel (buildTable ops) s sid (k + 1) (.err (.fw .other)) st
      have hnb := retryLoop_not_both env fuel ops s sid (k + 1) (.err (.fw .other)) st (by simp)
      have hlow := fun hf => retryLoop_lowfuel (env := env) (fuel := fuel) hf (buildTable ops) s sid (k + 1)
        (.err (.fw .other)) st hc (by simp)
      have hcnt := fun hf => retryLoop_startPreps sh sid fuel hf (k + 1) (.err (.fw .other)) st
      rcases hr : retryLoop env fuel (buildTable ops) s sid (k + 1) (.err (.fw .other)) st with ⟨evs, st', out, n⟩
      rw [hr] at hle hpos hex hnb hlow hcnt hfuel
      simp only at hle hpos hex hnb hlow hcnt
      by_cases hf : 2 ≤ fuel
      · have hk := hcnt hf
        cases out with
        | ok a =>
          simp only [hk]
          exact ⟨hle, fun _ _ => .inr (hpos a rfl), by simp, by simp⟩
        | err e =>
          simp only [hk]
          refine ⟨hle, by simp, ?_, by simp⟩
          intro e' he' hne
          cases he'
          exact hex (by simp) (fun c hc' => hne c (by cases hc'; rfl))
        | both a e => exact absurd rfl (hnb a e)
        | fuel => exact absurd rfl hfuel
      · have := hlow (by omega)
        subst this
        exact absurd rfl hfuel

/-- **Bridge, general form**: `Spec.c02Flow` holds of the model's own observation, for every budget, every `cancelFree`. -/
theorem c02Flow_of_shape {env : Env} {s : NodeId} {Safe : NodeId → Prop} {ops : List ConnOp}
    (sh : Shape env s Safe (buildTable ops)) (fuel N : Nat) (sid : StoreId) (st : RunSt)
    (hfuel : (runFlowRetried env fuel (some s) ops N sid st).2.2.1 ≠ .fuel) (cancelFree : Bool) (store : List Nat) :
    Spec.c02Flow N s cancelFree
      { trace := Spec.noWaits (runFlowRetried env fuel (some s) ops N sid st).1,
        out := (runFlowRetried env fuel (some s) ops N sid st).2.2.1, store := store } = true := by
  obtain ⟨hle, hok, herr, hnb⟩ := runFlowRetried_obs sh fuel N sid st hfuel
  unfold Spec.c02Flow
  simp only [startPreps_noWaits]
  generalize Spec.startPreps s (runFlowRetried env fuel (some s) ops N sid st).1 = k at hle hok herr
  generalize (runFlowRetried env fuel (some s) ops N sid st).2.2.1 = out at hfuel hok herr hnb
  cases out with
  | ok a =>
    rcases hok a rfl with h | h
    · subst h
      have : k = 0 := by omega
      simp [this]
    · simp [hle, h]
  | err e =>
    cases e with
    | user u => simp [herr _ rfl (by simp)]
    | ctx c => simp [hle]
    | fw t => simp [herr _ rfl (by simp)]
  | both a e => exact absurd rfl (hnb a e)
  | fuel => exact absurd rfl hfuel

/-- **Bridge theorem for `c02Flow`** (the shape in checkable form).

Hypotheses, and why each is there:
* `hs`, `hprep` — the start node `s` is a leaf with a prep callback: each attempt on a live context begins with exactly
  one prep event of `s`;
* `hops`, `hnotarget` — no connection of the root flow, nor of any flow of the arena, leads to `s`: `s` is not visited a
  second time within an attempt by way of a connection;
* `hnested` — a flow that starts at `s` (the root itself, if it is in the arena, is one) is neither the target of a
  connection nor the start node of a flow: `s` is not visited a second time by way of a nested flow's start;
* `hfuel` — the run did not end `fuel` (what the driver checks; single attempts may).
No hypothesis on cancellation; `cancelFree` is arbitrary. -/
theorem c02Flow_holds (env : Env) (fuel : Nat) (s : NodeId) (ops : List ConnOp) (N : Nat) (sid : StoreId) (st : RunSt)
    (cfg : LeafCfg) (hs : env.arena s = .leaf cfg) (hprep : cfg.prepS ≠ .absent)
    (hops : ∀ c ∈ ops, c.dst ≠ some s)
    (hnotarget : ∀ id start ops', env.arena id = .flow start ops' → ∀ c ∈ ops', c.dst ≠ some s)
    (hnested : ∀ id ops', env.arena id = .flow (some s) ops' →
      (∀ c ∈ ops, c.dst ≠ some id) ∧
      ∀ id' start' ops'', env.arena id' = .flow start' ops'' → start' ≠ some id ∧ ∀ c ∈ ops'', c.dst ≠ some id)
    (hfuel : (runFlowRetried env fuel (some s) ops N sid st).2.2.1 ≠ .fuel)
    (cancelFree : Bool) :
    Spec.c02Flow N s cancelFree
      { trace := Spec.noWaits (runFlowRetried env fuel (some s) ops N sid st).1,
        out := (runFlowRetried env fuel (some s) ops N sid st).2.2.1, store := [] } = true := by
  refine c02Flow_of_shape (Safe := fun id => id ≠ s ∧ ∀ ops', env.arena id ≠ .flow (some s) ops')
    ⟨⟨cfg, hs, hprep⟩, fun h => h.1 rfl, ⟨?_, ?_⟩, tblSafe_buildTable ?_⟩ fuel N sid st hfuel cancelFree []
  · intro id t ops' hid hA
    refine ⟨fun h => hid.2 ops' (h ▸ hA), fun o hB => ?_⟩
    exact ((hnested t o hB).2 id (some t) ops' hA).1 rfl
  · intro id start ops' hid hA c hc d hd
    refine ⟨fun h => hnotarget id start ops' hA c hc (h ▸ hd), fun o hB => ?_⟩
    exact ((hnested d o hB).2 id start ops' hA).2 c hc hd
  · intro c hc d hd
    refine ⟨fun h => hops c hc (h ▸ hd), fun o hB => ?_⟩
    exact (hnested d o hB).1 c hc hd

/-- the statement in the form with a guard on `cancelFree` (whatever the guard says: it is not needed) -/
theorem c02Flow_holds_guarded (env : Env) (fuel : Nat) (s : NodeId) (ops : List ConnOp) (N : Nat) (sid : StoreId)
    (st : RunSt) (cfg : LeafCfg) (hs : env.arena s = .leaf cfg) (hprep : cfg.prepS ≠ .absent)
    (hops : ∀ c ∈ ops, c.dst ≠ some s)
    (hnotarget : ∀ id start ops', env.arena id = .flow start ops' → ∀ c ∈ ops', c.dst ≠ some s)
    (hnested : ∀ id ops', env.arena id = .flow (some s) ops' →
      (∀ c ∈ ops, c.dst ≠ some id) ∧
      ∀ id' start' ops'', env.arena id' = .flow start' ops'' → start' ≠ some id ∧ ∀ c ∈ ops'', c.dst ≠ some id)
    (hfuel : (runFlowRetried env fuel (some s) ops N sid st).2.2.1 ≠ .fuel)
    (cancelFree : Bool) (_hcf : cancelFree = true → (runFlowRetried env fuel (some s) ops N sid st).2.1.ctx = .live) :
    Spec.c02Flow N s cancelFree
      { trace := Spec.noWaits (runFlowRetried env fuel (some s) ops N sid st).1,
        out := (runFlowRetried env fuel (some s) ops N sid st).2.2.1, store := [] } = true :=
  c02Flow_holds env fuel s ops N sid st cfg hs hprep hops hnotarget hnested hfuel cancelFree

/-- every node a leaf (all three callbacks present); node 1 succeeds with the default action, node 2 fails in post -/
def exEnv : Env :=
  { kind := .canceled, arena := fun _ => .leaf Ex.cfgPlain,
    leafBeh := fun n _ => if n = 2 then Ex.scrPostFails else Ex.scrOk "",
    batchBeh := fun _ _ => Ex.dummyBatch }

def exOps : List ConnOp := [⟨1, "default", some 2⟩]

/-- the flow 1 → 2 with budget 3: node 2 fails every time, the run fails after exactly 3 attempts (3 prep events of
    node 1) with the last error, and `c02Flow` holds of that observation -/
example :
    (runFlowRetried exEnv 10 (some 1) exOps 3 0 Ex.st0).2.2.2 = 3 ∧
    (runFlowRetried exEnv 10 (some 1) exOps 3 0 Ex.st0).2.2.1 = .err (.user 42) ∧
    Spec.startPreps 1 (runFlowRetried exEnv 10 (some 1) exOps 3 0 Ex.st0).1 = 3 ∧
    Spec.c02Flow 3 1 true
      { trace := Spec.noWaits (runFlowRetried exEnv 10 (some 1) exOps 3 0 Ex.st0).1,
        out := (runFlowRetried exEnv 10 (some 1) exOps 3 0 Ex.st0).2.2.1, store := [] } = true := by decide +kernel

/-- the hypotheses of `c02Flow_holds` hold of that scenario -/
example : Spec.c02Flow 3 1 true
      { trace := Spec.noWaits (runFlowRetried exEnv 10 (some 1) exOps 3 0 Ex.st0).1,
        out := (runFlowRetried exEnv 10 (some 1) exOps 3 0 Ex.st0).2.2.1, store := [] } = true :=
  c02Flow_holds exEnv 10 1 exOps 3 0 Ex.st0 Ex.cfgPlain rfl (by decide) (by decide)
    (fun _ _ _ h => by cases h) (fun _ _ h => by cases h) (by decide +kernel) true

/-- a mutilated observation — the budget cut short: one attempt only, then the error — is rejected -/
example : Spec.c02Flow 3 1 true
      { trace := Spec.noWaits (runFlowRetried exEnv 10 (some 1) exOps 1 0 Ex.st0).1,
        out := .err (.user 42), store := [] } = false := by decide

/-- … and so are a fourth attempt, and a success without any attempt -/
example : Spec.c02Flow 3 1 true
      { trace := [.prep 1 0 0, .prep 2 0 0, .prep 1 1 0, .prep 2 1 0, .prep 1 2 0, .prep 2 2 0, .prep 1 3 0, .prep 2 3 0],
        out := .err (.user 42), store := [] } = false ∧
    Spec.c02Flow 3 1 true { trace := [], out := .ok "default", store := [] } = false := by decide

/-- node 2 is a flow that starts at node 1 as well; everything else is a leaf that succeeds -/
def cexEnv : Env :=
  { kind := .canceled,
    arena := fun n => match n with
      | 2 => .flow (some 1) []
      | _ => .leaf Ex.cfgPlain,
    leafBeh := fun _ _ => Ex.scrOk "",
    batchBeh := fun _ _ => Ex.dummyBatch }

/-- **Counterexample to the statement under the driver's guard alone** (`hs`, `hprep`, `hops`, `hnotarget` hold, `hnested`
    does not): root flow `1 -default-> 2` with start node 1, where node 2 is a flow whose start node is 1 too. No
    connection leads to node 1, yet a single attempt visits it twice: budget 1, one attempt, two prep events of node 1,
    and `c02Flow` is false of the model's own observation. -/
theorem guard_insufficient :
    cexEnv.arena 1 = .leaf Ex.cfgPlain ∧ Ex.cfgPlain.prepS ≠ .absent ∧
    (∀ c ∈ exOps, c.dst ≠ some 1) ∧
    (∀ id start ops', cexEnv.arena id = .flow start ops' → ∀ c ∈ ops', c.dst ≠ some 1) ∧
    (runFlowRetried cexEnv 10 (some 1) exOps 1 0 Ex.st0).2.2.1 = .ok "default" ∧
    (runFlowRetried cexEnv 10 (some 1) exOps 1 0 Ex.st0).2.2.2 = 1 ∧
    Spec.startPreps 1 (runFlowRetried cexEnv 10 (some 1) exOps 1 0 Ex.st0).1 = 2 ∧
    Spec.c02Flow 1 1 true
      { trace := Spec.noWaits (runFlowRetried cexEnv 10 (some 1) exOps 1 0 Ex.st0).1,
        out := (runFlowRetried cexEnv 10 (some 1) exOps 1 0 Ex.st0).2.2.1, store := [] } = false := by
  refine ⟨rfl, by decide, by decide, ?_, by decide, by decide, by decide, by decide⟩
  intro id start ops' h
  simp only [cexEnv] at h
  split at h
  · cases h; simp
  · cases h

end Flyt.Props.C02Flow
