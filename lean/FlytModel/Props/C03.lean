import FlytModel.Proofs.SpecC03
import FlytModel.Proofs.CancelFree
import FlytModel.Proofs.ExampleEnv
/-!
# C03 — Flow routing follows the transition table exactly

Theorems about `connect` / `buildTable` / `tableLookup` (the literal two-level `transitions` map of `Flow.Connect`)
and about `flowLoop` / `runNode` (`Flow.Exec`, `flyt.Run`) for EVERY connection list (any order, overwrites,
nil targets), arena (graphs of any size, cycles, self-loops, shared targets, nesting), per-visit behaviour,
run state and fuel that does not run out.  `Proofs/Path.lean` defines `Visit`, `IsPath`, `route`.
-/
namespace Flyt.Props.C03
open Flyt Flyt.Proofs

/-- **(i) The table is a last-write-wins map.**  What `Flow.Exec` reads from `transitions[n][a]` after any
    sequence of `Connect` calls is the target of the most recent call for exactly the pair `(n, a)`:
    `none` = never connected, `some none` = connected to nil; no prefix matching, no fallback to a default action. -/
theorem table_last_write_wins (ops : List ConnOp) (n : NodeId) (a : Action) :
    tableLookup (buildTable ops) n a =
      (ops.reverse.find? (fun o => o.src = n ∧ o.action = a)).map (·.dst) :=
  Table.tableLookup_buildTable ops n a

example : tableLookup (buildTable [⟨2, "y", some 1⟩, ⟨2, "yy", some 5⟩, ⟨2, "y", some 3⟩, ⟨3, "y", none⟩]) 2 "y"
      = some (some 3) ∧
    tableLookup (buildTable [⟨2, "y", some 1⟩, ⟨2, "yy", some 5⟩, ⟨2, "y", some 3⟩, ⟨3, "y", none⟩]) 3 "y" = some none ∧
    tableLookup (buildTable [⟨2, "y", some 1⟩, ⟨2, "yy", some 5⟩, ⟨2, "y", some 3⟩, ⟨3, "y", none⟩]) 2 "" = none := by
  decide

/-- one more `Connect(n, a, d)` overwrites exactly the pair `(n, a)` (also with a nil target, also on a
    flow that has already been run) and leaves every other pair as it was -/
theorem connect_overwrites_one_pair (ops : List ConnOp) (op : ConnOp) (n : NodeId) (a : Action) :
    tableLookup (buildTable (ops ++ [op])) n a =
      if op.src = n ∧ op.action = a then some op.dst else tableLookup (buildTable ops) n a := by
  rw [Table.tableLookup_buildTable, Table.tableLookup_buildTable, Table.next_append_singleton]

example : tableLookup (buildTable ([⟨1, "a", some 2⟩] ++ [⟨1, "a", none⟩])) 1 "a" = some none := by decide

/-- **(ii) The executed path is the path the table determines.**  Every run of `Flow.Exec` from `start`
    (non-`fuel`) splits into visits `vs` — each a genuine `flyt.Run` of one node in the state the previous visit
    left — chained by `IsPath`: first visit = `start`; after a visit of `n` returning action `a` the next visit
    is of the node most recently connected to `(n, a)`; the flow ends `ok a` exactly at the first pair that is
    unconnected or connected to nil; a failing visit ends it with that error; the trace is the concatenation of
    the visits' events, nothing else. -/
theorem exec_follows_table (env : Env) (fuel : Nat) (ops : List ConnOp) (start : NodeId) (sid : StoreId)
    (st : RunSt) {evs st' out} (h : flowLoop env fuel (buildTable ops) start sid st = (evs, st', out))
    (hfuel : out ≠ .fuel) :
    ∃ vs : List Visit, IsPath ops start st vs st' out ∧ evs = vs.flatMap (·.evs) ∧
      ∀ v ∈ vs, v.Genuine env sid := by
  obtain ⟨vs, _, hp, he, hg⟩ := path_of_flowLoop fuel ops start st evs st' out h hfuel
  exact ⟨vs, hp, he, fun v hv => .of_big (hg v hv)⟩

/-- the same for `flyt.Run` on a flow node (root or nested): it runs its own path from its own start node and
    presents the last action (normalised) or the error -/
theorem run_flow_follows_table (env : Env) (fuel : Nat) (root : NodeId) (sid : StoreId) (st : RunSt)
    {s ops evs st' out} (hA : env.arena root = .flow (some s) ops) (hlive : st.ctx = .live)
    (h : runNode env fuel root sid st = (evs, st', out)) (hfuel : out ≠ .fuel) :
    ∃ (vs : List Visit) (out' : Outcome), IsPath ops s st vs st' out' ∧ evs = vs.flatMap (·.evs) ∧
      (∀ v ∈ vs, v.Genuine env sid) ∧
      out = (match out' with | .ok a => .ok (norm a) | o => o) := by
  obtain ⟨vs, r, _, hp, he, hg, hout⟩ := path_of_runFlow hA hlive h hfuel
  exact ⟨vs, r, hp, he, fun v hv => .of_big (hg v hv), by cases r <;> exact hout⟩

example : ((runNode Ex.envLoop 10 0 7 Ex.st0).1.map Spec.evKey).eraseDups =
      [(1, 0), (4, 0), (5, 0), (3, 0), (3, 1)] ∧
    (runNode Ex.envLoop 10 0 7 Ex.st0).2.2 = .ok "again" := by decide

/-- **The path is unique and computable from the table and the returned actions**: unless the run was cut by
    cancellation, the visited nodes are `route ops start (outcomes of the visits)`. -/
theorem path_is_determined (ops : List ConnOp) (start : NodeId) (st st' : RunSt) (vs : List Visit) (out : Outcome)
    (hp : IsPath ops start st vs st' out) (hlive : st'.ctx = .live) (hst : st.ctx = .live) :
    vs.map (·.node) = route ops start (vs.map (·.out)) := by
  cases vs with
  | nil => obtain ⟨_, k, hk, _⟩ := hp; rw [hst] at hk; cases hk
  | cons v vs => exact isPath_nodes hp hlive

/-- a flow that returns an action returned the action of the last node it executed, and that node has no
    (non-nil) connection for it — at the moment of the lookup, so re-connections between runs count -/
theorem ok_ends_at_unconnected (ops : List ConnOp) (start : NodeId) (st st' : RunSt) (vs : List Visit) (a : Action)
    (hp : IsPath ops start st vs st' (.ok a)) :
    ∃ v, vs.getLast? = some v ∧ v.out = .ok a ∧ (next ops v.node a = none ∨ next ops v.node a = some none) := by
  obtain ⟨v, hl, ho, _, hn⟩ := isPath_ok_last hp
  refine ⟨v, hl, ho, ?_⟩
  cases hx : next ops v.node a with
  | none => exact .inl rfl
  | some t =>
    cases t with
    | none => exact .inr rfl
    | some nxt => exact absurd hx (hn nxt)

/-- **No node off the path is touched.**  Every callback event of a run belongs to a leaf / batch node of the
    arena and carries the run's store; a visit of a leaf / batch node emits only that node's events; and the
    visit counter (which script a node uses next) of a node that emitted no event is unchanged. -/
theorem off_path_untouched (env : Env) (fuel : Nat) (root : NodeId) (sid : StoreId) (st : RunSt) {evs st' out}
    (h : runNode env fuel root sid st = (evs, st', out)) (hfuel : out ≠ .fuel) :
    (∀ e ∈ evs, NodeEv env sid e) ∧
    (∀ m, (∀ e ∈ evs, (Spec.evKey e).1 ≠ m) → st'.visits m = st.visits m) ∧
    ((∀ s ops, env.arena root ≠ .flow s ops) → ∀ e ∈ evs, Spec.evKey e = (root, st.visits root)) := by
  have hb := big_of_runNode h hfuel
  exact ⟨big_events hb, big_untouched hb, big_own_events hb⟩

/-- … for a flat flow: every event of the run is an event of a node ON the path. -/
theorem flat_flow_events_on_path (env : Env) (fuel : Nat) (ops : List ConnOp) (start : NodeId) (sid : StoreId)
    (st : RunSt) {evs st' out} (h : flowLoop env fuel (buildTable ops) start sid st = (evs, st', out))
    (hfuel : out ≠ .fuel) :
    ∃ vs : List Visit, IsPath ops start st vs st' out ∧
      ((∀ v ∈ vs, ∀ s o, env.arena v.node ≠ .flow s o) →
        (∀ e ∈ evs, (Spec.evKey e).1 ∈ vs.map (·.node)) ∧
        (∀ m, m ∉ vs.map (·.node) → st'.visits m = st.visits m)) := by
  obtain ⟨vs, _, hp, he, hg⟩ := path_of_flowLoop fuel ops start st evs st' out h hfuel
  refine ⟨vs, hp, fun hflat => ?_⟩
  have hev : ∀ e ∈ evs, (Spec.evKey e).1 ∈ vs.map (·.node) := by
    intro e hee
    rw [he, List.mem_flatMap] at hee
    obtain ⟨v, hv, hev⟩ := hee
    have := big_own_events (hg v hv) (hflat v hv) e hev
    rw [this]
    exact List.mem_map.mpr ⟨v, hv, rfl⟩
  refine ⟨hev, fun m hm => big_untouched (big_of_flowLoop h hfuel) m (fun e hee hk => hm (hk ▸ hev e hee))⟩

/-- **(iii) Repeated runs.**  The model keeps no per-flow run state: a second `Run` of the same flow object
    (same `ops`, possibly extended by `Connect` calls in between — then with the extended list) again starts at
    the start node and again follows the table, from whatever run state the first run left. -/
theorem rerun_follows_table (env : Env) (fuel₁ fuel₂ : Nat) (root : NodeId) (sid : StoreId) (st : RunSt)
    {s ops evs₁ st₁ out₁ evs₂ st₂ out₂} (hA : env.arena root = .flow (some s) ops)
    (h₁ : runNode env fuel₁ root sid st = (evs₁, st₁, out₁)) (hf₁ : out₁ ≠ .fuel)
    (h₂ : runNode env fuel₂ root sid st₁ = (evs₂, st₂, out₂)) (hf₂ : out₂ ≠ .fuel)
    (hl₁ : st.ctx = .live) (hl₂ : st₁.ctx = .live) :
    (∃ vs o, IsPath ops s st vs st₁ o ∧ evs₁ = vs.flatMap (·.evs)) ∧
    (∃ vs o, IsPath ops s st₁ vs st₂ o ∧ evs₂ = vs.flatMap (·.evs)) := by
  obtain ⟨vs1, o1, p1, e1, _⟩ := run_flow_follows_table env fuel₁ root sid st hA hl₁ h₁ hf₁
  obtain ⟨vs2, o2, p2, e2, _⟩ := run_flow_follows_table env fuel₂ root sid st₁ hA hl₂ h₂ hf₂
  exact ⟨⟨vs1, o1, p1, e1⟩, ⟨vs2, o2, p2, e2⟩⟩

example : (runNode Ex.env1 10 0 7 (runNode Ex.env1 10 0 7 Ex.st0).2.1).2.2 = .ok "again" ∧
    ((runNode Ex.env1 10 0 7 (runNode Ex.env1 10 0 7 Ex.st0).2.1).1.map Spec.evKey).eraseDups =
      [(1, 1), (4, 1), (5, 1), (3, 1)] := by decide

/-- … and the result of a run does not depend on how much fuel was given, as long as it suffices. -/
theorem fuel_irrelevant (env : Env) (f f' : Nat) (root : NodeId) (sid : StoreId) (st : RunSt)
    (h : (runNode env f root sid st).2.2 ≠ .fuel) (h' : (runNode env f' root sid st).2.2 ≠ .fuel) :
    runNode env f root sid st = runNode env f' root sid st :=
  runNode_det rfl h rfl h'

/-- **C03 as the driver evaluates it.**  `Spec.c03` — visit sequence of the trace = `Spec.specPath` (computed from
    `next` and the per-visit actions only), store log = the path's nodes, outcome = last action / error — holds
    of the model's own observation of a run of a flow on store 0 without cancellation, whenever every leaf of the
    arena has a prep callback (the instrumented nodes count their visits there; generated flows satisfy this).
    For flows that are not flat the predicate is vacuous; the general statement is `exec_follows_table`. -/
theorem spec_c03 (env : Env) (fuel : Nat) (root : NodeId) (st : RunSt) {evs st' out}
    (hprep : ∀ n cfg, env.arena n = .leaf cfg → cfg.prepS ≠ .absent)
    (hlive : st.ctx = .live) (h : runNode env fuel root 0 st = (evs, st', out)) (hfuel : out ≠ .fuel)
    (hnc : ∀ e ∈ evs, cancelsAt env e = false) :
    Spec.c03 env root st.visits fuel ⟨Spec.noWaits evs, out, storeLog evs⟩ = true :=
  spec_c03_of_run env fuel root st hprep hlive h hfuel hnc

/-- a flat instance: the inner flow 2 of the example arena (4 -x-> 5), run directly -/
example : Spec.isFlatFlow Ex.env1 [⟨4, "x", some 5⟩] 4 = true ∧
    (∀ e ∈ (runNode Ex.env1 10 2 0 Ex.st0).1, cancelsAt Ex.env1 e = false) ∧
    Spec.specPath Ex.env1 [⟨4, "x", some 5⟩] 10 4 (fun _ => 0) = ([(4, 0), (5, 0)], some "y") ∧
    Spec.c03 Ex.env1 2 (fun _ => 0) 10
      ⟨Spec.noWaits (runNode Ex.env1 10 2 0 Ex.st0).1, (runNode Ex.env1 10 2 0 Ex.st0).2.2,
       storeLog (runNode Ex.env1 10 2 0 Ex.st0).1⟩ = true := by decide

/-- … with the hypothesis as the driver computes it (`CancelFree env`: no script carries a cancellation). -/
theorem spec_c03_cancelFree (env : Env) (hcf : CancelFree env)
    (hprep : ∀ n cfg, env.arena n = .leaf cfg → cfg.prepS ≠ .absent)
    (fuel : Nat) (root : NodeId) (st : RunSt) (hlive : st.ctx = .live)
    (hfuel : (runNode env fuel root 0 st).2.2 ≠ .fuel) :
    Spec.c03 env root st.visits fuel
      ⟨Spec.noWaits (runNode env fuel root 0 st).1, (runNode env fuel root 0 st).2.2,
       storeLog (runNode env fuel root 0 st).1⟩ = true :=
  have hb := big_of_runNode (st' := (runNode env fuel root 0 st).2.1) rfl hfuel
  spec_c03_of_run env fuel root st hprep hlive rfl hfuel (big_cancelFree hb hcf)

example : ∀ n cfg, Ex.env1.arena n = .leaf cfg → cfg.prepS ≠ .absent := by
  intro n cfg h
  simp only [Ex.env1, Ex.arena1] at h
  split at h <;> cases h <;> simp [Ex.cfgPlain, Ex.cfgNoFb]

end Flyt.Props.C03
