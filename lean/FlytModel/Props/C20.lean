import FlytModel.Proofs.Wait
/-!
# C20 — the retry wait is honoured between attempts and is interruptible

Statements about the model (`runLeaf` = `flyt.Run` on a plain node, flyt.go:679-759; `runItem` =
`runExecWithRetries`, batch.go:317-357), for **all** configurations, scripts and contexts.
In the model a wait before attempt `k` is the event `wait n v k dur fired` (`bwait … i k dur fired`
for item `i` of a batch): `fired = true` is the timer branch of the `select`, `fired = false` the
`ctx.Done()` branch.  "`fired = true` ⇒ at least `dur` elapsed" is `time.After`'s contract and is
trusted; the correspondence harness measures it on the real code.

* `*_retry_preceded_by_wait`     with a wait configured every attempt k > 0 is immediately preceded by
                                 `wait k (effWait) true`
* `*_no_wait_before_first`       nothing but the prep event precedes attempt 0 — no wait
* `*_fired_wait_followed`        a fired wait is immediately followed by the attempt it precedes, hence
                                 no wait follows the last attempt
* `*_no_wait_without_config`     effWait = 0 ⇒ no wait events at all
* `leaf_interrupted_wait_ends_run`, `item_interrupted_wait_ends_item`
                                 an interrupted wait is the last event, the outcome is the context's error
* `*_fired_iff_not_cancelled`    the `select`'s branch is the oracle's
* `*_cancellation_cuts_wait`     if attempt j was made and failed, budget remains, a wait is configured
                                 and the cancellation arrives during the wait before attempt j+1, the run
                                 ends with that interrupted wait (it does not sleep it out, it does not
                                 start attempt j+1)
* `leaf_spec`, `item_spec`, `batch_spec`   the decidable predicate the driver evaluates on the
                                 implementation's observations holds of every model observation
-/
namespace Flyt.Props.C20
open Flyt Flyt.Spec Flyt.Proofs.Wait

section leaf
variable (kind : CtxKind) (n v sid : Nat) (cfg : LeafCfg) (scr : LeafScript) (ctx : Ctx)

/-- **C20, waits are honoured.**  With a wait configured, every attempt after the first is
    immediately preceded by its wait, and that wait lasted its full duration. -/
theorem leaf_retry_preceded_by_wait (hw : 0 < cfg.effWait) :
    ∀ (k : Nat) (a : Val) (pre post : List Ev), 0 < k →
      (runLeaf kind n v sid cfg scr ctx).1 = pre ++ .exec n v k a :: post →
      ∃ pre', pre = pre' ++ [.wait n v k cfg.effWait true] := by
  intro k a pre post hk h
  obtain ⟨pev, aev, tail, pv, c, ha, _⟩ := runLeaf_struct kind n v sid cfg scr ctx
  obtain ⟨p, q, haev, rfl, _⟩ := ha.split h nofun
  obtain ⟨j, _, ⟨hx, _, p', rfl, _⟩ | ⟨hx, _⟩ | ⟨hx, _⟩⟩ := shape_split ha.shape haev
  · obtain ⟨_, _, rfl, _⟩ := Ev.exec.inj hx
    exact ⟨pev ++ p', by simp [hk, hw, leafWait]⟩
  · cases hx
  · cases hx

def exCfg : LeafCfg :=
  { retryable := true, budget := 3, wait := 25, fb := .absent, prepS := .direct, execS := .direct, postS := .direct }
/-- attempts 0 and 1 fail, attempt 2 succeeds -/
def exScr : LeafScript :=
  { prep := { res := .ok (.tok 1) }, exec := fun k => if k < 2 then { res := .error (k + 1) } else { res := .ok (.tok 2) },
    waitCancel := fun _ => false, fb := { res := .error 9 }, post := { res := .ok "a" } }

/-- non-vacuity: a run with two retries, each preceded by its 25 ms wait -/
example : 0 < exCfg.effWait ∧
    (runLeaf .canceled 0 0 0 exCfg exScr .live).1 =
      [.prep 0 0 0, .exec 0 0 0 (.tok 1), .wait 0 0 1 25 true, .exec 0 0 1 (.tok 1),
       .wait 0 0 2 25 true, .exec 0 0 2 (.tok 1), .post 0 0 0 (.tok 1) (.tok 2)] := by
  decide

/-- **C20, no wait before the first attempt.**  Whatever precedes attempt 0 is not a wait (it is the
    prep event or nothing). -/
theorem leaf_no_wait_before_first :
    ∀ (a : Val) (pre post : List Ev),
      (runLeaf kind n v sid cfg scr ctx).1 = pre ++ .exec n v 0 a :: post →
      (pre = [] ∨ pre = [.prep n v sid]) ∧ ∀ e ∈ pre, e.isWait = false := by
  intro a pre post h
  obtain ⟨pev, aev, tail, pv, c, ha, hpev, _⟩ := runLeaf_struct kind n v sid cfg scr ctx
  obtain ⟨p, q, haev, rfl, _⟩ := ha.split h nofun
  obtain ⟨j, _, ⟨hx, _, p', rfl, hp'⟩ | ⟨hx, _⟩ | ⟨hx, _⟩⟩ := shape_split ha.shape haev
  · obtain ⟨_, _, rfl, _⟩ := Ev.exec.inj hx
    rw [hp' rfl]
    rcases hpev with rfl | rfl <;> simp [Ev.isWait]
  · cases hx
  · cases hx

/-- non-vacuity: a one-hour wait is configured, attempt 0 starts right after prep -/
example : (runLeaf .canceled 0 0 0 { exCfg with wait := 3600000 } exScr .live).1.take 2 =
    [.prep 0 0 0, .exec 0 0 0 (.tok 1)] := by
  decide

/-- **C20, no wait after the last attempt.**  Every wait event of the run belongs to this visit's
    loop and carries the configured duration; a fired one is immediately followed by the attempt it
    precedes — so no wait follows the last attempt. -/
theorem leaf_fired_wait_followed :
    ∀ (n' v' k d : Nat) (pre post : List Ev),
      (runLeaf kind n v sid cfg scr ctx).1 = pre ++ .wait n' v' k d true :: post →
      n' = n ∧ v' = v ∧ d = cfg.effWait ∧ 0 < k ∧ ∃ a post', post = .exec n v k a :: post' := by
  intro n' v' k d pre post h
  obtain ⟨pev, aev, tail, pv, c, ha, _⟩ := runLeaf_struct kind n v sid cfg scr ctx
  obtain ⟨p, q, haev, _, rfl⟩ := ha.split h nofun
  obtain ⟨j, _, ⟨hx, _⟩ | ⟨hx, hj0, _, _, q', rfl⟩ | ⟨hx, _⟩⟩ := shape_split ha.shape haev
  · cases hx
  · obtain ⟨rfl, rfl, rfl, rfl, _⟩ := Ev.wait.inj hx
    exact ⟨rfl, rfl, rfl, hj0, execArg cfg.execS pv, q' ++ tail, rfl⟩
  · cases (Ev.wait.inj hx).2.2.2.2

/-- non-vacuity: budget 2, both attempts fail: the run ends right after attempt 1, the error is the
    last attempt's -/
example : runLeaf .canceled 0 0 0 { exCfg with budget := 2 } exScr .live =
    ([.prep 0 0 0, .exec 0 0 0 (.tok 1), .wait 0 0 1 25 true, .exec 0 0 1 (.tok 1)], .live, .err (.user 2)) := by
  decide

/-- **C20, no wait configured ⇒ no wait events** (a node that is not a `RetryableNode` never reads a
    wait: `effWait = 0`). -/
theorem leaf_no_wait_without_config (hw : cfg.effWait = 0) :
    ∀ e ∈ (runLeaf kind n v sid cfg scr ctx).1, e.isWait = false := by
  obtain ⟨pev, aev, tail, pv, c, ha, _⟩ := runLeaf_struct kind n v sid cfg scr ctx
  exact ha.no_wait hw fun _ => rfl

/-- non-vacuity: the same failing run with wait 0, and with a node that is not retryable -/
example : (runLeaf .canceled 0 0 0 { exCfg with wait := 0 } exScr .live).1 =
      [.prep 0 0 0, .exec 0 0 0 (.tok 1), .exec 0 0 1 (.tok 1), .exec 0 0 2 (.tok 1), .post 0 0 0 (.tok 1) (.tok 2)]
    ∧ ({ exCfg with retryable := false } : LeafCfg).effWait = 0 := by
  decide

/-- **C20, a cancellation during the wait ends the run there** with an error whose root is the
    context's error; the context is done; the cancellation was the oracle's choice. -/
theorem leaf_interrupted_wait_ends_run :
    ∀ (n' v' k d : Nat) (pre post : List Ev),
      (runLeaf kind n v sid cfg scr ctx).1 = pre ++ .wait n' v' k d false :: post →
      post = [] ∧ (runLeaf kind n v sid cfg scr ctx).2.2 = .err (.ctx kind)
        ∧ (runLeaf kind n v sid cfg scr ctx).2.1 = .done kind
        ∧ n' = n ∧ v' = v ∧ d = cfg.effWait ∧ 0 < k ∧ scr.waitCancel k = true := by
  intro n' v' k d pre post h
  obtain ⟨pev, aev, tail, pv, c, ha, _, hc⟩ := runLeaf_struct kind n v sid cfg scr ctx
  obtain ⟨p, q, haev, _, rfl⟩ := ha.split h nofun
  obtain ⟨j, _, ⟨hx, _⟩ | ⟨hx, _⟩ | ⟨hx, hj0, _, hwc, rfl, hct⟩⟩ := shape_split ha.shape haev
  · cases hx
  · cases (Ev.wait.inj hx).2.2.2.2
  · obtain ⟨rfl, rfl, rfl, rfl, _⟩ := Ev.wait.inj hx
    obtain ⟨rfl, hout, hctx⟩ := hc hct
    exact ⟨rfl, hout, hctx, rfl, rfl, rfl, hj0, hwc⟩

def exScrCut : LeafScript := { exScr with waitCancel := fun k => k == 2 }

/-- non-vacuity: the cancellation arrives during the wait before attempt 2 -/
example : runLeaf .deadline 0 0 0 exCfg exScrCut .live =
    ([.prep 0 0 0, .exec 0 0 0 (.tok 1), .wait 0 0 1 25 true, .exec 0 0 1 (.tok 1), .wait 0 0 2 25 false],
      .done .deadline, .err (.ctx .deadline)) := by
  decide

/-- **C20, the `select` follows the oracle**: a wait fired iff no cancellation arrived during it. -/
theorem leaf_fired_iff_not_cancelled :
    ∀ (n' v' k d : Nat) (f : Bool), .wait n' v' k d f ∈ (runLeaf kind n v sid cfg scr ctx).1 →
      scr.waitCancel k = !f := by
  intro n' v' k d f hmem
  obtain ⟨pre, post, h⟩ := List.append_of_mem hmem
  obtain ⟨pev, aev, tail, pv, c, ha, _⟩ := runLeaf_struct kind n v sid cfg scr ctx
  obtain ⟨p, q, haev, _, _⟩ := ha.split h nofun
  obtain ⟨j, _, ⟨hx, _⟩ | ⟨hx, _, _, hwc, _⟩ | ⟨hx, _, _, hwc, _⟩⟩ := shape_split ha.shape haev
  · cases hx
  all_goals
    obtain ⟨_, _, rfl, _, rfl⟩ := Ev.wait.inj hx
    simp [hwc]

/-- **C20, the cancellation is not slept out** (liveness of the interruption): if attempt `j` was
    made, failed without itself cancelling the context, budget remains, a wait is configured and the
    cancellation arrives during the wait before attempt `j+1` (`stopAt … (j+1)`), then the run's last
    two events are attempt `j` and the interrupted wait, attempt `j+1` never starts, and the outcome is
    the context's error. -/
theorem leaf_cancellation_cuts_wait :
    ∀ (j : Nat) (a : Val), .exec n v j a ∈ (runLeaf kind n v sid cfg scr ctx).1 →
      stopAt cfg.effWait cfg.effBudget scr.exec scr.waitCancel (j + 1) = true →
      (∃ pre, (runLeaf kind n v sid cfg scr ctx).1 = pre ++ [.exec n v j a, .wait n v (j + 1) cfg.effWait false])
      ∧ (runLeaf kind n v sid cfg scr ctx).2.2 = .err (.ctx kind) := by
  intro j a hmem hstop
  obtain ⟨pre, post, h⟩ := List.append_of_mem hmem
  obtain ⟨pev, aev, tail, pv, c, ha, _, hc⟩ := runLeaf_struct kind n v sid cfg scr ctx
  obtain ⟨p, q, rfl, _, _⟩ := ha.split h nofun
  obtain ⟨j', _, ⟨hx, hq, _⟩ | ⟨hx, _⟩ | ⟨hx, _⟩⟩ := shape_split ha.shape rfl
  · obtain ⟨_, _, rfl, rfl⟩ := Ev.exec.inj hx
    obtain ⟨hj, _, _, _, hw, hwc⟩ := stopAt_eq_true.1 hstop
    obtain ⟨rfl, hct⟩ := shape_stopped hq hstop hj hw hwc
    obtain ⟨rfl, hout, _⟩ := hc hct
    exact ⟨⟨pev ++ p, by simp [ha.eq, leafWait]⟩, hout⟩
  · cases hx
  · cases hx

/-- non-vacuity: in the run above the oracle says "cancel the wait before attempt 2", attempt 1 was
    made and failed, budget 3 remains -/
example : stopAt exCfg.effWait exCfg.effBudget exScrCut.exec exScrCut.waitCancel 2 = true
    ∧ Ev.exec 0 0 1 (.tok 1) ∈ (runLeaf .deadline 0 0 0 exCfg exScrCut .live).1 := by
  decide

/-- **C20 as the driver evaluates it**: the decidable predicate `Spec.c20Leaf` holds of every
    observation of the model. -/
theorem leaf_spec :
    c20Leaf kind cfg scr (runLeaf kind n v sid cfg scr ctx).1 (runLeaf kind n v sid cfg scr ctx).2.2 = true := by
  obtain ⟨pev, aev, tail, pv, c, ha, _, hc⟩ := runLeaf_struct kind n v sid cfg scr ctx
  obtain ⟨h1, h2, h3⟩ := ha.stream (fun _ => rfl) (fun _ _ => rfl)
  have hadj : firedWaitsAdjacent (runLeaf kind n v sid cfg scr ctx).1 = true := by
    simpa [firedWaitsAdjacent] using ha.adjacent (shape_adjacent (fun _ => rfl) (fun _ _ => by simp [firedWaitsAdjacent]) (fun _ _ => rfl) ha.shape) []
  unfold c20Leaf c20Stream
  simp only [h1, h2, h3, hadj, Bool.and_true, Bool.true_and]
  cases c with
  | false => rfl
  | true => simp [(hc rfl).2.1]

/-- non-vacuity: the predicate is not constantly true — it rejects the trace of the run above with the
    second wait removed, with a wait put before attempt 0, with a wait after the last attempt, and a
    run that slept out a cancelled wait -/
example :
    c20Leaf .canceled exCfg exScr
      [.prep 0 0 0, .exec 0 0 0 (.tok 1), .wait 0 0 1 25 true, .exec 0 0 1 (.tok 1), .exec 0 0 2 (.tok 1),
       .post 0 0 0 (.tok 1) (.tok 2)] (.ok "a") = false
    ∧ c20Leaf .canceled exCfg exScr
      [.prep 0 0 0, .wait 0 0 0 25 true, .exec 0 0 0 (.tok 1)] (.ok "a") = false
    ∧ c20Leaf .canceled { exCfg with budget := 2 } exScr
      [.prep 0 0 0, .exec 0 0 0 (.tok 1), .wait 0 0 1 25 true, .exec 0 0 1 (.tok 1), .wait 0 0 2 25 true]
      (.err (.user 2)) = false
    ∧ c20Leaf .deadline exCfg exScrCut
      [.prep 0 0 0, .exec 0 0 0 (.tok 1), .wait 0 0 1 25 true, .exec 0 0 1 (.tok 1)] (.err (.ctx .deadline)) = false := by
  decide

end leaf

section item
variable (kind : CtxKind) (n v : Nat) (cfg : BatchCfg) (i : Nat) (item : Result) (scr : ItemScript) (ctx : Ctx)

/-- **C20 per item, waits are honoured.** -/
theorem item_retry_preceded_by_wait (hw : 0 < cfg.wait) :
    ∀ (k : Nat) (a : Val) (pre post : List Ev), 0 < k →
      (runItem kind n v cfg i item scr ctx).1 = pre ++ .bexec n v i k a :: post →
      ∃ pre', pre = pre' ++ [.bwait n v i k cfg.wait true] := by
  intro k a pre post hk h
  obtain ⟨aev, tail, c, ha, _⟩ := runItem_struct kind n v cfg i item scr ctx
  obtain ⟨p, q, haev, rfl, _⟩ := ha.split h (by simp [itemAEv])
  obtain ⟨j, _, ⟨hx, _, p', rfl, _⟩ | ⟨hx, _⟩ | ⟨hx, _⟩⟩ := shape_split ha.shape haev
  · obtain ⟨_, _, _, rfl, _⟩ := Ev.bexec.inj hx
    exact ⟨p', by simp [hk, hw, itemWait]⟩
  · cases hx
  · cases hx

def exBatch : BatchCfg :=
  { budget := 3, wait := 10, fb := .passThrough, conc := 0, stop := false, execS := .any, hasPost := true, shape := .results }
def exItem : ItemScript :=
  { exec := fun k => if k < 1 then { res := .error 7 } else { res := .ok (.tok 5) }, waitCancel := fun _ => false,
    fb := { res := .error 9 } }

/-- non-vacuity: item 4 fails once, waits 10 ms, succeeds -/
example : 0 < exBatch.wait ∧ runItem .canceled 0 0 exBatch 4 (newResult (.tok 3)) exItem .live =
    ([.bexec 0 0 4 0 (.tok 3), .bwait 0 0 4 1 10 true, .bexec 0 0 4 1 (.tok 3)], .live, .slot (newResult (.tok 5))) := by
  decide

/-- **C20 per item, no wait before the first attempt**: attempt 0 is the item's first event. -/
theorem item_no_wait_before_first :
    ∀ (a : Val) (pre post : List Ev),
      (runItem kind n v cfg i item scr ctx).1 = pre ++ .bexec n v i 0 a :: post → pre = [] := by
  intro a pre post h
  obtain ⟨aev, tail, c, ha, _⟩ := runItem_struct kind n v cfg i item scr ctx
  obtain ⟨p, q, haev, rfl, _⟩ := ha.split h (by simp [itemAEv])
  obtain ⟨j, _, ⟨hx, _, p', rfl, hp'⟩ | ⟨hx, _⟩ | ⟨hx, _⟩⟩ := shape_split ha.shape haev
  · obtain ⟨_, _, _, rfl, _⟩ := Ev.bexec.inj hx
    simp [hp' rfl]
  · cases hx
  · cases hx

/-- non-vacuity: with a one-hour wait the item's first event is still attempt 0 -/
example : (runItem .canceled 0 0 { exBatch with wait := 3600000 } 4 (newResult (.tok 3)) exItem .live).1.take 1 =
    [.bexec 0 0 4 0 (.tok 3)] := by
  decide

/-- **C20 per item, no wait after the last attempt.** -/
theorem item_fired_wait_followed :
    ∀ (n' v' k d : Nat) (pre post : List Ev),
      (runItem kind n v cfg i item scr ctx).1 = pre ++ .bwait n' v' i k d true :: post →
      n' = n ∧ v' = v ∧ d = cfg.wait ∧ 0 < k ∧ ∃ a post', post = .bexec n v i k a :: post' := by
  intro n' v' k d pre post h
  obtain ⟨aev, tail, c, ha, _⟩ := runItem_struct kind n v cfg i item scr ctx
  obtain ⟨p, q, haev, _, rfl⟩ := ha.split h (by simp [itemAEv])
  obtain ⟨j, _, ⟨hx, _⟩ | ⟨hx, hj0, _, _, q', rfl⟩ | ⟨hx, _⟩⟩ := shape_split ha.shape haev
  · cases hx
  · obtain ⟨rfl, rfl, _, rfl, rfl, _⟩ := Ev.bwait.inj hx
    exact ⟨rfl, rfl, rfl, hj0, execArg cfg.execS item.box, q' ++ tail, rfl⟩
  · cases (Ev.bwait.inj hx).2.2.2.2.2

/-- non-vacuity: budget 1, the only attempt fails: no wait follows it (pass-through fallback) -/
example : runItem .canceled 0 0 { exBatch with budget := 1 } 4 (newResult (.tok 3)) exItem .live =
    ([.bexec 0 0 4 0 (.tok 3)], .live, .error (.user 7)) := by
  decide

/-- **C20 per item, no wait configured ⇒ no wait events.** -/
theorem item_no_wait_without_config (hw : cfg.wait = 0) :
    ∀ e ∈ (runItem kind n v cfg i item scr ctx).1, e.isWait = false := by
  obtain ⟨aev, tail, c, ha, _⟩ := runItem_struct kind n v cfg i item scr ctx
  exact ha.no_wait hw fun _ => rfl

example : (runItem .canceled 0 0 { exBatch with wait := 0 } 4 (newResult (.tok 3)) exItem .live).1 =
    [.bexec 0 0 4 0 (.tok 3), .bexec 0 0 4 1 (.tok 3)] := by
  decide

/-- **C20 per item, a cancellation during the wait ends the item's processing there** with the
    context's error (which `runBatch*` stores in the item's slot). -/
theorem item_interrupted_wait_ends_item :
    ∀ (n' v' k d : Nat) (pre post : List Ev),
      (runItem kind n v cfg i item scr ctx).1 = pre ++ .bwait n' v' i k d false :: post →
      post = [] ∧ (runItem kind n v cfg i item scr ctx).2.2 = .error (.ctx kind)
        ∧ (runItem kind n v cfg i item scr ctx).2.1 = .done kind
        ∧ n' = n ∧ v' = v ∧ d = cfg.wait ∧ 0 < k ∧ scr.waitCancel k = true := by
  intro n' v' k d pre post h
  obtain ⟨aev, tail, c, ha, _, hc⟩ := runItem_struct kind n v cfg i item scr ctx
  obtain ⟨p, q, haev, _, rfl⟩ := ha.split h (by simp [itemAEv])
  obtain ⟨j, _, ⟨hx, _⟩ | ⟨hx, _⟩ | ⟨hx, hj0, _, hwc, rfl, hct⟩⟩ := shape_split ha.shape haev
  · cases hx
  · cases (Ev.bwait.inj hx).2.2.2.2.2
  · obtain ⟨rfl, rfl, _, rfl, rfl, _⟩ := Ev.bwait.inj hx
    obtain ⟨rfl, hout, hctx⟩ := hc hct
    exact ⟨rfl, hout, hctx, rfl, rfl, rfl, hj0, hwc⟩

def exItemCut : ItemScript := { exItem with waitCancel := fun k => k == 1 }

example : runItem .canceled 0 0 exBatch 4 (newResult (.tok 3)) exItemCut .live =
    ([.bexec 0 0 4 0 (.tok 3), .bwait 0 0 4 1 10 false], .done .canceled, .error (.ctx .canceled)) := by
  decide

/-- **C20 per item, the `select` follows the oracle.** -/
theorem item_fired_iff_not_cancelled :
    ∀ (n' v' k d : Nat) (f : Bool), .bwait n' v' i k d f ∈ (runItem kind n v cfg i item scr ctx).1 →
      scr.waitCancel k = !f := by
  intro n' v' k d f hmem
  obtain ⟨pre, post, h⟩ := List.append_of_mem hmem
  obtain ⟨aev, tail, c, ha, _⟩ := runItem_struct kind n v cfg i item scr ctx
  obtain ⟨p, q, haev, rfl, _⟩ := ha.split h (by simp [itemAEv])
  obtain ⟨j, _, ⟨hx, _⟩ | ⟨hx, _, _, hwc, _⟩ | ⟨hx, _, _, hwc, _⟩⟩ := shape_split ha.shape haev
  · cases hx
  all_goals
    obtain ⟨_, _, _, rfl, _, rfl⟩ := Ev.bwait.inj hx
    simp [hwc]

/-- **C20 per item, the cancellation is not slept out.** -/
theorem item_cancellation_cuts_wait :
    ∀ (j : Nat) (a : Val), .bexec n v i j a ∈ (runItem kind n v cfg i item scr ctx).1 →
      stopAt cfg.wait cfg.budget scr.exec scr.waitCancel (j + 1) = true →
      (runItem kind n v cfg i item scr ctx).1.getLast? = some (.bwait n v i (j + 1) cfg.wait false)
      ∧ (∃ pre, (runItem kind n v cfg i item scr ctx).1 = pre ++ [.bexec n v i j a, .bwait n v i (j + 1) cfg.wait false])
      ∧ (runItem kind n v cfg i item scr ctx).2.2 = .error (.ctx kind) := by
  intro j a hmem hstop
  obtain ⟨pre, post, h⟩ := List.append_of_mem hmem
  obtain ⟨aev, tail, c, ha, _, hc⟩ := runItem_struct kind n v cfg i item scr ctx
  obtain ⟨p, q, rfl, rfl, _⟩ := ha.split h (by simp [itemAEv])
  obtain ⟨j', _, ⟨hx, hq, _⟩ | ⟨hx, _⟩ | ⟨hx, _⟩⟩ := shape_split ha.shape rfl
  · obtain ⟨_, _, _, rfl, rfl⟩ := Ev.bexec.inj hx
    obtain ⟨hj, _, _, _, hw, hwc⟩ := stopAt_eq_true.1 hstop
    obtain ⟨rfl, hct⟩ := shape_stopped hq hstop hj hw hwc
    obtain ⟨rfl, hout, _⟩ := hc hct
    exact ⟨by simp [ha.eq], ⟨pre, by simp [ha.eq, itemWait]⟩, hout⟩
  · cases hx
  · cases hx

example : stopAt exBatch.wait exBatch.budget exItemCut.exec exItemCut.waitCancel 1 = true
    ∧ Ev.bexec 0 0 4 0 (.tok 3) ∈ (runItem .canceled 0 0 exBatch 4 (newResult (.tok 3)) exItemCut .live).1 := by
  decide

/-- **C20 per item as the driver evaluates it** (`slot` = what `runBatch*` stores for the item). -/
theorem item_spec :
    c20Item kind cfg scr i (runItem kind n v cfg i item scr ctx).1
      (some (slotOfItemRes (runItem kind n v cfg i item scr ctx).2.2).box) = true :=
  runItem_c20Item kind n v cfg i item scr ctx

/-- non-vacuity: the predicate rejects an item whose retry came without its wait, and an item that was
    cut short but whose slot does not carry the context's error -/
example :
    c20Item .canceled exBatch exItem 4 [.bexec 0 0 4 0 (.tok 3), .bexec 0 0 4 1 (.tok 3)] none = false
    ∧ c20Item .canceled exBatch exItemCut 4 [.bexec 0 0 4 0 (.tok 3), .bwait 0 0 4 1 10 false]
        (some (newErrorResult (.user 7)).box) = false := by
  decide

end item

/-! ## a whole batch node (sequential, one worker, and the all-started schedule of ≥ 2 workers) -/

section batch
variable (kind : CtxKind) (n v sid : Nat) (cfg : BatchCfg) (scr : BatchScript) (ctx : Ctx)

/-- **The same holds per item inside batches.**  In a batch run (`runBatchW`: `runBatch` for
    concurrency 0 / 1, the all-started schedule for ≥ 2 workers) the retry-loop events of item `i`
    are exactly the retry-loop events of `runItem` on that item (or none, if the item was never
    started) — so every per-item statement above holds of them. -/
theorem batch_items_are_runItem (i : Nat) :
    (runBatchW kind n v sid cfg scr ctx).1.filterMap (itemAEv i) = [] ∨
      ∃ it ctx', (runBatchW kind n v sid cfg scr ctx).1.filterMap (itemAEv i)
        = (runItem kind n v cfg i it (scr.item i) ctx').1.filterMap (itemAEv i) := by
  obtain ⟨items, iev, slots, its, hasPost, hrun, htr⟩ := runBatchW_form kind n v sid cfg scr ctx
  rw [htr, form_proj]
  exact (itemsRun_item (fun _ _ => itemEvOf_proj_other) hrun i (Nat.zero_add i).symm).imp_right fun ⟨it, c, _, hev, _⟩ =>
    ⟨it, c, hev⟩

/-- **C20 for a batch run as the driver evaluates it**: every item's stream has the prescribed shape,
    an interrupted item's slot carries the context's error, and (where the trace order is meaningful)
    fired waits are adjacent to their attempts. -/
theorem batch_spec (nItems : Nat) (ordered : Bool) :
    c20Batch kind cfg scr nItems ordered (runBatchW kind n v sid cfg scr ctx).1 = true :=
  c20Batch_of_form (runBatchW_form kind n v sid cfg scr ctx) nItems ordered

/-- the same for `runBatch` itself (any concurrency: its concurrent path is the serial schedule) -/
theorem batch_spec_runBatch (nItems : Nat) (ordered : Bool) :
    c20Batch kind cfg scr nItems ordered (runBatch kind n v sid cfg scr ctx).1 = true :=
  c20Batch_of_form (runBatch_form kind n v sid cfg scr ctx) nItems ordered

def exBatchScr : BatchScript :=
  { prep := { res := .ok [.res (.tok 3) none, .res (.tok 4) none] },
    item := fun i => if i = 0 then exItem else exItemCut,
    post := { res := .ok "done" } }

/-- non-vacuity: two items, sequential; item 0 retries after its 10 ms wait, item 1 is cut short in its
    wait and its slot carries the context's error; on two workers (all-started schedule) the same
    per-item events -/
example :
    (runBatchW .canceled 0 0 0 exBatch exBatchScr .live).1 =
      [.bprep 0 0 0,
       .bexec 0 0 0 0 (.tok 3), .bwait 0 0 0 1 10 true, .bexec 0 0 0 1 (.tok 3),
       .bexec 0 0 1 0 (.tok 4), .bwait 0 0 1 1 10 false,
       .bpost 0 0 0 [.res (.tok 3) none, .res (.tok 4) none] [.res (.tok 5) none, .res (.tok 0) (some (.ctx .canceled))]]
    ∧ (runBatchW .canceled 0 0 0 { exBatch with conc := 2 } exBatchScr .live).1 =
        (runBatchW .canceled 0 0 0 exBatch exBatchScr .live).1 := by
  decide

/-- non-vacuity: the predicate rejects a batch trace whose interrupted item's slot looks like a success -/
example :
    c20Batch .canceled exBatch exBatchScr 2 true
      [.bprep 0 0 0,
       .bexec 0 0 0 0 (.tok 3), .bwait 0 0 0 1 10 true, .bexec 0 0 0 1 (.tok 3),
       .bexec 0 0 1 0 (.tok 4), .bwait 0 0 1 1 10 false,
       .bpost 0 0 0 [.res (.tok 3) none, .res (.tok 4) none] [.res (.tok 5) none, .res (.tok 0) none]] = false := by
  decide

end batch

end Flyt.Props.C20
