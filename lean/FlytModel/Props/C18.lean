import FlytModel.Proofs.L.Flow
import FlytModel.Proofs.SpecC18
import FlytModel.Proofs.CancelFree
/-!
# C18 — A successful run never yields the empty action, for any node kind

Theorems about `Flyt.runNode` / `Flyt.flowLoop` (model of `flyt.Run` and `Flow.Exec`, flyt.go:679-904,
batch.go:156-232) for EVERY arena of nodes (plain / function-style leaves of every configuration, batch
nodes of every configuration — every prep shape, any number of items including none, any concurrency,
stop or continue mode — and flows nested to any depth, with any connection list), EVERY behaviour
script, EVERY context and visit counters, EVERY fuel.  No hypothesis.
-/
namespace Flyt.Props.C18
open Flyt Flyt.Spec Flyt.Proofs.Flow

/-! ### scenario for the non-vacuity examples: flow 0 = leaf 1 —default→ empty batch 2 —default→ leaf 3,
every post returns the empty action -/
def exLeaf : LeafCfg :=
  { retryable := false, budget := 0, wait := 0, fb := .absent, prepS := .direct, execS := .direct, postS := .direct }
def exBatch : BatchCfg :=
  { budget := 1, wait := 0, fb := .passThrough, conc := 2, stop := false, execS := .any, hasPost := true, shape := .anys }
def exLeafScr : LeafScript :=
  { prep := { res := .ok (.tok 1) }, exec := fun _ => { res := .ok (.tok 2) }, waitCancel := fun _ => false,
    fb := { res := .ok (.tok 3) }, post := { res := .ok "" } }
def exBatchScr : BatchScript :=
  { prep := { res := .ok [] }, post := { res := .ok "" },
    item := fun _ => { exec := fun _ => { res := .ok (.tok 4) }, waitCancel := fun _ => false, fb := { res := .ok (.tok 5) } } }
def exEnv : Env :=
  { kind := .canceled,
    arena := fun id =>
      if id = 0 then .flow (some 1) [⟨1, "default", some 2⟩, ⟨2, "default", some 3⟩]
      else if id = 2 then .batch exBatch else .leaf exLeaf,
    leafBeh := fun _ _ => exLeafScr, batchBeh := fun _ _ => exBatchScr }
def exSt : RunSt := { ctx := .live, visits := fun _ => 0 }

/-- **Whenever a run succeeds, the action it reports is non-empty** — for a plain node, a
    function-style node, a batch node (also one whose prep produced no items), and a flow used as a
    node, run directly or as a step of a flow nested to any depth. -/
theorem success_action_nonempty (env : Env) (fuel : Nat) (id : NodeId) (sid : StoreId) (st : RunSt) (a : Action)
    (h : (runNode env fuel id sid st).2.2 = .ok a) : a ≠ "" := by
  have := (run_good env fuel).1 id sid st
  rw [h] at this
  exact this

-- every post of the example returns "", the run of the flow reports "default"
example : (runNode exEnv 6 0 0 exSt).2.2 = .ok "default" := by decide

/-- … and a run never reports an action together with an error. -/
theorem never_action_and_error (env : Env) (fuel : Nat) (id : NodeId) (sid : StoreId) (st : RunSt) (a : Action)
    (e : ErrRoot) : (runNode env fuel id sid st).2.2 ≠ .both a e := by
  intro h
  have := (run_good env fuel).1 id sid st
  rw [h] at this
  exact this

/-- the same for the loop of `Flow.Exec` started at any node with any table: the action a flow ends
    with (and hands to `Flow.Post`) is non-empty -/
theorem flow_exec_action_nonempty (env : Env) (fuel : Nat) (tbl : Table) (cur : NodeId) (sid : StoreId) (st : RunSt)
    (a : Action) (h : (flowLoop env fuel tbl cur sid st).2.2 = .ok a) : a ≠ "" := by
  have := (run_good env fuel).2 tbl cur sid st
  rw [h] at this
  exact this

/-- **An empty action from the post phase is reported as the default action** (plain and
    function-style nodes): a successful run reports `norm` of what post returned, `norm "" = "default"`. -/
theorem leaf_reports_normalised (kind : CtxKind) (n v sid : Nat) (cfg : LeafCfg) (scr : LeafScript) (ctx : Ctx)
    (a : Action) (h : (runLeaf kind n v sid cfg scr ctx).2.2 = .ok a) :
    (cfg.postS = .absent ∧ a = defaultAction) ∨ (∃ a', scr.post.res = .ok a' ∧ a = norm a') := by
  cases ctx with
  | done k => simp [runLeaf] at h
  | live =>
    have hs := Flyt.Proofs.Leaf.runLeaf_live_spec kind n v sid cfg scr
    rw [h] at hs
    generalize (runLeaf kind n v sid cfg scr .live).1 = evs at hs
    cases hs with
    | ran _ _ _ _ _ _ _ hpost =>
      cases hpost with
      | noPost hps => exact Or.inl ⟨hps, rfl⟩
      | postOk _ hr => exact Or.inr ⟨_, hr, rfl⟩

theorem norm_empty : norm "" = defaultAction ∧ defaultAction = "default" := by decide

/-- **… uniformly for batch nodes, including a batch whose prep produced no items.** -/
theorem batch_reports_normalised (kind : CtxKind) (n v sid : Nat) (cfg : BatchCfg) (scr : BatchScript) (ctx : Ctx)
    (a : Action) (h : (runBatch kind n v sid cfg scr ctx).2.2 = .ok a) :
    (cfg.hasPost = false ∧ a = defaultAction) ∨ (∃ a', scr.post.res = .ok a' ∧ a = norm a') := by
  rw [Flyt.Proofs.runBatch_out] at h
  revert h
  cases scr.prep.res <;> cases cfg.hasPost <;> cases scr.post.res <;> intro h <;> cases h <;> simp

-- the empty batch of the example: prep returns no items, post returns "", the run reports "default"
example : runBatch .canceled 2 0 0 exBatch exBatchScr .live =
    ([.bprep 2 0 0, .bpost 2 0 0 [] []], .live, .ok "default") := by decide

/-- **… and for a flow used as a node**: it reports `norm` of the action its last node returned. -/
theorem flow_reports_normalised (env : Env) (fuel : Nat) (id : NodeId) (sid : StoreId) (st : RunSt)
    (start : Option NodeId) (ops : List ConnOp) (harena : env.arena id = .flow start ops) (a : Action)
    (h : (runNode env (fuel + 1) id sid st).2.2 = .ok a) :
    ∃ s a', start = some s ∧ (flowLoop env fuel (buildTable ops) s sid st).2.2 = .ok a' ∧ a = norm a' := by
  unfold runNode at h
  rw [harena] at h
  simp only [] at h
  split at h
  · simp at h
  · split at h
    · simp at h
    · rename_i s
      split at h
      · rename_i evs st' a' hfl
        simp at h
        exact ⟨s, a', rfl, by rw [hfl], h.symm⟩
      · rename_i hr
        exact (hr _ _ a (Prod.ext rfl (Prod.ext rfl h))).elim

/-- **So a connection on the default action is always followed**: when the current node of a flow
    succeeds with action `a` (non-empty by the theorems above; `"default"` when its post returned `""`)
    and the table has a successor for `(cur, a)`, `Flow.Exec` goes on with that successor. -/
theorem successor_followed (env : Env) (fuel : Nat) (tbl : Table) (cur nxt : NodeId) (sid : StoreId) (st st' : RunSt)
    (evs : List Ev) (a : Action) (hl : st.ctx = .live)
    (hrun : runNode env fuel cur sid st = (evs, st', .ok a))
    (hnext : tableLookup tbl cur a = some (some nxt)) :
    a ≠ "" ∧
    flowLoop env (fuel + 1) tbl cur sid st =
      (evs ++ (flowLoop env fuel tbl nxt sid st').1, (flowLoop env fuel tbl nxt sid st').2.1,
       (flowLoop env fuel tbl nxt sid st').2.2) := by
  constructor
  · exact success_action_nonempty env fuel cur sid st a (by rw [hrun])
  · rw [flowLoop]
    simp only [hl, hrun, hnext]

/-- a leaf whose post returned the empty action, inside a flow that connects it on `"default"`: the
    successor runs -/
theorem default_connection_followed (env : Env) (fuel : Nat) (tbl : Table) (cur nxt : NodeId) (sid : StoreId)
    (st : RunSt) (cfg : LeafCfg) (hl : st.ctx = .live) (harena : env.arena cur = .leaf cfg)
    (hpost : (env.leafBeh cur (st.visits cur)).post.res = .ok "") (hps : cfg.postS ≠ .absent)
    (a : Action) (hok : (runNode env (fuel + 1) cur sid st).2.2 = .ok a)
    (hnext : tableLookup tbl cur defaultAction = some (some nxt)) :
    a = defaultAction ∧
    (flowLoop env (fuel + 2) tbl cur sid st).1 =
      (runNode env (fuel + 1) cur sid st).1 ++
        (flowLoop env (fuel + 1) tbl nxt sid (runNode env (fuel + 1) cur sid st).2.1).1 := by
  have ha : a = defaultAction := by
    rw [runNode_leaf env fuel cur sid st cfg harena] at hok
    rcases leaf_reports_normalised _ _ _ _ _ _ _ a hok with ⟨h, _⟩ | ⟨a', h1, h2⟩
    · exact absurd h hps
    · rw [hpost] at h1; cases h1; rw [h2]; rfl
  subst ha
  refine ⟨rfl, ?_⟩
  have := (successor_followed env (fuel + 1) tbl cur nxt sid st (runNode env (fuel + 1) cur sid st).2.1
    (runNode env (fuel + 1) cur sid st).1 defaultAction hl (Prod.ext rfl (Prod.ext rfl hok)) hnext).2
  rw [this]

-- the hypotheses of `default_connection_followed` on the example: leaf 1 is connected on "default" to the
-- (empty) batch 2, its post returns ""
example : exSt.ctx = .live ∧ exEnv.arena 1 = .leaf exLeaf ∧ (exEnv.leafBeh 1 (exSt.visits 1)).post.res = .ok "" ∧
    exLeaf.postS ≠ .absent ∧ (runNode exEnv 4 1 0 exSt).2.2 = .ok "default" ∧
    tableLookup (buildTable [⟨1, "default", some 2⟩, ⟨2, "default", some 3⟩]) 1 defaultAction = some (some 2) :=
  ⟨rfl, rfl, rfl, by decide, by decide, by decide⟩

-- in the example flow both connections are on "default" and every post returns "": all three nodes run
example : ((runNode exEnv 6 0 0 exSt).1.map Spec.evKey).eraseDups = [(1, 0), (2, 0), (3, 0)] := by decide

theorem c18_bridge (env : Env) (fuel : Nat) (root : NodeId) (sid : StoreId) (st : RunSt) (tr : List Ev) (store : List Nat) :
    Spec.c18 { trace := tr, out := (runNode env fuel root sid st).2.2, store := store } = true :=
  (good_iff_c18 _ tr store).mp ((run_good env fuel).1 root sid st)

open Flyt.Proofs in
/-- **A connection is always followed — on ANY action, in particular the default one**: in a run of a flat flow
    without cancellation, a visit `(n, v)` (position `i` of the visit sequence of the trace) that returns action
    `a` with `(n, a)` connected to `d` is followed by a visit of `d`. -/
theorem connections_followed (env : Env) (hcf : CancelFree env)
    (hprep : ∀ n cfg, env.arena n = .leaf cfg → cfg.prepS ≠ .absent)
    (fuel : Nat) (root : NodeId) (st : RunSt) (hlive : st.ctx = .live)
    (hfuel : (runNode env fuel root 0 st).2.2 ≠ .fuel)
    {s ops} (hA : env.arena root = .flow (some s) ops) (hflat : Spec.isFlatFlow env ops s = true) :
    FollowedKeys env ops (Spec.visitSeq (Spec.noWaits (runNode env fuel root 0 st).1)) := by
  have hb := big_of_runNode (st' := (runNode env fuel root 0 st).2.1) rfl hfuel
  obtain ⟨hlt, hF⟩ := flat_run_keys env fuel root st hprep hlive rfl hfuel (big_cancelFree hb hcf) hA hflat
  have := specPath_followed env ops ((Spec.visitSeq (Spec.noWaits (runNode env fuel root 0 st).1)).length + 1) s st.visits
    (by rw [hF _ (Nat.le_succ _)]; exact Nat.lt_succ_self _)
  rwa [hF _ (Nat.le_succ _)] at this

open Flyt.Proofs in
/-- **`Spec.c18Followed` holds of the model's own observation** of a run on a live context, store 0, without
    cancellation (`CancelFree env`: what the driver computes), with enough fuel, whenever every leaf of the arena
    has a prep callback (as for `Spec.c03`: a node without any callback leaves no event, so its visit cannot be
    seen in the trace — see the example below; generated flows satisfy this).  `storeOf`: whatever the driver
    records as the store log (`storeLog` in `Driver.FlowFam.obsOf`). -/
theorem c18Followed_bridge (env : Env) (hcf : CancelFree env)
    (hprep : ∀ n cfg, env.arena n = .leaf cfg → cfg.prepS ≠ .absent)
    (fuel : Nat) (root : NodeId) (st : RunSt) (hlive : st.ctx = .live)
    (hfuel : (runNode env fuel root 0 st).2.2 ≠ .fuel) (storeOf : List Ev → List Nat) :
    Spec.c18Followed env root (obsWith storeOf (runNode env fuel root 0 st)) = true :=
  have hb := big_of_runNode (st' := (runNode env fuel root 0 st).2.1) rfl hfuel
  spec_c18Followed_of_run env fuel root st hprep hlive rfl hfuel (big_cancelFree hb hcf) _

-- the hypotheses on the example (1 —default→ 2 —default→ 3, every post returns ""), and the interesting branch:
-- all three visits return the default action, the two connections on it are followed, the last visit has none
example : Flyt.Proofs.CancelFree exEnv :=
  ⟨fun _ _ => ⟨rfl, fun _ => rfl, fun _ => rfl, rfl, rfl⟩, fun _ _ => ⟨rfl, rfl, fun _ => ⟨fun _ => rfl, fun _ => rfl, rfl⟩⟩⟩
example : ∀ n cfg, exEnv.arena n = .leaf cfg → cfg.prepS ≠ .absent := by
  intro n cfg h
  simp only [exEnv] at h
  split at h
  · cases h
  · split at h <;> cases h
    simp [exLeaf]
example : Spec.isFlatFlow exEnv [⟨1, "default", some 2⟩, ⟨2, "default", some 3⟩] 1 = true ∧
    Spec.visitSeq (Flyt.Proofs.obsWith Flyt.Proofs.storeLog (runNode exEnv 6 0 0 exSt)).trace = [(1, 0), (2, 0), (3, 0)] ∧
    ([(1, 0), (2, 0), (3, 0)].map fun p => Spec.visitAction exEnv p.1 p.2) = [some "default", some "default", some "default"] ∧
    Spec.c18Followed exEnv 0 (Flyt.Proofs.obsWith Flyt.Proofs.storeLog (runNode exEnv 6 0 0 exSt)) = true := by decide
-- the predicate is not trivially true: it rejects a trace in which the batch node 2 was skipped, and one that
-- stops after node 1
example : Spec.c18Followed exEnv 0 ⟨[.prep 1 0 0, .post 1 0 0 (.tok 1) (.tok 2), .prep 3 0 0], .ok "default", []⟩ = false ∧
    Spec.c18Followed exEnv 0 ⟨[.prep 1 0 0, .post 1 0 0 (.tok 1) (.tok 2)], .ok "default", []⟩ = false := by decide

/-- the same flow with a node 2 that has no callback at all: its visit leaves no event -/
def exEnvSilent : Env :=
  { exEnv with
    arena := fun id =>
      if id = 0 then .flow (some 1) [⟨1, "default", some 2⟩, ⟨2, "default", some 3⟩]
      else if id = 2 then .leaf { exLeaf with prepS := .absent, execS := .absent, postS := .absent } else .leaf exLeaf }

-- why `hprep` is needed: the model does follow both connections (node 3, reachable through node 2 only, runs),
-- but the visit of the silent node 2 is invisible in the trace, so the predicate — which sees 1 followed by 3 —
-- is false on the model's observation
example : Spec.visitSeq (runNode exEnvSilent 6 0 0 exSt).1 = [(1, 0), (3, 0)] ∧
    Spec.c18Followed exEnvSilent 0 (Flyt.Proofs.obsWith Flyt.Proofs.storeLog (runNode exEnvSilent 6 0 0 exSt)) = false := by
  decide

end Flyt.Props.C18
