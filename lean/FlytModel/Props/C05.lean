import FlytModel.Proofs.SpecBridge
import FlytModel.Proofs.ExampleEnv
/-!
# C05 — Cancellation stops runs and flows and is reported as such

Theorems about `runNode` / `flowLoop` (`Model/Flow.lean`) for EVERY arena (any nesting depth), behaviour,
run state, store, fuel that does not run out, and both context kinds (`env.kind`: cancel / deadline).

Vocabulary: `cancelsAt env e` (`Proofs/Cancel.lean`) — the callback invocation recorded as event `e` cancels the
run's context according to its script (`Spec.scriptCancels`), or `e` is a wait between retries that was cut
short by an asynchronous cancellation.  Batch nodes run directly are outside this property (DESIGN B6: `runBatch`
has no context check before prep; their behaviour under cancellation is C11).
-/
namespace Flyt.Props.C05
open Flyt Flyt.Proofs

/-- **(i) Context already done.**  A leaf or a flow run on a context that is already done invokes no user
    callback, leaves the run state untouched and returns the context's own error (`canceled` / `deadline`). -/
theorem done_ctx_no_callbacks (env : Env) (fuel : Nat) (root : NodeId) (sid : StoreId) (st : RunSt) (k : CtxKind)
    (hdone : st.ctx = .done k) (hnb : ∀ cfg, env.arena root ≠ .batch cfg) :
    runNode env (fuel + 1) root sid st = ([], st, .err (.ctx k)) := by
  cases hA : env.arena root with
  | leaf cfg => rw [runNode_leaf hA, leafStep_done hdone]
  | batch cfg => exact absurd hA (hnb cfg)
  | flow s ops => simp [runNode, hA, hdone]

/-- … and so does the loop of `Flow.Exec` entered at any node ("flow: exec cancelled"): no further node is started. -/
theorem done_ctx_no_further_node (env : Env) (fuel : Nat) (tbl : Table) (cur : NodeId) (sid : StoreId) (st : RunSt)
    (k : CtxKind) (hdone : st.ctx = .done k) :
    flowLoop env (fuel + 1) tbl cur sid st = ([], st, .err (.ctx k)) := by
  simp [flowLoop, hdone]

example : runNode Ex.env1 10 0 7 Ex.stDone = ([], Ex.stDone, .err (.ctx .deadline)) ∧
    runNode Ex.env1 10 1 7 Ex.stDone = ([], Ex.stDone, .err (.ctx .deadline)) :=
  ⟨done_ctx_no_callbacks Ex.env1 9 0 7 Ex.stDone .deadline rfl (by intro c h; cases h),
   done_ctx_no_callbacks Ex.env1 9 1 7 Ex.stDone .deadline rfl (by intro c h; cases h)⟩

/-- **(ii) Nothing new is started after a cancellation.**  Whatever follows a cancelling event `c` in the
    trace of a run belongs to the same visit of the same node as `c` and is that visit's fallback or post
    callback (or, inside a batch node, a further event of that batch node: C11).  In particular … -/
theorem after_cancel_only_same_visit (env : Env) (fuel : Nat) (root : NodeId) (sid : StoreId) (st : RunSt)
    {evs st' out} (h : runNode env fuel root sid st = (evs, st', out)) (hfuel : out ≠ .fuel)
    {pre post : List Ev} {c : Ev} (hsplit : evs = pre ++ c :: post) (hc : cancelsAt env c = true) :
    ∀ e ∈ post, Spec.evKey e = Spec.evKey c ∧
      (Spec.isFbEv e || Spec.isPostEv e || Spec.isBatchEv e) = true := by
  have ht := big_cancelTail (big_of_runNode h hfuel)
  unfold CancelTail at ht
  rw [hsplit, List.pairwise_append, List.pairwise_cons] at ht
  intro e he
  exact ht.2.1.1 e he hc

/-- … **no exec attempt is started** after the cancellation, and **no other node is touched**. -/
theorem after_cancel_no_exec_no_other_node (env : Env) (fuel : Nat) (root : NodeId) (sid : StoreId) (st : RunSt)
    {evs st' out} (h : runNode env fuel root sid st = (evs, st', out)) (hfuel : out ≠ .fuel)
    {pre post : List Ev} {c : Ev} (hsplit : evs = pre ++ c :: post) (hc : cancelsAt env c = true) :
    ∀ e ∈ post, Spec.isExecEv e = false ∧ Spec.isPrepEv e = false ∧ (Spec.evKey e).1 = (Spec.evKey c).1 := by
  intro e he
  obtain ⟨hk, hl⟩ := after_cancel_only_same_visit env fuel root sid st h hfuel hsplit hc e he
  refine ⟨?_, ?_, by rw [hk]⟩ <;> cases e <;> simp_all [Spec.isExecEv, Spec.isPrepEv, Spec.isFbEv, Spec.isPostEv, Spec.isBatchEv]

example : cancelsAt Ex.envCancel (.post 4 0 7 (.tok 1) (.tok 2)) = true ∧
    (runNode Ex.envCancel 10 0 7 Ex.st0).1.getLast? = some (.post 4 0 7 (.tok 1) (.tok 2)) ∧
    (runNode Ex.envCancel 10 0 7 Ex.st0).2.2 = .err (.ctx .canceled) ∧
    (runNode Ex.envExecCancel 10 0 7 Ex.st0).1 = [.prep 1 0 7, .exec 1 0 0 (.tok 1)] ∧
    (runNode Ex.envExecCancel 10 0 7 Ex.st0).2.2 = .err (.ctx .canceled) := by decide

/-- **(iii) A context error is the context's error.**  Whenever a run reports a context error `k`, the context
    is done with exactly that `k` at the end of the run; for a run started on a live context `k` is the run's
    own kind (cancel ↦ `Canceled`, deadline ↦ `DeadlineExceeded`) and some callback on the path (or an
    asynchronous cancel during a wait) did cancel it.  For a run started on a done context it is that context's error. -/
theorem ctx_error_matches_ctx (env : Env) (fuel : Nat) (root : NodeId) (sid : StoreId) (st : RunSt)
    {evs st' k} (h : runNode env fuel root sid st = (evs, st', .err (.ctx k))) :
    st'.ctx = .done k ∧
    (st.ctx = .live → k = env.kind ∧ ∃ e ∈ evs, cancelsAt env e = true) ∧
    (∀ k0, st.ctx = .done k0 → k = k0) := by
  have hb := big_of_runNode h (by simp)
  have hd := big_ctxErr hb k rfl
  refine ⟨hd, fun hl => big_ctxErr_live hb hl rfl, ?_⟩
  intro k0 h0
  have := (big_track hb).done k0 h0
  rw [this] at hd; cases hd; rfl

/-- **(iii) The context's state decides.**  Without any cancellation a live context stays live and no
    context error is reported; once a callback has cancelled, the context is done for the rest of the run. -/
theorem ctx_after_run (env : Env) (fuel : Nat) (root : NodeId) (sid : StoreId) (st : RunSt)
    {evs st' out} (h : runNode env fuel root sid st = (evs, st', out)) (hfuel : out ≠ .fuel) (hlive : st.ctx = .live) :
    ((∀ e ∈ evs, cancelsAt env e = false) → st'.ctx = .live ∧ ∀ k, out ≠ .err (.ctx k)) ∧
    ((∃ e ∈ evs, cancelsAt env e = true) → st'.ctx = .done env.kind) := by
  have hb := big_of_runNode h hfuel
  constructor
  · intro hq
    refine ⟨(big_track hb).quiet hlive hq, ?_⟩
    intro k hk
    obtain ⟨_, e, he, hz⟩ := big_ctxErr_live hb hlive hk
    rw [hq e he] at hz; cases hz
  · rintro ⟨e, he, hz⟩
    exact (big_track hb).hit hlive e he hz

/-- **(iii) A run that reports success was not cut short.**  `clearEnv env` is the same scenario with every
    cancellation removed (the reference run of `Spec.c05`).  If a run started on a live context returns an action
    — or merely ends with its context still live — then it is, event for event, visit counter for visit counter,
    and in its outcome, the run of the scenario without cancellation: nothing was skipped.  (Cancellation inside
    a batch node's own callbacks is C11's subject and excluded by `hbatch`.) -/
theorem ok_run_was_not_cut_short (env : Env) (fuel : Nat) (root : NodeId) (sid : StoreId) (st : RunSt)
    {evs st' out} (h : runNode env fuel root sid st = (evs, st', out)) (hfuel : out ≠ .fuel)
    (hlive : st.ctx = .live)
    (hbatch : ∀ e ∈ evs, Spec.isBatchEv e = true → cancelsAt env e = false)
    (hok : (∃ a, out = .ok a) ∨ st'.ctx = .live) :
    ∃ f, ∀ f', f ≤ f' → runNode (clearEnv env) f' root sid st = (evs, relive st', out) :=
  runNode_of_big (big_cleared (big_of_runNode h hfuel) hlive hbatch hok.symm)

/-- … contrapositive, the way the property says it: **a run that is cut short does not report success.**
    If the run under cancellation differs in any callback event or in its outcome from the run of the same
    scenario without cancellation, its outcome is not an action (by `ctx_after_run` / `outcome_shapes` it is then
    the context's error, or a user error returned by the very callback that cancelled). -/
theorem cut_short_never_ok (env : Env) (fuel fuel₀ : Nat) (root : NodeId) (sid : StoreId) (st : RunSt)
    {evs st' out evs₀ st₀ out₀} (h : runNode env fuel root sid st = (evs, st', out)) (hfuel : out ≠ .fuel)
    (h₀ : runNode (clearEnv env) fuel₀ root sid st = (evs₀, st₀, out₀)) (hfuel₀ : out₀ ≠ .fuel)
    (hlive : st.ctx = .live)
    (hbatch : ∀ e ∈ evs, Spec.isBatchEv e = true → cancelsAt env e = false)
    (hdiff : evs ≠ evs₀ ∨ out ≠ out₀) : ∀ a, out ≠ .ok a := by
  intro a ha
  have := (big_cleared (big_of_runNode h hfuel) hlive hbatch (.inr ⟨a, ha⟩)).det (big_of_runNode h₀ hfuel₀)
  simp only [Prod.mk.injEq] at this
  rcases hdiff with hd | hd
  · exact hd this.1
  · exact hd this.2.2

example :
    -- cancellation inside post of the LAST node: the run completes, identical to the uncancelled run
    (runNode Ex.envCancelLast 10 0 7 Ex.st0).2.2 = .ok "again" ∧
    (runNode Ex.envCancelLast 10 0 7 Ex.st0).1 = (runNode (clearEnv Ex.envCancelLast) 10 0 7 Ex.st0).1 ∧
    (runNode Ex.envCancelLast 10 0 7 Ex.st0).2.1.ctx = .done .canceled ∧
    -- cancellation inside post of an inner node: cut short, context error
    (runNode Ex.envCancel 10 0 7 Ex.st0).1.length = 6 ∧
    (runNode (clearEnv Ex.envCancel) 10 0 7 Ex.st0).1.length = 12 ∧
    (runNode Ex.envCancel 10 0 7 Ex.st0).2.2 = .err (.ctx .canceled) := by decide

/-- **C05 as the driver evaluates it.**  `Spec.c05 env ctx₀ o ref` holds of the model's own observation `o` of any
    run of a non-batch root and the observation `ref` of the same scenario without cancellation (`clearEnv`, same
    visit counters, live context), whatever function of the event list the store log is. -/
theorem spec_c05 (env : Env) (fuel fuel₀ : Nat) (root : NodeId) (sid : StoreId) (st : RunSt)
    (hnb : ∀ cfg, env.arena root ≠ .batch cfg)
    (hfuel : (runNode env fuel root sid st).2.2 ≠ .fuel)
    (hfuel₀ : (runNode (clearEnv env) fuel₀ root sid (relive st)).2.2 ≠ .fuel)
    (storeOf : List Ev → List Nat) :
    Spec.c05 env st.ctx (obsWith storeOf (runNode env fuel root sid st))
      (obsWith storeOf (runNode (clearEnv env) fuel₀ root sid (relive st))) = true :=
  spec_c05_of_big (big_of_runNode rfl hfuel) hnb (big_of_runNode rfl hfuel₀) storeOf

example : Spec.c05 Ex.envCancel .live (obsWith (fun _ => []) (runNode Ex.envCancel 10 0 7 Ex.st0))
      (obsWith (fun _ => []) (runNode (clearEnv Ex.envCancel) 10 0 7 (relive Ex.st0))) = true ∧
    Spec.c05 Ex.envCancelLast .live (obsWith (fun _ => []) (runNode Ex.envCancelLast 10 0 7 Ex.st0))
      (obsWith (fun _ => []) (runNode (clearEnv Ex.envCancelLast) 10 0 7 (relive Ex.st0))) = true := by decide

end Flyt.Props.C05
