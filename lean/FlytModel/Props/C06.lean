import FlytModel.Proofs.BatchSeq
import FlytModel.Proofs.BatchConc
import FlytModel.Proofs.BatchBridge
/-!
# C06 — Batch results correspond positionally to items; post sees all, once

*Sequential / serial layer* (`runBatch`, Model/Batch.lean): for EVERY configuration, script, context and item
list, by induction over the items. *Concurrent layer* (`Conc.apply`, Model/BatchConc.lean): invariants of
EVERY reachable state, i.e. for every number of workers, channel capacity and schedule (completion order).
Helper lemmas are in `Proofs/BatchSeq.lean` and `Proofs/BatchConc.lean`.
-/
namespace Flyt.Props.C06
open Flyt Flyt.BatchSeq

/-- **Prep normalisation.** `[]Result ↦` itself, `[]any` / typed slice `↦ map NewResult`, a single value
    `↦ [NewResult v]`, nil `↦ []` — always in prep order, never more items than prep produced. -/
theorem prep_normalisation (l : List Val) (x : Val) :
    normItems .results l = l.map toResult ∧ normItems .anys l = l.map newResult ∧
    normItems .typed l = l.map newResult ∧ normItems .single [x] = [newResult x] ∧ normItems .nilv l = [] ∧
    (∀ r : Result, toResult r.box = r) := by
  refine ⟨rfl, rfl, rfl, rfl, rfl, fun r => rfl⟩

example : normItems .results [(newResult (.tok 7)).box, (newErrorResult (.user 3)).box] =
    [newResult (.tok 7), newErrorResult (.user 3)] := by decide

/-- **Post once, after every item, with all items and one slot per item, each slot owned by its item.**
    For a batch node whose prep succeeded and which has a post function, for every concurrency setting of
    `runBatch`: the trace is `bprep`, then only per-item events, then exactly one `bpost` carrying the items in
    prep order and a slot list of the same length; and for every position `j` the item at `j` satisfies
    `Own`: its events are those of `runItem` on ITS OWN script (entered with a live context) and slot `j` is that
    processing's outcome, or it was never processed, has no event, and slot `j` is an error marker. -/
theorem post_once_positional (kind : CtxKind) (n : NodeId) (v : Nat) (sid : StoreId) (cfg : BatchCfg) (scr : BatchScript)
    (ctx : Ctx) (l : List Val) (hp : scr.prep.res = .ok l) (hpost : cfg.hasPost = true) :
    ∃ iev slots,
      (runBatch kind n v sid cfg scr ctx).1 =
        .bprep n v sid :: iev ++
          [.bpost n v sid ((normItems cfg.shape l).map Result.box) (slots.map Result.box)] ∧
      slots.length = (normItems cfg.shape l).length ∧
      (∀ e ∈ iev, ∃ j, evItem e = some j ∧ j < (normItems cfg.shape l).length) ∧
      ∀ j (hj : j < (normItems cfg.shape l).length),
        Own kind n v cfg scr iev slots j j (normItems cfg.shape l)[j] := by
  refine ⟨(itemsSeq kind n v cfg scr (normItems cfg.shape l) 0 (ctx.after kind scr.prep.cancels)).1,
    (itemsSeq kind n v cfg scr (normItems cfg.shape l) 0 (ctx.after kind scr.prep.cancels)).2.2, ?_, ?_, ?_, ?_⟩
  · rw [runBatch_ok kind n v cfg scr sid ctx hp]; simp [hpost]
  · exact itemsSeq_length _ _ _ _ _ _ _ _
  · intro e he
    obtain ⟨j, h1, _, h3⟩ := itemsSeq_evItem _ _ _ _ _ _ _ _ e he
    exact ⟨j, h1, by omega⟩
  · intro j hj
    have := itemsSeq_own kind n v cfg scr (normItems cfg.shape l) 0 (ctx.after kind scr.prep.cancels) j hj
    simpa using this

/-- … in particular the trace contains exactly one post event and it is the last event. -/
theorem post_exactly_once_and_last (kind : CtxKind) (n : NodeId) (v : Nat) (sid : StoreId) (cfg : BatchCfg) (scr : BatchScript)
    (ctx : Ctx) (l : List Val) (hp : scr.prep.res = .ok l) (hpost : cfg.hasPost = true) :
    ((runBatch kind n v sid cfg scr ctx).1.filter isBpost).length = 1 ∧
    ∃ sl, (runBatch kind n v sid cfg scr ctx).1.getLast? =
      some (.bpost n v sid ((normItems cfg.shape l).map Result.box) sl) ∧
      sl.length = (normItems cfg.shape l).length := by
  obtain ⟨iev, slots, h1, h2, h3, _⟩ := post_once_positional kind n v sid cfg scr ctx l hp hpost
  rw [h1]
  constructor
  · have : iev.filter isBpost = [] := List.filter_eq_nil_iff.2 fun e he => by
      obtain ⟨j, hj, _⟩ := h3 e he
      simp [Bridge.isBpost_of_evItem hj]
    simp [List.filter_cons, List.filter_append, this, isBpost]
  · refine ⟨slots.map Result.box, ?_, by simp [h2]⟩
    rw [List.getLast?_append]
    simp

/-- **Slot `j` is the outcome of item `j` and of no other item** (continue mode, no cancellation): the whole
    item phase is the concatenation of each item's own processing, in item order, and the slot list is the list
    of their outcomes — position by position. -/
theorem slots_positional (kind : CtxKind) (n : NodeId) (v : Nat) (cfg : BatchCfg) (scr : BatchScript)
    (hs : cfg.stop = false) (hq : ∀ j, Quiet (scr.item j)) (items : List Result) :
    itemsSeq kind n v cfg scr items 0 .live =
      ((itemRuns kind n v cfg scr items 0).flatMap (·.1), .live,
       (itemRuns kind n v cfg scr items 0).map (fun r => slotOfRes r.2.2)) ∧
    ∀ j, (itemRuns kind n v cfg scr items 0)[j]? =
      items[j]?.map fun it => runItem kind n v cfg j it (scr.item j) .live := by
  refine ⟨itemsSeq_continue kind n v cfg scr hs hq items 0, fun j => ?_⟩
  simpa using itemRuns_getElem? kind n v cfg scr items 0 j

/-- **Bridge (families `batchseq`, `C02`: `Driver.FlowFam.judgeBatchRoot`).** The executable predicate `Spec.c06`,
    evaluated on the model's own observation exactly as the driver does (`Bridge.batchViewOf` / `Bridge.concCfgOf`
    repeat `Driver.FlowFam.batchViewOf` / `concCfgOf` verbatim), is true — for every node with an exec function,
    budget ≥ 1 and a post function, every script whose prep succeeds, every context, every concurrency setting. -/
theorem spec_c06_holds_seq (kind : CtxKind) (n : NodeId) (v : Nat) (sid : StoreId) (cfg : BatchCfg) (scr : BatchScript)
    (ctx : Ctx) (l : List Val) (hp : scr.prep.res = .ok l) (hpost : cfg.hasPost = true) (hex : cfg.execS ≠ .absent)
    (hb : 0 < cfg.budget) :
    Spec.c06 (Bridge.concCfgOf kind cfg scr (normItems cfg.shape l).length) ((normItems cfg.shape l).map Result.box)
      (Bridge.batchViewOf (runBatch kind n v sid cfg scr ctx).1 (runBatch kind n v sid cfg scr ctx).2.2) = true := by
  rw [Bridge.batchViewOf_runBatch n v sid ctx hp hpost]
  have ag := Bridge.agrees_concCfgOf kind cfg scr (normItems cfg.shape l).length
  simp only [Spec.c06, Bool.and_eq_true, beq_iff_eq]
  refine ⟨⟨⟨⟨⟨trivial, trivial⟩, by simp [itemsSeq_length, Bridge.concCfgOf]⟩, ?_⟩, by simp⟩, ?_⟩
  · exact Bridge.itemsSeq_slotMatches n v ag hex hb _ _ rfl
  · rw [List.all_eq_true]
    intro i hi
    obtain ⟨r, _, ho⟩ := Bridge.itemsSeq_origin n v ag (normItems cfg.shape l) (ctx.after kind scr.prep.cancels)
      (List.mem_range.1 hi)
    obtain ⟨m, _, h1, h2, _⟩ := ho.counts
    rw [beq_iff_eq, h1, h2]

/-! ### non-vacuity: a three-item batch, item 1 fails twice then the fallback succeeds -/

def exCfg : BatchCfg :=
  { budget := 2, wait := 0, fb := .custom, conc := 0, stop := false, execS := .any, hasPost := true, shape := .anys }

def exScr : BatchScript :=
  { prep := { res := .ok [.tok 1, .tok 2, .tok 3] },
    item := fun i =>
      { exec := fun k => if i = 1 then { res := .error (10 + k) } else { res := .ok (.tok (100 + i)) },
        waitCancel := fun _ => false,
        fb := { res := .ok (.tok 55) } },
    post := { res := .ok "next" } }

example : exScr.prep.res = .ok [.tok 1, .tok 2, .tok 3] ∧ exCfg.hasPost = true ∧ exCfg.execS ≠ .absent ∧ 0 < exCfg.budget :=
  ⟨rfl, rfl, by decide, by decide⟩
example : exCfg.stop = false := rfl
example : ∀ j, Quiet (exScr.item j) := by
  intro j; refine ⟨fun k => ?_, fun _ => rfl, rfl⟩
  simp only [exScr]; split <;> rfl

example : (runBatch .canceled 0 0 0 exCfg exScr .live).1 =
    [.bprep 0 0 0, .bexec 0 0 0 0 (.tok 1), .bexec 0 0 1 0 (.tok 2), .bexec 0 0 1 1 (.tok 2),
     .bfb 0 0 1 (.res (.tok 2) none) (.user 11), .bexec 0 0 2 0 (.tok 3),
     .bpost 0 0 0 [.res (.tok 1) none, .res (.tok 2) none, .res (.tok 3) none]
       [.res (.tok 100) none, .res (.tok 55) none, .res (.tok 102) none]] := by decide

open Flyt.Conc

/-- **Slot `i` holds the outcome of item `i`'s own processing — in every reachable state.** Whatever the
    schedule, a written slot `i` is explained (`Origin`) by item `i`'s own script and its own events only:
    stopped / cancelled before it ran, cut by cancellation after `k` failed attempts, the value of its first
    successful attempt, its fallback's outcome, or its last attempt's error. -/
theorem slot_is_own_outcome {c : Cfg} {s : BState} (hr : Reachable c s) {i : Nat} {r : Result}
    (h : s.slots[i]? = some (some r)) : Origin c s.cancelled (hist s) i r :=
  (logInv_reachable hr).slots i r h

/-- **Slot `i` is written only by the task created for index `i`, once.** A step that changes slot `j` is the
    final step of task `j`; afterwards the slot never changes again. -/
theorem slot_written_by_own_task_once {c : Cfg} {s s' : BState} {l : Label} {j : Nat} (hr : Reachable c s)
    (hs : apply c s l = some s') :
    (s'.slots[j]? ≠ s.slots[j]? → l = .step j ∧ j ∈ ids s ∧ j ∉ ids s') ∧
    (∀ r s'', s'.slots[j]? = some (some r) → Path c s' s'' → s''.slots[j]? = some (some r)) :=
  ⟨slot_change (trans_of_apply hs), fun _ _ h p => slot_stable (hr.step ⟨l, hs⟩) p h⟩

/-- **Each index has exactly one task and is in exactly one place**: queued, held by a worker, or finished with
    its slot written; the slot list always has length `n`; at most `w` tasks run; the channel never overflows. -/
theorem one_task_per_index {c : Cfg} {s : BState} (hr : Reachable c s) :
    s.slots.length = c.n ∧ (s.queue ++ ids s).Nodup ∧ s.running.length + s.idle = c.w ∧ s.queue.length ≤ c.cap ∧
    ∀ i, i < c.n →
      ((∃ r, s.slots[i]? = some (some r)) ↔ (i < s.next ∧ i ∉ s.queue ∧ i ∉ ids s)) := by
  have h := inv_reachable hr
  exact ⟨h.slotsLen, h.nodup, h.workers, h.qcap, fun i _ => h.slotIff i⟩

/-- **Post is enabled only when `wg = 0` and all `n` tasks have finished; it then sees every slot written,
    `n` slots, each the item's own outcome.** -/
theorem post_after_all_settled {c : Cfg} {s s' : BState} (hr : Reachable c s) (hw : apply c s .waitRet = some s') :
    s.next = c.n ∧ s.queue = [] ∧ s.running = [] ∧ s'.slots = s.slots ∧ s'.slots.length = c.n ∧
    ∀ i, i < c.n → ∃ r, s'.slots[i]? = some (some r) ∧ Origin c s.cancelled (hist s) i r := by
  obtain ⟨hn, hq, hrun, _, rfl⟩ := waitRet_inv hw
  refine ⟨hn, hq, hrun, rfl, (inv_reachable hr).slotsLen, fun i hi => ?_⟩
  obtain ⟨r, h⟩ := all_slots_written hr hn hq hrun i hi
  exact ⟨r, h, (logInv_reachable hr).slots i r h⟩

/-- **Post occurs at most once** on every schedule: the log of a reachable state contains one post event if
    `Wait` has returned and none otherwise, and `Wait` cannot return a second time. -/
theorem post_at_most_once {c : Cfg} {s : BState} (hr : Reachable c s) :
    s.log.count .post = (if s.posted then 1 else 0) ∧ (s.posted = true → apply c s .waitRet = none) := by
  refine ⟨(flagInv_reachable hr).postCount, fun hp => ?_⟩
  simp [apply, hp]

/-- **Bridge.** The executable predicate `Spec.c06` that the driver evaluates holds of the model's observation
    in the state right after post, for every schedule (nodes with an exec function and budget ≥ 1). -/
theorem spec_c06_holds {c : Cfg} {s s' : BState} (items : List Val) (hr : Reachable c s) (hex : c.execS ≠ .absent)
    (hb : 0 < c.budget) (hw : apply c s .waitRet = some s') : Spec.c06 c items (viewOf s' items) = true := by
  have hr' : Reachable c s' := hr.step ⟨_, hw⟩
  obtain ⟨_, _, _, _, rfl⟩ := waitRet_inv hw
  simp only [Spec.c06, Bool.and_eq_true, beq_iff_eq]
  refine ⟨⟨⟨⟨⟨by simp [viewOf], by simp [viewOf]⟩, by simp [viewOf, (inv_reachable hr).slotsLen]⟩, ?_⟩,
    by simp [viewOf, hist]⟩, ?_⟩
  · exact viewOf_slotMatches items hr' rfl hex hb
  · rw [List.all_eq_true]
    intro i hi
    obtain ⟨r, _, ho⟩ := posted_slots hr' rfl (List.mem_range.1 hi)
    obtain ⟨m, _, h1, h2, _⟩ := ho.counts
    rw [beq_iff_eq]
    exact (congrArg List.length h1).trans (congrArg List.length h2).symm

/-- the states the gated simulation (and hence the driver) visits are reachable -/
theorem simulate_states_reachable {c : Cfg} {fuel : Nat} {ds : List Decision} {sts : List BState}
    (h : simulate c fuel ds = some sts) : ∀ x ∈ sts, Reachable c x :=
  simulate_reachable h

/-! ### non-vacuity: 3 items on 2 workers, item 1 released first, then 0, then 2 -/

def exConc : Cfg :=
  { n := 3, w := 2, cap := 4, stop := false, budget := 1, fb := .passThrough, execS := .any,
    exec := fun i _ => { res := .ok (.tok (100 + i)) }, fbOut := fun _ => { res := .error 0 }, kind := .canceled }

example : ((simulate exConc 200 [.release 1, .release 0, .release 2]).map fun sts =>
      sts.map fun s => (s.slots, s.posted, parked s)) =
    some [([none, none, none], false, [(0, 0), (1, 0)]),
          ([none, some (newResult (.tok 101)), none], false, [(0, 0), (2, 0)]),
          ([some (newResult (.tok 100)), some (newResult (.tok 101)), none], false, [(2, 0)]),
          ([some (newResult (.tok 100)), some (newResult (.tok 101)), some (newResult (.tok 102))], true, [])] := by
  decide

-- the hypotheses of the bridge are met, and the predicate is non-trivially true on that run's final state
example : exConc.execS ≠ .absent ∧ 0 < exConc.budget := by decide
example : ((simulate exConc 200 [.release 1, .release 0, .release 2]).bind fun sts =>
      sts.getLast?.map fun s => Spec.c06 exConc [] (viewOf s [])) = some true := by decide

end Flyt.Props.C06
