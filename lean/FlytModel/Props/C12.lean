import FlytModel.Proofs.Pool
/-!
# C12 — Worker pool: tasks run exactly once, Wait is a barrier, Close leaks nothing

All statements are about **every reachable state / every path** of the pool LTS (`Model/Pool.lean`):
any number of submitting goroutines, any interleaving, any queue capacity, any pool size.
-/
namespace Flyt.Props.C12
open Flyt.Pool

inductive Path : Pool → Pool → Prop
  | refl (p) : Path p p
  | step {p q r} : Path p q → Step q r → Path p r

theorem Path.head {p q r : Pool} (hs : Step p q) (h : Path q r) : Path p r := by
  induction h with
  | refl => exact .step (.refl p) hs
  | step _ hs' ih => exact .step ih hs'

theorem reachable_path {cap : Nat} {workers : Int} {p q : Pool} (hp : Reachable cap workers p) (h : Path p q) :
    Reachable cap workers q := by
  induction h with
  | refl => exact hp
  | step _ hs ih => exact .step ih hs

/-- **Never dropped**: along every path, a task that has been submitted (`wg.Add` done) is, for ever after,
    in exactly one of: waiting to be sent, queued, running, finished. -/
theorem never_dropped {p q : Pool} (h : Path p q) : ∀ t, t ∈ p.tasks → t ∈ q.tasks := by
  induction h with
  | refl => exact fun _ h => h
  | step _ hs ih => obtain ⟨l, hl⟩ := hs; exact fun t ht => tasks_mono hl t (ih t ht)

/-- **At most once**: in every reachable state a task occupies exactly one place — it is never queued
    twice, never run by two workers, never run again after it finished. -/
theorem at_most_once {cap : Nat} {workers : Int} {p : Pool} (h : Reachable cap workers p) :
    (p.pend ++ p.queue ++ p.running ++ p.finished).Nodup :=
  (inv_reachable h).nodup

/-- … in particular a finished task is not running or queued any more, and stays finished. -/
theorem finished_is_final {cap : Nat} {workers : Int} {p q : Pool} (hp : Reachable cap workers p) (h : Path p q)
    (t : Nat) (ht : t ∈ p.finished) : t ∈ q.finished ∧ t ∉ q.running ∧ t ∉ q.queue ∧ t ∉ q.pend := by
  have hq : t ∈ q.finished := by
    induction h with
    | refl => exact ht
    | step _ hs ih => obtain ⟨l, hl⟩ := hs; exact finished_mono hl t ih
  have nd := (List.nodup_append.mp (at_most_once (reachable_path hp h))).2.2
  simp only [List.mem_append] at nd
  exact ⟨hq, fun hc => nd t (.inr hc) t hq rfl, fun hc => nd t (.inl (.inr hc)) t hq rfl,
    fun hc => nd t (.inl (.inl hc)) t hq rfl⟩

/-- **Submit blocks rather than drops**: the send step is enabled only while the queue has room; a task
    whose send is not enabled simply stays pending (by `never_dropped`). -/
theorem send_needs_room {p q : Pool} {t : Nat} (h : apply p (.send t) = some q) :
    p.queue.length < p.cap ∧ t ∈ q.queue := by
  cases fires_of_apply h with
  | send _ _ hr => exact ⟨hr, List.mem_append_right _ (List.mem_singleton_self t)⟩

/-- **Wait is a barrier**: whenever `Wait` returns, every task submitted so far has finished. -/
theorem wait_barrier {cap : Nat} {workers : Int} {p q : Pool} (hp : Reachable cap workers p)
    (h : apply p .waitRet = some q) : ∀ t, t ∈ p.tasks → t ∈ q.finished := by
  cases fires_of_apply h with
  | waitRet _ h0 =>
    obtain ⟨e1, e2, e3⟩ := (inv_reachable hp).wg_zero h0
    intro t ht
    simpa [Pool.tasks, e1, e2, e3] using ht

/-- … stated over a whole history: tasks submitted before some point `p` are all finished when a `Wait`
    returns at any later point — round after round on one pool. -/
theorem wait_barrier_history {cap : Nat} {workers : Int} {p q r : Pool} (hp : Reachable cap workers p)
    (hpq : Path p q) (h : apply q .waitRet = some r) : ∀ t, t ∈ p.tasks → t ∈ r.finished :=
  fun t ht => wait_barrier (reachable_path hp hpq) h t (never_dropped hpq t ht)

/-- `Wait` cannot return while a task is still pending, queued or running. -/
theorem wait_blocks {cap : Nat} {workers : Int} {p : Pool} (hp : Reachable cap workers p)
    (hbusy : p.pend ≠ [] ∨ p.queue ≠ [] ∨ p.running ≠ []) : apply p .waitRet = none := by
  rw [apply, if_neg]
  intro hc
  obtain ⟨e1, e2, e3⟩ := (inv_reachable hp).wg_zero hc.2
  rcases hbusy with h | h | h <;> contradiction

/-- `n` workers leave one after the other -/
def exitAll : Nat → Pool → Pool
  | 0, p => p
  | n + 1, p => match apply p .exit with
    | some q => exitAll n q
    | none => p

theorem exitAll_spec (n : Nat) (p : Pool) (hc : p.closed = true) (hi : p.idle = n) :
    (exitAll n p).idle = 0 ∧ (exitAll n p).exited = p.exited + n ∧ Path p (exitAll n p) := by
  induction n generalizing p with
  | zero => exact ⟨by simpa [exitAll] using hi, by simp [exitAll], .refl p⟩
  | succ n ih =>
    have : apply p .exit = some { p with idle := p.idle - 1, exited := p.exited + 1 } := by
      simp [apply, hc, hi]
    simp only [exitAll, this]
    obtain ⟨a, b, c⟩ := ih { p with idle := p.idle - 1, exited := p.exited + 1 } (by simpa using hc) (by simp [hi])
    exact ⟨a, by rw [b]; simp; omega, .head ⟨.exit, this⟩ c⟩

/-- **Close leaks nothing**: after `Wait` has returned (`wg = 0`) and `Close` was called, no worker can take or
    run anything any more, every remaining worker can (only) leave, and when they have all done so every one
    of the `w` goroutines the pool started has terminated. -/
theorem close_leaks_nothing {cap : Nat} {workers : Int} {p : Pool} (hp : Reachable cap workers p)
    (hclosed : p.closed = true) (hwg : p.wg = 0) :
    apply p .take = none ∧ (∀ t, apply p (.finish t) = none) ∧
    (p.idle > 0 → (apply p .exit).isSome) ∧
    (exitAll p.idle p).exited = p.w ∧ (exitAll p.idle p).idle = 0 ∧ Path p (exitAll p.idle p) := by
  have inv := inv_reachable hp
  obtain ⟨_, e2, e3⟩ := inv.wg_zero hwg
  obtain ⟨a, b, c⟩ := exitAll_spec p.idle p hclosed rfl
  refine ⟨by simp [apply, e2], by intro t; simp [apply, e3], ?_, ?_, a, c⟩
  · intro hi; simp [apply, hclosed, hi]
  · rw [b]; have := inv.workers; rw [e3] at this; simp at this; omega

/-- a pool size ≤ 0 means one worker; otherwise exactly that many -/
theorem pool_size (cap : Nat) (workers : Int) :
    (init cap workers).w = (if workers ≤ 0 then 1 else workers.toNat) ∧ (init cap workers).idle = (init cap workers).w := by
  simp [init]

/-- 2 workers, capacity 1: submit 0,1,2 (the third send has to wait), run, Wait, Close -/
def demo : Option Pool := do
  let p ← apply (init 1 2) (.add 0)
  let p ← apply p (.send 0)
  let p ← apply p .take
  let p ← apply p (.add 1)
  let p ← apply p (.send 1)
  let p ← apply p (.add 2)
  let p ← apply p .take
  let p ← apply p (.send 2)
  let p ← apply p .callWait
  let p ← apply p (.finish 0)
  let p ← apply p .take
  let p ← apply p (.finish 1)
  let p ← apply p (.finish 2)
  let p ← apply p .waitRet
  apply p .close

example : (demo.map fun p => (p.finished, p.wg, p.waitDone, p.closed, p.idle)) = some ([2, 1, 0], 0, 1, true, 2) := by decide
-- the third send is not enabled while the queue is full
example : (do
    let p ← apply (init 1 1) (.add 0); let p ← apply p (.send 0); let p ← apply p (.add 1)
    apply p (.send 1)) = none := by decide
-- Wait does not return while a task runs
example : (do
    let p ← apply (init 1 1) (.add 0); let p ← apply p (.send 0); let p ← apply p .take; let p ← apply p .callWait
    apply p .waitRet) = none := by decide

end Flyt.Props.C12
