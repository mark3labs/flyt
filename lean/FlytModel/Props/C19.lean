import FlytModel.Proofs.ConfigFields
/-!
# C19 — Configuration styles are equivalent; defaults and last-setting-wins hold

Theorems about `Flyt.Config` (Model/Config.lean), the setter-by-setter model of flyt's option
functions, constructors and builder methods. All statements quantify over ALL step sequences
(any length, any values, any tags); nothing here is checked by enumeration.
-/
namespace Flyt.Props.C19
open Flyt.Config

/-- **Last setting wins, whatever the style.** For every sequence of (setting, form) in the domain of
    the builder kind, the node Go builds — option-form steps handed to the constructor (which, for
    `NewNode`, applies base options before function options), builder-form steps chained afterwards —
    carries for EVERY parameter the value of the last step that sets it in execution order, and the
    documented default where no step sets it. `lastWins` never looks at the form of a step. -/
theorem build_eq_lastWins (k : Kind) (steps : List Step)
    (hdom : ∀ s, s ∈ steps → inDomain k s = true) :
    build k steps = lastWins k (effective steps) :=
  (build_eq_foldl k steps hdom).trans (foldl_written k _ [])

/-- non-vacuity: a mixed sequence in which the builder-form retry setting is written BEFORE an
    option-form one still wins (it executes later), an overwritten function, untouched defaults -/
example :
    build .node [⟨.maxRetries 3, .bld, 0⟩, ⟨.execFn true, .opt, 1⟩, ⟨.maxRetries 5, .opt, 2⟩,
                 ⟨.execFn false, .opt, 3⟩, ⟨.batchErrorHandling false, .bld, 4⟩]
      = { base := { maxRetries := 3, wait := 0, batchConcurrency := 0, batchErrorHandling := .stop },
          prepFunc := none, execFunc := some ⟨3, false⟩, postFunc := none, execFallbackFunc := none,
          batchPrepFunc := none, batchPostFunc := none } := by decide

/-- **The statement of the design document**: when options precede builder calls (the order in which
    the sequence is written is the order in which Go executes it), the configuration is last-write-wins
    over the sequence as written. -/
theorem config_lastWins_of_optsFirst (k : Kind) (steps : List Step)
    (hdom : ∀ s, s ∈ steps → inDomain k s = true) (hord : optsFirst steps = true) :
    build k steps = lastWins k steps := by
  rw [build_eq_lastWins k steps hdom, effective_of_optsFirst steps hord]

example : optsFirst [⟨.wait 5, .opt, 0⟩, ⟨.batchConcurrency 2, .opt, 1⟩, ⟨.wait 7, .bld, 2⟩] = true
    ∧ getWait (build .batch [⟨.wait 5, .opt, 0⟩, ⟨.batchConcurrency 2, .opt, 1⟩, ⟨.wait 7, .bld, 2⟩]) = 7 := by decide

/-- **Styles are equivalent.** Two ways of writing the same settings in the same order — all as
    constructor options, all as chained builder calls, or any mixture in which options precede
    builder calls — build the same node (hence the same getters and the same behaviour). -/
theorem styles_equivalent (k : Kind) (a b : List Step) (h : sameSettings a b)
    (hda : ∀ s, s ∈ a → inDomain k s = true) (hdb : ∀ s, s ∈ b → inDomain k s = true)
    (hoa : optsFirst a = true) (hob : optsFirst b = true) :
    build k a = build k b := by
  rw [config_lastWins_of_optsFirst k a hda hoa, config_lastWins_of_optsFirst k b hdb hob,
    lastWins_sameSettings k a b h]

/-- non-vacuity: the hypotheses are satisfiable by a genuinely mixed batch sequence, and the two
    nodes carry the overwritten values -/
example :
    let a : List Step := [⟨.maxRetries 2, .opt, 0⟩, ⟨.batchConcurrency 3, .opt, 1⟩, ⟨.maxRetries 4, .bld, 2⟩, ⟨.execFn true, .bld, 3⟩]
    let b : List Step := [⟨.maxRetries 2, .bld, 0⟩, ⟨.batchConcurrency 3, .bld, 1⟩, ⟨.maxRetries 4, .bld, 2⟩, ⟨.execFn true, .bld, 3⟩]
    sameSettings a b ∧ optsFirst a = true ∧ optsFirst b = true
      ∧ (∀ s, s ∈ a → inDomain .batch s = true) ∧ (∀ s, s ∈ b → inDomain .batch s = true)
      ∧ getters (build .batch a) = ⟨4, 0, 3, "continue"⟩ ∧ build .batch a = build .batch b := by
  refine ⟨rfl, rfl, rfl, by decide, by decide, by decide, by decide⟩

/-- For a plain node builder: the pure option style and the pure builder style of ANY settings
    sequence build the same node, and so does every mixture whose options come first. -/
theorem node_styles_equivalent (steps : List Step) :
    build .node (inForm .opt steps) = build .node (inForm .bld steps)
    ∧ (optsFirst steps = true → build .node steps = build .node (inForm .bld steps)) := by
  have hs : ∀ f, sameSettings steps (inForm f steps) := by
    intro f; unfold sameSettings inForm; rw [List.map_map]; rfl
  have hs2 : sameSettings (inForm .opt steps) (inForm .bld steps) := by
    unfold sameSettings inForm; rw [List.map_map, List.map_map]; rfl
  refine ⟨?_, ?_⟩
  · exact styles_equivalent .node _ _ hs2 (fun _ _ => rfl) (fun _ _ => rfl)
      (optsFirst_inForm .opt steps) (optsFirst_inForm .bld steps)
  · intro ho
    exact styles_equivalent .node _ _ (hs .bld) (fun _ _ => rfl) (fun _ _ => rfl) ho
      (optsFirst_inForm .bld steps)

example :
    build .node (inForm .opt [⟨.maxRetries 2, .bld, 0⟩, ⟨.fbFn, .bld, 1⟩, ⟨.maxRetries 4, .bld, 2⟩])
      = build .node [⟨.maxRetries 2, .opt, 0⟩, ⟨.fbFn, .bld, 1⟩, ⟨.maxRetries 4, .bld, 2⟩]
    ∧ getMaxRetries (build .node [⟨.maxRetries 2, .opt, 0⟩, ⟨.fbFn, .bld, 1⟩, ⟨.maxRetries 4, .bld, 2⟩]) = 4 := by
  decide

/-- the same for a batch builder: its scalar settings may be written in either form (the function
    settings exist in builder form only, DESIGN 7/B1) -/
example :
    build .batch [⟨.batchConcurrency 3, .opt, 0⟩, ⟨.execFn false, .bld, 1⟩, ⟨.batchErrorHandling false, .opt, 2⟩]
      = build .batch [⟨.batchConcurrency 3, .bld, 0⟩, ⟨.execFn false, .bld, 1⟩, ⟨.batchErrorHandling false, .bld, 2⟩] := by
  decide

/-- **Unrelated parameters are untouched.** One step — in either form, on either kind of builder,
    in or outside the domain — leaves every field it is not a setting of exactly as it was. -/
theorem step_frame (k : Kind) (s : Step) (n : Node) :
    (setsMaxRetries s = none → (stepApply k s n).base.maxRetries = n.base.maxRetries)
    ∧ (setsWait s = none → (stepApply k s n).base.wait = n.base.wait)
    ∧ (setsConc s = none → (stepApply k s n).base.batchConcurrency = n.base.batchConcurrency)
    ∧ (setsEH s = none → (stepApply k s n).base.batchErrorHandling = n.base.batchErrorHandling)
    ∧ (setsPrepFunc k s = none → (stepApply k s n).prepFunc = n.prepFunc)
    ∧ (setsExecFunc s = none → (stepApply k s n).execFunc = n.execFunc)
    ∧ (setsPostFunc k s = none → (stepApply k s n).postFunc = n.postFunc)
    ∧ (setsFbFunc k s = none → (stepApply k s n).execFallbackFunc = n.execFallbackFunc)
    ∧ (setsBatchPrep k s = none → (stepApply k s n).batchPrepFunc = n.batchPrepFunc)
    ∧ (setsBatchPost k s = none → (stepApply k s n).batchPostFunc = n.batchPostFunc) := by
  rw [stepApply_eq]
  cases inDomain k s
  · simp
  · simp +contextual [written]

/-- non-vacuity: a builder-form `WithWait` on a batch node leaves retries, concurrency, error
    handling and the exec function alone (and the premise "does not set retries" holds for it) -/
example :
    setsMaxRetries ⟨.wait 5, .bld, 0⟩ = none
    ∧ stepApply .batch ⟨.wait 5, .bld, 0⟩
        { emptyNode with base := ⟨3, 1, 2, .stop⟩, execFunc := some ⟨7, false⟩ }
      = { emptyNode with base := ⟨3, 5, 2, .stop⟩, execFunc := some ⟨7, false⟩ } := by decide

/-- … and, inside the domain, it sets its own parameter to the given value (both forms alike) -/
theorem step_effect (k : Kind) (s : Step) (n : Node) (hdom : inDomain k s = true) :
    (stepApply k s n).base.maxRetries = (setsMaxRetries s).getD n.base.maxRetries
    ∧ (stepApply k s n).base.wait = (setsWait s).getD n.base.wait
    ∧ (stepApply k s n).base.batchConcurrency = (setsConc s).getD n.base.batchConcurrency
    ∧ (stepApply k s n).base.batchErrorHandling = (setsEH s).getD n.base.batchErrorHandling
    ∧ (stepApply k s n).prepFunc = (setsPrepFunc k s).getD n.prepFunc
    ∧ (stepApply k s n).execFunc = (setsExecFunc s).getD n.execFunc
    ∧ (stepApply k s n).postFunc = (setsPostFunc k s).getD n.postFunc
    ∧ (stepApply k s n).execFallbackFunc = (setsFbFunc k s).getD n.execFallbackFunc
    ∧ (stepApply k s n).batchPrepFunc = (setsBatchPrep k s).getD n.batchPrepFunc
    ∧ (stepApply k s n).batchPostFunc = (setsBatchPost k s).getD n.batchPostFunc := by
  rw [stepApply_of_inDomain hdom]
  exact ⟨rfl, rfl, rfl, rfl, rfl, rfl, rfl, rfl, rfl, rfl⟩

example :
    stepApply .node ⟨.batchConcurrency 4, .bld, 9⟩
        { emptyNode with base := { newBaseNode with maxRetries := 7 }, execFunc := some ⟨1, true⟩ }
      = { emptyNode with base := { newBaseNode with maxRetries := 7, batchConcurrency := 4 },
                         execFunc := some ⟨1, true⟩ } := by decide

/-- **Defaults (getters).** A parameter no step sets has its documented default: one attempt, no
    wait, batch concurrency 0 (sequential), "continue" on errors. -/
theorem defaults (k : Kind) (steps : List Step) (hdom : ∀ s, s ∈ steps → inDomain k s = true) :
    ((∀ s, s ∈ steps → setsMaxRetries s = none) → getMaxRetries (build k steps) = 1)
    ∧ ((∀ s, s ∈ steps → setsWait s = none) → getWait (build k steps) = 0)
    ∧ ((∀ s, s ∈ steps → setsConc s = none) → getBatchConcurrency (build k steps) = 0)
    ∧ ((∀ s, s ∈ steps → setsEH s = none) → getBatchErrorHandling (build k steps) = "continue") := by
  have unset {α : Type} {w : Step → Option α} (h : ∀ s, s ∈ steps → w s = none) :
      lastSome w (effective steps) = none :=
    lastSome_none w _ fun s hs => h s (mem_of_mem_effective hs)
  rw [build_eq_lastWins k steps hdom]
  exact ⟨fun h => by simp [getMaxRetries, lastWins, unset h], fun h => by simp [getWait, lastWins, unset h],
    fun h => by simp [getBatchConcurrency, lastWins, unset h],
    fun h => by simp [getBatchErrorHandling, lastWins, unset h]⟩

example : getters (build .node []) = ⟨1, 0, 0, "continue"⟩ ∧ getters (build .batch []) = ⟨1, 0, 0, "continue"⟩
    ∧ getters (build .node [⟨.execFn true, .opt, 0⟩, ⟨.wait 9, .bld, 1⟩]) = ⟨1, 9, 0, "continue"⟩ := by decide

/-- **Defaults (behaviour).** A node on which no scalar parameter was set makes exactly ONE attempt
    of a failing exec function; a batch node runs its items one at a time (sequential), makes one
    attempt on the failing item and CONTINUES with the remaining items. (Statement unchanged by the
    "odd tags fail" convention for fallback functions: whether the fallback of a plain node succeeds
    or fails, the exec function has been attempted once; a batch in the default "continue" mode goes
    on to items 1 and 2 whether or not item 0's fallback fails.) -/
theorem default_behaviour (k : Kind) (steps : List Step) (hdom : ∀ s, s ∈ steps → inDomain k s = true)
    (hnone : ∀ s, s ∈ steps → s.setting.isNodeOption = false) :
    (modelObs k steps).runB.calls = (match k with | .node => [1] | .batch => [1, 1, 1])
    ∧ (modelObs k steps).hwm = (match k with | .node => 0 | .batch => 1) := by
  have hsc : ∀ s, s ∈ steps →
      setsMaxRetries s = none ∧ setsWait s = none ∧ setsConc s = none ∧ setsEH s = none :=
    fun s hs => unset_of_not_isNodeOption (hnone s hs)
  obtain ⟨h1, _, h3, h4⟩ := defaults k steps hdom
  have e1 := h1 (fun s hs => (hsc s hs).1)
  have e3 := h3 (fun s hs => (hsc s hs).2.2.1)
  have e4 := h4 (fun s hs => (hsc s hs).2.2.2)
  simp only [getMaxRetries, getBatchConcurrency] at e1 e3
  cases k with
  | node =>
    refine ⟨?_, rfl⟩
    simp only [modelObs, observe, withProbes, nodeBuilderCall, runNode, e1]
    cases (build .node steps).execFallbackFunc <;> simp [probeExec] <;> split <;> rfl
  | batch =>
    refine ⟨?_, ?_⟩
    · simp only [modelObs, observe, withProbes, batchBuilderCall, runBatch, e1, e3, getBatchErrorHandling] at e4 ⊢
      cases (build .batch steps).execFallbackFunc <;> simp [probeExec, e4]
    · simp [modelObs, observe, withProbes, batchBuilderCall, e1, e3, batchWidth]

example : (modelObs .batch [⟨.postFn false, .bld, 0⟩]).runB
    = { prep := some 901, exec := some 900, fb := none, post := some 0, calls := [1, 1, 1], out := "done" } := by
  decide

/-- contrast: with "stop" the later items are skipped, with 3 retries item 0 is attempted 3 times -/
example : (modelObs .batch [⟨.batchErrorHandling false, .opt, 0⟩, ⟨.maxRetries 3, .bld, 1⟩]).runB.calls = [3, 0, 0] := by
  decide

/-! ### the fallback function: the LAST setting decides — also when it fails

Harness convention (`fbFails`): the fallback function installed by a step with an odd tag returns an
error. A fallback that always succeeds cannot tell "the new function REPLACED the old one" from "the
new function was CHAINED in front of the old one (the old one runs only if the new one fails)"; with
a failing last fallback the two differ in everything the probe run shows after the exec attempts. -/

/-- the probe run of a plain node: the node as built, with the harness's always-failing exec function -/
theorem runB_node (steps : List Step) :
    (modelObs .node steps).runB = runNode { build .node steps with execFunc := some ⟨probeExec, false⟩ } := rfl

theorem node_fbFunc (steps : List Step) :
    (build .node steps).execFallbackFunc = (lastSome (setsFbFunc .node) (effective steps)).getD none :=
  congrArg Node.execFallbackFunc (build_eq_lastWins .node steps fun _ _ => rfl)

theorem lastSome_fbFunc_none (l : List Step) (h : ∀ x, x ∈ l → x.setting ≠ .fbFn) :
    lastSome (setsFbFunc .node) l = none :=
  lastSome_none _ _ fun x hx => by
    have := h x hx
    obtain ⟨st, f, t⟩ := x
    cases st with
    | fbFn => exact absurd rfl this
    | _ => rfl

/-- **The fallback field holds the last fallback setting and nothing else.** If, in execution order,
    `s` is a fallback setting (in either form) and no fallback setting follows it, then the node's
    `execFallbackFunc` is exactly the function `s` installed: no trace of the fallback settings in
    `pre` (however many, in whatever form) is left in the node. -/
theorem fbFunc_of_last (steps pre post : List Step) (s : Step)
    (hsplit : effective steps = pre ++ s :: post) (hs : s.setting = .fbFn)
    (hpost : ∀ x, x ∈ post → x.setting ≠ .fbFn) :
    (build .node steps).execFallbackFunc = some ⟨s.tag, false⟩ := by
  have hp := lastSome_fbFunc_none post hpost
  rw [node_fbFunc, hsplit, lastSome_append]
  simp [lastSome, hp, setsFbFunc, hs]

/-- **The last fallback setting decides the probe run.** For ANY word of steps on a plain node with a
    positive retry budget: if `s` is the last fallback setting in execution order (`pre` and the
    forms of all steps are arbitrary; `pre` may contain any number of other fallback settings, failing
    or not), then the probe run — exec function failing on every attempt —
    * calls the exec function `maxRetries` times and then the fallback of `s`, and reports THAT tag;
    * fails, without calling post, iff the fallback of `s` fails (odd tag);
    * otherwise calls post and ends like a successful run.
    Nothing in the conclusion mentions `pre`: an earlier fallback never runs and never rescues. -/
theorem last_fallback_decides (steps pre post : List Step) (s : Step)
    (hsplit : effective steps = pre ++ s :: post) (hs : s.setting = .fbFn)
    (hpost : ∀ x, x ∈ post → x.setting ≠ .fbFn)
    (hbudget : 0 < getMaxRetries (build .node steps)) :
    (modelObs .node steps).runB.exec = some probeExec
    ∧ (modelObs .node steps).runB.calls = [(getMaxRetries (build .node steps)).toNat]
    ∧ (modelObs .node steps).runB.fb = some s.tag
    ∧ (s.tag % 2 = 1 →
        (modelObs .node steps).runB.out = "err" ∧ (modelObs .node steps).runB.post = none)
    ∧ (s.tag % 2 = 0 →
        (modelObs .node steps).runB.out = (if (build .node steps).postFunc.isSome then "done" else "default")
        ∧ (modelObs .node steps).runB.post = tagOf (build .node steps).postFunc) := by
  have hfb := fbFunc_of_last steps pre post s hsplit hs hpost
  have hb : ¬ (build .node steps).base.maxRetries.toNat = 0 := by
    simp only [getMaxRetries] at hbudget; omega
  rw [runB_node]
  simp only [runNode, hfb, hb, if_false, if_true, getMaxRetries, fbFails]
  by_cases hodd : s.tag % 2 = 1
  · have h0 : ¬ s.tag % 2 = 0 := by omega
    simp [hodd]
  · have h0 : s.tag % 2 = 0 := by omega
    simp [h0]

/-- the same for a word written in execution order (options before builder calls): the last fallback
    setting of the word AS WRITTEN decides -/
theorem last_fallback_decides_written (pre post : List Step) (s : Step)
    (hord : optsFirst (pre ++ s :: post) = true) (hs : s.setting = .fbFn)
    (hpost : ∀ x, x ∈ post → x.setting ≠ .fbFn)
    (hbudget : 0 < getMaxRetries (build .node (pre ++ s :: post))) :
    (modelObs .node (pre ++ s :: post)).runB.fb = some s.tag
    ∧ ((modelObs .node (pre ++ s :: post)).runB.out = "err" ↔ s.tag % 2 = 1) := by
  obtain ⟨_, _, h3, h4, h5⟩ :=
    last_fallback_decides (pre ++ s :: post) pre post s (effective_of_optsFirst _ hord) hs hpost hbudget
  refine ⟨h3, ?_, fun h => (h4 h).1⟩
  intro herr
  by_cases hodd : s.tag % 2 = 1
  · exact hodd
  · have h0 : s.tag % 2 = 0 := by omega
    rw [(h5 h0).1] at herr
    split at herr <;> simp at herr

/-- **A builder-form fallback setting replaces every fallback installed before it** — whether by a
    constructor option (wherever that option is written: the constructor runs first) or by an earlier
    builder call. `s` is the last BUILDER-form fallback setting of the word as written; the word is
    otherwise arbitrary. This is the statement a `WithExecFallbackFunc` method that chains the new
    function in front of the old one violates. -/
theorem bld_fallback_replaces (pre post : List Step) (s : Step)
    (hs : s.setting = .fbFn) (hf : s.form = .bld)
    (hpost : ∀ x, x ∈ post → x.form = .bld → x.setting ≠ .fbFn)
    (hbudget : 0 < getMaxRetries (build .node (pre ++ s :: post))) :
    (build .node (pre ++ s :: post)).execFallbackFunc = some ⟨s.tag, false⟩
    ∧ (modelObs .node (pre ++ s :: post)).runB.fb = some s.tag
    ∧ (s.tag % 2 = 1 → (modelObs .node (pre ++ s :: post)).runB.out = "err"
        ∧ (modelObs .node (pre ++ s :: post)).runB.post = none) := by
  have hb : isBld s = true := by simp [isBld, hf]
  have hsplit : effective (pre ++ s :: post)
      = ((pre ++ s :: post).filter isOpt ++ pre.filter isBld) ++ s :: post.filter isBld := by
    unfold effective
    rw [List.filter_append (p := isBld), List.filter_cons_of_pos hb, List.append_assoc]
  have hpost' : ∀ x, x ∈ post.filter isBld → x.setting ≠ .fbFn := by
    intro x hx
    obtain ⟨hm, hxb⟩ := List.mem_filter.mp hx
    exact hpost x hm (by simpa [isBld] using hxb)
  obtain ⟨_, _, h3, h4, _⟩ := last_fallback_decides _ _ _ s hsplit hs hpost' hbudget
  exact ⟨fbFunc_of_last _ _ _ s hsplit hs hpost', h3, h4⟩

/-- a node with no fallback setting at all: the probe run fails after the exec attempts, no fallback
    and no post function runs -/
theorem no_fallback_fails (steps : List Step) (hnone : ∀ x, x ∈ steps → x.setting ≠ .fbFn)
    (hbudget : 0 < getMaxRetries (build .node steps)) :
    (modelObs .node steps).runB.fb = none ∧ (modelObs .node steps).runB.out = "err"
    ∧ (modelObs .node steps).runB.post = none := by
  have hfb : (build .node steps).execFallbackFunc = none := by
    rw [node_fbFunc, lastSome_fbFunc_none _ fun x hx => hnone x (mem_of_mem_effective hx)]; rfl
  have hb : ¬ (build .node steps).base.maxRetries.toNat = 0 := by
    simp only [getMaxRetries] at hbudget; omega
  rw [runB_node]
  simp [runNode, hfb, hb]

/-- a failing fallback (odd tag) is visible: the run fails after the fallback ran, post does not run -/
example : (modelObs .node [⟨.fbFn, .bld, 1⟩]).runB
    = { prep := none, exec := some 900, fb := some 1, post := none, calls := [1], out := "err" } := by decide

/-- … a succeeding one (even tag) rescues the run -/
example : (modelObs .node [⟨.fbFn, .opt, 2⟩, ⟨.postFn false, .bld, 4⟩, ⟨.maxRetries 3, .opt, 6⟩]).runB
    = { prep := none, exec := some 900, fb := some 2, post := some 4, calls := [3], out := "done" } := by decide

/-- last wins, observably: the same two fallback settings in the two orders give different probe
    runs (with fallbacks that all succeed they would differ in the `fb` tag only; a chained
    implementation that records the last fallback that RAN shows `fb = 2`, `out = "default"` for both) -/
example :
    (modelObs .node [⟨.fbFn, .bld, 2⟩, ⟨.fbFn, .bld, 1⟩]).runB
      = { prep := none, exec := some 900, fb := some 1, post := none, calls := [1], out := "err" }
    ∧ (modelObs .node [⟨.fbFn, .bld, 1⟩, ⟨.fbFn, .bld, 2⟩]).runB
      = { prep := none, exec := some 900, fb := some 2, post := none, calls := [1], out := "default" }
    ∧ (modelObs .node [⟨.fbFn, .bld, 2⟩, ⟨.fbFn, .bld, 1⟩]).runB
      ≠ (modelObs .node [⟨.fbFn, .bld, 1⟩, ⟨.fbFn, .bld, 2⟩]).runB := by decide

/-- a builder-form fallback written BEFORE an option-form one still executes later, hence wins -/
example : (modelObs .node [⟨.fbFn, .bld, 3⟩, ⟨.fbFn, .opt, 4⟩]).runB.fb = some 3
    ∧ (modelObs .node [⟨.fbFn, .bld, 3⟩, ⟨.fbFn, .opt, 4⟩]).runB.out = "err" := by decide

/-- the hypotheses of `last_fallback_decides` / `bld_fallback_replaces` are satisfiable by a mixed word
    with three fallback settings -/
example :
    let w : List Step := [⟨.fbFn, .bld, 2⟩, ⟨.fbFn, .opt, 4⟩, ⟨.fbFn, .bld, 5⟩, ⟨.wait 1, .opt, 6⟩]
    effective w = [⟨.fbFn, .opt, 4⟩, ⟨.wait 1, .opt, 6⟩, ⟨.fbFn, .bld, 2⟩] ++ ⟨.fbFn, .bld, 5⟩ :: []
    ∧ 0 < getMaxRetries (build .node w) ∧ (modelObs .node w).runB.fb = some 5
    ∧ (modelObs .node w).runB.out = "err" := by decide

/-- the predicate `c19` rejects what a CHAINING builder method shows for "fallback 2, then fallback 1":
    the new function (1) fails, the old one (2) runs and rescues the run — whether the harness reports
    the last fallback that ran (`fb = 2`, which is the observation of the word `[fallback 2]`) or the
    first (`fb = 1`) -/
example :
    let w : List Step := [⟨.fbFn, .bld, 2⟩, ⟨.fbFn, .bld, 1⟩]
    c19 .node w (modelObs .node w) = true
    ∧ c19 .node w (modelObs .node [⟨.fbFn, .bld, 2⟩]) = false
    ∧ c19 .node w { modelObs .node w with
        runB := { prep := none, exec := some 900, fb := some 1, post := none, calls := [1], out := "default" } } = false := by
  decide

/-- batch: the fallback field cannot be set through a batch builder, but `runBatch` honours it. A
    failing fallback leaves an error in item 0's slot, so "stop" skips the later items exactly as
    without a fallback; a succeeding one lets the batch go on. Post runs in every case. -/
example :
    let n (fb : Option Fn) : Node :=
      { emptyNode with base := ⟨2, 0, 0, .stop⟩, batchPrepFunc := some ⟨901, false⟩,
                       execFunc := some ⟨900, false⟩, execFallbackFunc := fb, batchPostFunc := some ⟨8, false⟩ }
    runBatch (n (some ⟨1, false⟩))
      = { prep := some 901, exec := some 900, fb := some 1, post := some 8, calls := [2, 0, 0], out := "done" }
    ∧ runBatch (n (some ⟨2, false⟩))
      = { prep := some 901, exec := some 900, fb := some 2, post := some 8, calls := [2, 1, 1], out := "done" }
    ∧ runBatch (n none)
      = { prep := some 901, exec := some 900, fb := none, post := some 8, calls := [2, 0, 0], out := "done" }
    ∧ (runBatch { n (some ⟨1, false⟩) with base := ⟨2, 0, 2, .stop⟩ }).calls = [2, 1, 1]
    ∧ (runBatch { n (some ⟨1, false⟩) with base := ⟨2, 0, 0, .cont⟩ }).calls = [2, 1, 1] := by decide

/-- **Pool size.** A worker pool created with a size ≤ 0 has exactly one worker, a positive size is
    taken as is; a batch works on one item at a time unless its concurrency is positive. -/
theorem pool_size (w : Int) :
    (w ≤ 0 → poolWorkers w = 1) ∧ (0 < w → (poolWorkers w : Int) = w)
    ∧ (w ≤ 0 → batchWidth w = 1) ∧ (0 < w → (batchWidth w : Int) = w) := by
  unfold batchWidth poolWorkers
  refine ⟨?_, ?_, ?_, ?_⟩ <;> intro h
  · simp [h]
  · have : ¬ w ≤ 0 := by omega
    simp only [this, if_false]; omega
  · have : ¬ w > 0 := by omega
    simp [this]
  · have h2 : ¬ w ≤ 0 := by omega
    simp only [h, h2, if_true, if_false]; omega

example : poolWorkers (-3) = 1 ∧ poolWorkers 0 = 1 ∧ poolWorkers 4 = 4 ∧ batchWidth 0 = 1 ∧ batchWidth 2 = 2 := by
  decide

/-- **The property predicate holds of the model** — this is what agreement on a scenario transfers
    to the implementation: for every step sequence in the domain, the observation the model predicts
    (getters before and after further builder calls, both probe runs, items in flight) satisfies
    `Spec c19`, i.e. is the observation of the last-wins configuration with documented defaults. -/
theorem spec_holds_on_model (k : Kind) (steps : List Step)
    (hdom : ∀ s, s ∈ steps → inDomain k s = true) :
    c19 k steps (modelObs k steps) = true := by
  have hg : getters (lastWins k (effective steps)) = expectedGetters (effective steps) := by
    simp only [getters, expectedGetters, lastWins, getMaxRetries, getWait, getBatchConcurrency,
      getBatchErrorHandling]
    cases lastSome setsEH (effective steps) with
    | none => rfl
    | some e => cases e <;> rfl
  unfold c19 modelObs
  rw [build_eq_lastWins k steps hdom]
  have h1 : (observe k (lastWins k (effective steps))).g = expectedGetters (effective steps) := by
    rw [← hg]; cases k <;> rfl
  have h2 : (observe k (lastWins k (effective steps))).g2 = expectedGetters (effective steps) := by
    rw [← hg, ← getters_withProbes k]; cases k <;> rfl
  simp [h1, h2]

example : c19 .batch [⟨.batchConcurrency 2, .opt, 0⟩, ⟨.prepFn false, .bld, 1⟩, ⟨.batchConcurrency 3, .bld, 2⟩]
      (modelObs .batch [⟨.batchConcurrency 2, .opt, 0⟩, ⟨.prepFn false, .bld, 1⟩, ⟨.batchConcurrency 3, .bld, 2⟩]) = true
    ∧ (modelObs .batch [⟨.batchConcurrency 2, .opt, 0⟩, ⟨.prepFn false, .bld, 1⟩, ⟨.batchConcurrency 3, .bld, 2⟩]).hwm = 3 := by
  decide

theorem spec_pool_holds_on_model (w : Int) : c19Pool w (poolWorkers w) = true := by
  unfold c19Pool poolWorkers
  by_cases h : w ≤ 0
  · simp [h]
  · simp only [h, if_false, decide_eq_true_eq]; omega

/-- non-vacuity: the predicate is not trivially true — it rejects a first-wins observation -/
example :
    c19 .node [⟨.maxRetries 2, .opt, 0⟩, ⟨.maxRetries 3, .bld, 1⟩]
        (modelObs .node [⟨.maxRetries 2, .opt, 0⟩, ⟨.maxRetries 3, .bld, 1⟩]) = true
    ∧ c19 .node [⟨.maxRetries 2, .opt, 0⟩, ⟨.maxRetries 3, .bld, 1⟩]
        (modelObs .node [⟨.maxRetries 2, .opt, 0⟩]) = false
    ∧ c19Pool 0 2 = false := by decide

end Flyt.Props.C19
