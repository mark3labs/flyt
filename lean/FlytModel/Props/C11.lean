import FlytModel.Proofs.BatchSeq
import FlytModel.Proofs.BatchConc
import FlytModel.Proofs.BatchBridge
import FlytModel.Proofs.SpecBridge
import FlytModel.Props.C06
/-!
# C11 — Cancelling a batch stops new items and never hangs or fakes success

Sequential / serial layer: `runBatch` for every script and context (cancellation before the run, from inside
any callback, or asynchronously during a retry wait). Concurrent layer: every reachable state and every
schedule of the LTS with a `cancel` step (or a cancelling callback) at any point.
-/
namespace Flyt.Props.C11
open Flyt Flyt.BatchSeq

/-- **After the context is cancelled no new item and no new retry attempt starts.** In the trace of a batch run
    (any configuration, any concurrency setting of `runBatch`, any script), after every callback invocation that
    cancels the context — prep, an exec attempt, a fallback, or a retry wait interrupted by an asynchronous
    cancellation — no exec attempt and no retry wait occurs any more. -/
theorem no_attempt_after_cancel (kind : CtxKind) (n : NodeId) (v : Nat) (sid : StoreId) (cfg : BatchCfg) (scr : BatchScript)
    (ctx : Ctx) (pre post : List Ev) (e : Ev) (hsplit : (runBatch kind n v sid cfg scr ctx).1 = pre ++ e :: post)
    (hc : evCancels scr e = true) : ∀ x ∈ post, isBexec x = false ∧ isBwait x = false := by
  have hq := (quietAfterCancel_qafter scr _).1 (runBatch_seg kind n v cfg scr sid ctx).quiet
  rw [hsplit] at hq
  have := Bridge.qafter_split hq hc
  intro x hx
  simpa [isAttempt] using this x hx

/-- **Cancelled before the run: no item is executed at all**, the context stays cancelled. -/
theorem cancelled_before_run (kind : CtxKind) (n : NodeId) (v : Nat) (sid : StoreId) (cfg : BatchCfg) (scr : BatchScript)
    (kd : CtxKind) :
    (∀ x ∈ (runBatch kind n v sid cfg scr (.done kd)).1, isBexec x = false ∧ isBwait x = false) ∧
    (runBatch kind n v sid cfg scr (.done kd)).2.1.isDone = true := by
  obtain ⟨h1, h2⟩ := (runBatch_seg kind n v cfg scr sid (.done kd)).dead rfl
  exact ⟨fun x hx => by simpa [isAttempt] using h1 x hx, h2⟩

/-- … and then every slot carries the "context cancelled" error, in both error-handling modes. -/
theorem cancelled_before_run_slots (kind : CtxKind) (n : NodeId) (v : Nat) (cfg : BatchCfg) (scr : BatchScript)
    (items : List Result) (i : Nat) (kd : CtxKind) :
    itemsSeq kind n v cfg scr items i (.done kd) = ([], .done kd, items.map (fun _ => cancelledSlot)) ∧
    itemsSerialPool kind n v cfg scr items i false (.done kd) = ([], .done kd, items.map (fun _ => cancelledSlot)) := by
  rw [itemsSerialPool_eq_seq]
  exact ⟨itemsSeq_done _ _ _ _ _ _ _ _, itemsSeq_done _ _ _ _ _ _ _ _⟩

/-- **A cancelling callback leaves the context cancelled for the rest of the run** (so the checks above apply to
    everything that follows). -/
theorem cancel_sticks (kind : CtxKind) (n : NodeId) (v : Nat) (sid : StoreId) (cfg : BatchCfg) (scr : BatchScript)
    (ctx : Ctx) (e : Ev) (he : e ∈ (runBatch kind n v sid cfg scr ctx).1) (hc : evCancels scr e = true) :
    (runBatch kind n v sid cfg scr ctx).2.1.isDone = true :=
  (runBatch_seg kind n v cfg scr sid ctx).kills ⟨e, he, hc⟩

/-- **The run terminates with post called exactly once, and every item that was not executed carries an error.**
    (`runBatch` is a total function, so termination of the sequential path is by construction; a batch node
    reports cancellation per slot and still calls post — DESIGN B6.) For every context — live, cancelled before
    the run, cancelled from inside any callback: -/
theorem post_once_and_unexecuted_are_errors (kind : CtxKind) (n : NodeId) (v : Nat) (sid : StoreId) (cfg : BatchCfg)
    (scr : BatchScript) (ctx : Ctx) (l : List Val) (hp : scr.prep.res = .ok l) (hpost : cfg.hasPost = true)
    (hb : 0 < cfg.budget) (hex : cfg.execS ≠ .absent) :
    ∃ (iev : List Ev) (slots : List Result),
      (runBatch kind n v sid cfg scr ctx).1 =
        .bprep n v sid :: iev ++ [.bpost n v sid ((normItems cfg.shape l).map Result.box) (slots.map Result.box)] ∧
      (∀ x ∈ iev, isBpost x = false) ∧ slots.length = (normItems cfg.shape l).length ∧
      ∀ j, j < (normItems cfg.shape l).length → itemEvents j iev = [] → ∃ r, slots[j]? = some r ∧ r.isError = true := by
  obtain ⟨iev, slots, h1, h2, h3, h4⟩ := C06.post_once_positional kind n v sid cfg scr ctx l hp hpost
  refine ⟨iev, slots, h1, fun x hx => ?_, h2, fun j hj => Bridge.own_unexecuted_isError n v hb hex (h4 j hj)⟩
  obtain ⟨j, hj, _⟩ := h3 x hx
  exact Bridge.isBpost_of_evItem hj

/-- **Bridge (sequential families).** `Spec.c11` on `runBatch`'s own observation, evaluated as the driver does: for
    every context (live or cancelled before the run) and every script — cancellation from inside any callback or
    during a retry wait — whose prep and post succeed. -/
theorem spec_c11_holds_seq (kind : CtxKind) (n : NodeId) (v : Nat) (sid : StoreId) (cfg : BatchCfg) (scr : BatchScript)
    (ctx : Ctx) (l : List Val) (a : Action) (hp : scr.prep.res = .ok l) (hpost : cfg.hasPost = true)
    (hex : cfg.execS ≠ .absent) (hb : 0 < cfg.budget) (hpo : scr.post.res = .ok a) :
    Spec.c11 (Bridge.concCfgOf kind cfg scr (normItems cfg.shape l).length)
      (Bridge.batchViewOf (runBatch kind n v sid cfg scr ctx).1 (runBatch kind n v sid cfg scr ctx).2.2) = true := by
  rw [Bridge.batchViewOf_runBatch n v sid ctx hp hpost]
  have ag := Bridge.agrees_concCfgOf kind cfg scr (normItems cfg.shape l).length
  simp only [Spec.c11, Bool.and_eq_true, hpo]
  refine ⟨⟨⟨?_, rfl⟩, trivial⟩, Bridge.itemsSeq_slotMatches n v ag hex hb _ _ rfl⟩
  exact Bridge.qafter_findIdx (Bridge.obsCancels _) Bridge.isStart _ _
    (Bridge.qafter_snoc (Bridge.qafter_obs ag _ (itemsSeq_seg kind n v cfg scr _ 0 _).quiet) rfl)
    (by intro x hx; cases x <;> simp_all [Bridge.isStart])

/-! ### non-vacuity: 4 items, retry budget 2, `cancel()` from inside the first attempt of item 1 (which fails) -/

def exCfg (stop : Bool) : BatchCfg :=
  { budget := 2, wait := 5, fb := .passThrough, conc := 0, stop := stop, execS := .any, hasPost := true, shape := .anys }

def exScr : BatchScript :=
  { prep := { res := .ok [.tok 1, .tok 2, .tok 3, .tok 4] },
    item := fun i =>
      { exec := fun k => if i = 1 then { res := .error (10 + k), cancels := true } else { res := .ok (.tok (100 + i)) },
        waitCancel := fun _ => false, fb := { res := .error 0 } },
    post := { res := .ok "done" } }

-- no retry of item 1, items 2 and 3 never start; their slots are errors; post runs once; the run returns an action
example : runBatch .canceled 0 0 0 (exCfg false) exScr .live =
    ([.bprep 0 0 0, .bexec 0 0 0 0 (.tok 1), .bexec 0 0 1 0 (.tok 2),
      .bpost 0 0 0 [.res (.tok 1) none, .res (.tok 2) none, .res (.tok 3) none, .res (.tok 4) none]
        [.res (.tok 100) none, .res (.tok 0) (some (.ctx .canceled)), .res (.tok 0) (some (.fw .batchCancelled)),
         .res (.tok 0) (some (.fw .batchCancelled))]],
     .done .canceled, .ok "done") := by decide
example : evCancels exScr (.bexec 0 0 1 0 (.tok 2)) = true := by decide
example (stop : Bool) : exScr.prep.res = .ok [.tok 1, .tok 2, .tok 3, .tok 4] ∧ exScr.post.res = .ok "done" ∧
    (exCfg stop).hasPost = true ∧ (exCfg stop).execS ≠ .absent ∧ 0 < (exCfg stop).budget := ⟨rfl, rfl, rfl, by simp [exCfg], by simp [exCfg]⟩
-- stop mode: same trace, the remaining slots are errors as well (the repaired F1 path)
example : (runBatch .canceled 0 0 0 (exCfg true) exScr .live).1.getLast? =
    some (.bpost 0 0 0 [.res (.tok 1) none, .res (.tok 2) none, .res (.tok 3) none, .res (.tok 4) none]
        [.res (.tok 100) none, .res (.tok 0) (some (.ctx .canceled)), .res (.tok 0) (some (.fw .batchStopped)),
         .res (.tok 0) (some (.fw .batchStopped))]) := by decide

open Flyt.Conc Flyt.Spec

/-- **After the cancellation no exec call starts — on any worker, for any item, for any attempt** — whatever
    the rest of the schedule does; the context stays cancelled. (In the LTS the loop-top context check and the
    entry into the user's exec callback are one step, so a task is "committed" only once its `start` is logged:
    the property's "at most one already-committed item per other worker" are the calls already in flight.) -/
theorem no_start_after_cancel {c : Cfg} {s s' : BState} (hp : Path c s s') (hs : s.cancelled = true) :
    s'.cancelled = true ∧ ∃ new, s'.log = new ++ s.log ∧ ∀ j k, .start j k ∉ new := by
  induction hp with
  | refl => exact ⟨hs, [], rfl, by simp⟩
  | step _ hst ih =>
    obtain ⟨l, hl⟩ := hst
    obtain ⟨ih1, new, ih3, ih4⟩ := ih
    -- a transition logs a `start` only if the context is not cancelled
    obtain ⟨hmono, _, new', hn, hstart⟩ := trans_log (trans_of_apply hl)
    refine ⟨hmono ih1, new' ++ new, by rw [hn, ih3, List.append_assoc], fun j k hjk => ?_⟩
    rcases List.mem_append.1 hjk with h | h
    · have := (hstart j k h).1
      rw [ih1] at this; cases this
    · exact ih4 j k h

/-- the exec calls still in flight when the cancellation happens are at most one per worker -/
theorem in_flight_at_most_one_per_worker {c : Cfg} {s : BState} (hr : Reachable c s) :
    (parked s).length ≤ c.w ∧ (ids s).Nodup := by
  have h := inv_reachable hr
  refine ⟨?_, (List.nodup_append.1 h.nodup).2.1⟩
  have := h.workers
  have : (parked s).length ≤ s.running.length := by
    unfold parked; exact List.length_filterMap_le _ _
  omega

/-- **A task that observes the cancellation does not run its item**: at the context check it writes the
    "context cancelled" error into its own slot and returns; at the top of the retry loop it gives up with the
    context's error instead of making another attempt. -/
theorem observing_task_stops {c : Cfg} {s s' : BState} {i : Nat} (hs : s.cancelled = true)
    (h : apply c s (.step i) = some s') :
    (pcOf s i = some .ctxCheck →
        s'.slots = setSlot s.slots i Conc.cancelledSlot ∧ i ∉ ids s' ∧ s'.log = s.log) ∧
    (∀ k last, pcOf s i = some (.loopTop k last) → k < c.budget →
        s' = setPc s i (.store (newErrorResult (.ctx c.kind)) true)) := by
  refine ⟨fun hpc => ?_, fun k last hpc hk => ?_⟩
  · simp only [apply, hpc, hs, if_true, Option.some.injEq] at h
    subst h
    refine ⟨rfl, ?_, rfl⟩
    rw [ids_finish]; simp
  · simp only [apply, hpc, hs, hk, if_true, Option.some.injEq] at h
    exact h.symm

/-- **The run never hangs.** (i) Every step of every schedule strictly decreases `measure` (unsubmitted + queued
    + running work, attempts left), so no run from a reachable state has more than `measure` steps; (ii) in every
    reachable state in which post has not run, a step other than `cancel` is enabled (no deadlock), for every
    pool with ≥ 1 worker and channel capacity ≥ 1; hence (iii) a run that cannot be continued has called post, and
    post is reachable from every reachable state — cancelled or not. -/
theorem never_hangs {c : Cfg} {s : BState} (hr : Reachable c s) (hw : 0 < c.w) (hcap : 0 < c.cap) :
    (∀ ls s', Run c s ls s' → ls.length + measure c s' ≤ measure c s) ∧
    (s.posted = false → ∃ l, l ≠ .cancel ∧ (apply c s l).isSome = true) ∧
    ((∀ l, l ≠ .cancel → apply c s l = none) → s.posted = true) ∧
    (∃ s', Path c s s' ∧ s'.posted = true) :=
  ⟨fun _ _ r => run_bounded hr r, progress hr hw hcap, stuck_is_posted hr hw hcap, post_reachable hr hw hcap⟩

/-- **When post runs, every item that was never executed holds an error in its slot** (and post runs once with
    all `n` slots written) — with or without cancellation, in both modes, for every schedule. -/
theorem at_post_unexecuted_are_errors {c : Cfg} {s s' : BState} (hr : Reachable c s) (hex : c.execS ≠ .absent)
    (hb : 0 < c.budget) (hw : apply c s .waitRet = some s') :
    s'.log.count .post = 1 ∧
    ∀ i, i < c.n → ∃ r, s'.slots[i]? = some (some r) ∧ ((∀ k, .start i k ∉ hist s') → r.isError = true) := by
  have hr' : Reachable c s' := hr.step ⟨_, hw⟩
  obtain ⟨hn, hq, hrun, _, rfl⟩ := waitRet_inv hw
  refine ⟨by have := (flagInv_reachable hr').postCount; simpa using this, fun i hi => ?_⟩
  obtain ⟨r, h⟩ := all_slots_written hr hn hq hrun i hi
  exact ⟨r, h, origin_unexecuted_isError ((logInv_reachable hr').slots i r h) hex hb⟩

/-- **The `cancelled` flag is set exactly when a cancelling event has happened** (an explicit `cancel`, the return
    of an exec call whose script cancels, a fallback whose script cancels), **and in the whole history no exec call
    starts after a cancelling event** — invariant of every reachable state. -/
theorem cancelled_iff_cancelling_event {c : Cfg} {s : BState} (hr : Reachable c s) :
    (s.cancelled = true ↔ ∃ e ∈ s.log, Bridge.obsCancels c e = true) ∧
    ∀ pre e post, hist s = pre ++ e :: post → Bridge.obsCancels c e = true → ∀ x ∈ post, Bridge.isStart x = false := by
  have h := Bridge.cancelInv_reachable hr
  refine ⟨h.flag, fun pre e post hsplit hc => ?_⟩
  have hq := h.quiet
  rw [hsplit] at hq
  exact Bridge.qafter_split hq hc

/-- **Bridge (gated family `gbatch`).** `Spec.c11` holds of the model's observation in the state right after post,
    for every schedule and every placement of the cancellation. -/
theorem spec_c11_holds {c : Cfg} {s s' : BState} (items : List Val) (hr : Reachable c s) (hex : c.execS ≠ .absent)
    (hb : 0 < c.budget) (hw : apply c s .waitRet = some s') : Spec.c11 c (viewOf s' items) = true := by
  have hr' : Reachable c s' := hr.step ⟨_, hw⟩
  have hp : s'.posted = true := (waitRet_inv hw).2.2.2.2 ▸ rfl
  simp only [Spec.c11, Bool.and_eq_true]
  refine ⟨⟨⟨?_, by simp [viewOf, hp]⟩, rfl⟩, viewOf_slotMatches items hr' hp hex hb⟩
  exact Bridge.qafter_findIdx (Bridge.obsCancels _) Bridge.isStart _ _ (Bridge.cancelInv_reachable hr').quiet
    (by intro x hx; cases x <;> simp_all [Bridge.isStart])

/-! ### non-vacuity: 4 items, 2 workers, budget 2; cancel while items 0 and 1 are in their exec calls; item 0 then
fails (no retry: context error), item 1 succeeds (a completed call keeps its value), items 2, 3 never start -/

def exConc : Cfg :=
  { n := 4, w := 2, cap := 4, stop := false, budget := 2, fb := .passThrough, execS := .any,
    exec := fun i k => if i = 0 then { res := .error (10 + k) } else { res := .ok (.tok (100 + i)) },
    fbOut := fun _ => { res := .error 0 }, kind := .canceled }

example : ((simulate exConc 300 [.cancel, .release 0, .release 1]).bind fun sts =>
      sts.getLast?.map fun s => (s.slots, s.posted, s.log.reverse)) =
    some ([some (newErrorResult (.ctx .canceled)), some (newResult (.tok 101)),
           some (newErrorResult (.fw .batchCancelled)), some (newErrorResult (.fw .batchCancelled))], true,
          [.start 0 0, .start 1 0, .cancel, .done 0 0, .done 1 0, .post]) := by decide

example : 0 < exConc.w ∧ 0 < exConc.cap ∧ exConc.execS ≠ .absent ∧ 0 < exConc.budget := by decide
example : ((simulate exConc 300 [.cancel, .release 0, .release 1]).bind fun sts =>
      sts.getLast?.map fun s => Spec.c11 exConc (viewOf s [])) = some true := by decide

/-- **Bridge (flow families): `Spec.c11Flow` holds of the model's own observation** of every run of `runNode` that
    does not run out of fuel — any arena (the batch node at any nesting depth, in a loop, as the root itself), any
    scripts, any run state (context live or done) and store: once a callback of a batch node's visit has cancelled
    the context, no event of any other visit follows (the batch finishes, then the flow stops).  `storeOf`: whatever
    the driver records as the store log. -/
theorem c11Flow_bridge (env : Env) (fuel : Nat) (root : NodeId) (sid : StoreId) (st : RunSt)
    (hfuel : (runNode env fuel root sid st).2.2 ≠ .fuel) (storeOf : List Ev → List Nat) :
    Spec.c11Flow env st.ctx (Flyt.Proofs.obsWith storeOf (runNode env fuel root sid st)) = true :=
  Flyt.Proofs.spec_c11Flow_of_big (Flyt.Proofs.big_of_runNode rfl hfuel) storeOf

/-- … in the trace itself (wait events included): whatever follows a cancelling event of a batch node's visit is an
    event of the same visit of the same batch node -/
theorem flow_stops_after_batch_cancel (env : Env) (fuel : Nat) (root : NodeId) (sid : StoreId) (st : RunSt)
    (hfuel : (runNode env fuel root sid st).2.2 ≠ .fuel) {pre post : List Ev} {c : Ev}
    (hsplit : (runNode env fuel root sid st).1 = pre ++ c :: post) (hc : Flyt.Proofs.cancelsAt env c = true) :
    ∀ e ∈ post, Spec.evKey e = Spec.evKey c := by
  have ht := Flyt.Proofs.big_cancelTail (Flyt.Proofs.big_of_runNode (st' := (runNode env fuel root sid st).2.1) rfl hfuel)
  unfold Flyt.Proofs.CancelTail at ht
  rw [hsplit, List.pairwise_append, List.pairwise_cons] at ht
  intro e he
  exact (ht.2.1.1 e he hc).1

/-! ### non-vacuity: flow 0 = batch 1 —default→ leaf 2 —default→ batch 1 (a loop); three items; the exec call of
item 1 succeeds and cancels the context -/

def exFlowBatch : BatchCfg :=
  { budget := 2, wait := 0, fb := .passThrough, conc := 0, stop := false, execS := .any, hasPost := true, shape := .anys }
def exFlowLeaf : LeafCfg :=
  { retryable := false, budget := 0, wait := 0, fb := .absent, prepS := .direct, execS := .direct, postS := .direct }
def exFlowLeafScr : LeafScript :=
  { prep := { res := .ok (.tok 1) }, exec := fun _ => { res := .ok (.tok 2) }, waitCancel := fun _ => false,
    fb := { res := .ok (.tok 3) }, post := { res := .ok "" } }
def exFlowBatchScr (cancelAt : Nat) : BatchScript :=
  { prep := { res := .ok [.tok 10, .tok 11, .tok 12] }, post := { res := .ok "" },
    item := fun i => { exec := fun _ => { res := .ok (.tok (100 + i)), cancels := i == cancelAt },
                       waitCancel := fun _ => false, fb := { res := .error 0 } } }
/-- the batch node cancels (inside the exec call of item 1) on its visit number `cv` -/
def exFlowEnv (cv : Nat) : Env :=
  { kind := .canceled,
    arena := fun id =>
      if id = 0 then .flow (some 1) [⟨1, "default", some 2⟩, ⟨2, "default", some 1⟩]
      else if id = 1 then .batch exFlowBatch else .leaf exFlowLeaf,
    leafBeh := fun _ _ => exFlowLeafScr,
    batchBeh := fun _ v => exFlowBatchScr (if v = cv then 1 else 7) }
def exFlowSt : RunSt := { ctx := .live, visits := fun _ => 0 }

-- cancellation on the batch node's SECOND visit (after one round of the loop): the first cancelling callback is a
-- batch event (item 1's exec call); the batch still calls post — with item 2 never executed — and then the flow
-- stops with the context's error instead of going on to leaf 2 and looping: only events of visit (1, 1) follow
example : (Spec.noWaits (runNode (exFlowEnv 1) 20 0 0 exFlowSt).1).map Spec.evKey =
      [(1, 0), (1, 0), (1, 0), (1, 0), (1, 0), (2, 0), (2, 0), (2, 0), (1, 1), (1, 1), (1, 1), (1, 1)] ∧
    (Spec.noWaits (runNode (exFlowEnv 1) 20 0 0 exFlowSt).1).findIdx? (Spec.scriptCancels (exFlowEnv 1)) = some 10 ∧
    (Spec.noWaits (runNode (exFlowEnv 1) 20 0 0 exFlowSt).1).getD 10 default = .bexec 1 1 1 0 (.tok 11) ∧
    (Spec.noWaits (runNode (exFlowEnv 1) 20 0 0 exFlowSt).1).drop 11 =
      [.bpost 1 1 0 [.res (.tok 10) none, .res (.tok 11) none, .res (.tok 12) none]
        [.res (.tok 100) none, .res (.tok 101) none, .res .nil (some (.fw .batchCancelled))]] ∧
    (runNode (exFlowEnv 1) 20 0 0 exFlowSt).2.2 = .err (.ctx .canceled) ∧
    Spec.c11Flow (exFlowEnv 1) .live (Flyt.Proofs.obsWith (fun _ => []) (runNode (exFlowEnv 1) 20 0 0 exFlowSt)) = true := by
  decide
-- the predicate is not trivially true: it rejects the same trace continued with a visit of leaf 2
example : Spec.c11Flow (exFlowEnv 1) .live
    { trace := Spec.noWaits (runNode (exFlowEnv 1) 20 0 0 exFlowSt).1 ++ [.prep 2 1 0],
      out := .err (.ctx .canceled), store := [] } = false := by decide

end Flyt.Props.C11
