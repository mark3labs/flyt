import FlytModel.GoIR.Worlds
import FlytModel.Refine.WorldLe
/-!
# Fuel monotonicity of the GoIR interpreter

If a run with recursion depth `f` produces a result (`some r`), every run with depth `g ≥ f` produces the same result, in any world
and for any program: the case `W₁ = W₂` (`WLeOn.refl`) of the induction in `Refine/WorldLe.lean`.
-/
namespace Flyt.Refine
open Flyt Flyt.GoIR
variable {Ω : Type}

theorem mono_execBlock (W : World Ω) {f g : Nat} (hfg : f ≤ g) {b st r} (h : execBlock W f b st = some r) :
    execBlock W g b st = some r :=
  ((le_execBlock (WLeOn.refl W) hfg trivial).of_eq_some h).1

theorem mono_callFunc (W : World Ω) {f g : Nat} (hfg : f ≤ g) {fn args heap w r}
    (h : callFunc W f fn args heap w = some r) : callFunc W g fn args heap w = some r :=
  callFunc_le_of_le (WLeOn.refl W) hfg trivial h

theorem mono_runLeafIR {f g : Nat} (hfg : f ≤ g) {fn kind n v sid cfg scr ctx r}
    (h : runLeafIR f fn kind n v sid cfg scr ctx = some r) : runLeafIR g fn kind n v sid cfg scr ctx = some r := by
  unfold runLeafIR at h ⊢
  cases hc : callFunc (leafWorld kind n v cfg scr) f fn [ctxH, .node n, storeH sid] [] ⟨[], ctx, 0⟩ with
  | none => simp [hc] at h
  | some x => rw [mono_callFunc _ hfg hc]; rw [hc] at h; exact h
end Flyt.Refine
