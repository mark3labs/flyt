import FlytModel.Refine.Store
import FlytModel.Props.C13
import FlytModel.Props.C14
/-!
# Bridge: C13 (linearizability under the `RWMutex`) and C14 (map behaviour, snapshot isolation) for the INTERPRETED source of `SharedStore`

`Props/C13.lean` proves linearizability for EVERY operation `StoreConc.Op S L` (lock mode, body of micro-steps, purity of a reader's
micro-steps) under the transition system of `Model/StoreConc.lean`; it names no store method. `Props/C14.lean` is about the hand-written
heap machine `Store.step`. `Refine/Store.lean` proves, per method, what the interpreted Go source computes and which lock events it
performs. This file joins them.

C13: `Call.op c` is a method as the transition system sees it (a writer: ONE micro-step per traced write; a reader: one). The shared state
is `KV`, the CONTENT of the map object `s.data` points to: that is what `s.mu` protects. It cannot be the whole heap `Store.St`: `GetAll` /
`Keys` allocate the object they return, so on the heap they are not pure; the object is the caller's — the thread-local result `Resp`.

C14: a scenario (`List Store.Op`) is run against the interpreted source, every store method by `runStore`. What the CALLER does to its own
objects (`snapSet`, `snapDel`, `keysRepl`, `readSnap`, `readKeys`, allocating the literal of `mergeLit`) is not flyt source: those steps
are Go's map / slice statements on caller-owned objects and are taken from `Store.step`. Every step carries the order `en : KV → KV` in
which the Go runtime enumerates the map that call ranges over: under `exactOrder` answers and final state are the model's, literally;
under any permuting orders they satisfy `Spec.Store.c14`, which judges `Keys` / `GetAll` answers as sets.
-/
namespace Flyt.Refine.Bridges
open Flyt Flyt.GoIR Flyt.Store Flyt.GoIR.StoreW Flyt.Expected.IR Flyt.Refine Flyt.Refine.Store
open Flyt.StoreConc (Mode runBody)
set_option linter.unusedSimpArgs false

/-- a call of one of the nine methods, with the arguments as far as they matter under the lock: `getAll` / `keys` carry the order in
    which the runtime enumerates `s.data`, `merge l` the entries of the argument map in the order in which the source writes them -/
inductive Call
  | get (k : Key)
  | has (k : Key)
  | len
  | getAll (en : KV → KV)
  | keys (en : KV → KV)
  | set (k : Key) (v : Val)
  | delete (k : Key)
  | clear
  | merge (l : KV)

/-- the atomic effect of a call on the protected map, and its answer -/
def Call.apply : Call → KV → KV × Resp
  | .get k, m => (m, .got ((lookup k m).getD Val.nil) (lookup k m).isSome)
  | .has k, m => (m, .bool (lookup k m).isSome)
  | .len, m => (m, .nat m.length)
  | .getAll en, m => (m, .map (mergeInto [] (en m).reverse))
  | .keys en, m => (m, .keys (keysOf (en m)))
  | .set k v, m => (put m k v, .unit)
  | .delete k, m => (erase k m, .unit)
  | .clear, _ => ([], .unit)
  | .merge l, m => (mergeInto m l.reverse, .unit)

/-- a reader: one micro-step that computes the answer and leaves the map alone -/
def readOp (f : KV → Resp) : StoreConc.Op KV Resp :=
  { mode := .R, body := [fun m _ => (m, f m)], init := .junk,
    pure := by intro _ mi hm s l; simp only [List.mem_singleton] at hm; subst hm; rfl }

/-- a writer with ONE write -/
def writeOp (f : KV → KV) : StoreConc.Op KV Resp :=
  { mode := .W, body := [fun m _ => (f m, .unit)], init := .junk, pure := by intro h; cases h }

/-- `Merge(m)`: one micro-step `s.data[k] = v` per entry, in the order `l`; any thread may move between two of them -/
def mergeOp (l : KV) : StoreConc.Op KV Resp :=
  { mode := .W, body := l.map fun p => fun m r => (put m p.1 p.2, r), init := .unit, pure := by intro h; cases h }

/-- the operation of `Model/StoreConc.lean` a call is -/
def Call.op : Call → StoreConc.Op KV Resp
  | .get k => readOp fun m => .got ((lookup k m).getD Val.nil) (lookup k m).isSome
  | .has k => readOp fun m => .bool (lookup k m).isSome
  | .len => readOp fun m => .nat m.length
  | .getAll en => readOp fun m => .map (mergeInto [] (en m).reverse)
  | .keys en => readOp fun m => .keys (keysOf (en m))
  | .set k v => writeOp fun m => put m k v
  | .delete k => writeOp fun m => erase k m
  | .clear => writeOp fun _ => []
  | .merge l => mergeOp l

theorem runBody_merge (l : KV) (m : KV) (r : Resp) :
    runBody (mergeOp l).body m r = (putAll m l, r) := by
  induction l generalizing m with
  | nil => rfl
  | cons p t ih =>
    simp only [mergeOp, List.map_cons, StoreConc.runBody_cons] at ih ⊢
    rw [ih]; rfl

theorem Call.op_effect (c : Call) (m : KV) : runBody c.op.body m c.op.init = c.apply m := by
  cases c with
  | merge l => simp only [Call.op, Call.apply, runBody_merge, putAll_eq_mergeInto]; rfl
  | _ => rfl

/-- the lock modes: the five reading methods take the read lock, the four writing ones the write lock -/
theorem Call.mode_eq (c : Call) :
    c.op.mode = (match c with | .get _ | .has _ | .len | .getAll _ | .keys _ => Mode.R | _ => Mode.W) := by
  cases c <;> rfl

/-- **"the interpreted method `f`, called with `args` in the heap state `s`, is the operation `c`"** (`mop`: the step of the hand model
    it is compared with). (a) the run of the interpreter, (b) the transition system's reading of the operation. -/
def SourceIs (enum : KV → KV) (fuel : Nat) (f : Func) (args : List GV) (s : St) (mop : Store.Op) (c : Call) : Prop :=
  (∃ acc, runStore enum fuel f args s =
        some (encResp (step s mop).1 (step s mop).2, withHandles (step s mop).1 s,
          [.lock c.op.mode, .deferUnlock c.op.mode] ++ acc ++ [.unlock c.op.mode]) ∧
      acc.count .write = (if c.op.mode = .W then c.op.body.length else 0) ∧ (∀ e ∈ acc, e = .read ∨ e = .write)) ∧
  runBody c.op.body s.cur c.op.init = ((step s mop).1.cur, (step s mop).2)

theorem cur_alloc (s : St) (hwf : WF s) (c : KV) (sn : List Nat) :
    ({ s with maps := s.maps ++ [c], snaps := sn } : St).cur = s.cur := by
  simp only [St.cur, St.deref]; exact getD_append_lt _ _ _ _ hwf

private theorem count_writes (n : Nat) : (List.replicate n LockEv.write).count .write = n := List.count_replicate_self ..

/-- every one of the nine methods of the interpreted source is the operation `Call.op` of the transition system (`SourceIs`), in every
    well-formed heap state (`WF s`: `s.data` is a live object) at every sufficient fuel; `GetAll`, `Keys`, `Merge` under the order that
    reproduces the model's list (other orders: `source_ops_anyorder`) -/
theorem source_ops_are_model_ops (enum : KV → KV) (s : St) (hwf : WF s) :
    (∀ k fuel, 8 ≤ fuel → SourceIs enum fuel SharedStore_Get [storeRef, .str k] s (.get k) (.get k)) ∧
    (∀ k fuel, 7 ≤ fuel → SourceIs enum fuel SharedStore_Has [storeRef, .str k] s (.has k) (.has k)) ∧
    (∀ fuel, 9 ≤ fuel → SourceIs enum fuel SharedStore_Len [storeRef] s .len .len) ∧
    (∀ fuel, (enum s.cur).reverse = s.cur → s.cur.length + 10 ≤ fuel →
        SourceIs enum fuel SharedStore_GetAll [storeRef] s .getAll (.getAll enum)) ∧
    (∀ fuel, enum s.cur = s.cur → s.cur.length + 11 ≤ fuel → SourceIs enum fuel SharedStore_Keys [storeRef] s .keys (.keys enum)) ∧
    (∀ k (g : GV) fuel, 6 ≤ fuel → SourceIs enum fuel SharedStore_Set [storeRef, .str k, g] s (.set k g.toVal) (.set k g.toVal)) ∧
    (∀ k fuel, 8 ≤ fuel → SourceIs enum fuel SharedStore_Delete [storeRef, .str k] s (.delete k) (.delete k)) ∧
    (∀ fuel, 6 ≤ fuel → SourceIs enum fuel SharedStore_Clear [storeRef] s .clear .clear) ∧
    (∀ j r fuel, s.snaps[j]? = some r → r < s.maps.length → (enum (s.deref r)).reverse = s.deref r → (s.deref r).length + 9 ≤ fuel →
        SourceIs enum fuel SharedStore_Merge [storeRef, .ref "map" r] s (.mergeSnap j) (.merge (enum (s.deref r)))) := by
  have hd : s.data < s.maps.length := hwf
  refine ⟨?_, ?_, ?_, ?_, ?_, ?_, ?_, ?_, ?_⟩
  · intro k fuel hf
    exact ⟨⟨[], SharedStore_Get_refines_of_le enum s k hwf fuel hf, rfl, by simp⟩, rfl⟩
  · intro k fuel hf
    exact ⟨⟨[], SharedStore_Has_refines_of_le enum s k hwf fuel hf, rfl, by simp⟩, rfl⟩
  · intro fuel hf
    exact ⟨⟨[.read], SharedStore_Len_refines_of_le enum s hwf fuel hf, rfl, by simp⟩, rfl⟩
  · intro fuel hen hf
    refine ⟨⟨[.read], SharedStore_GetAll_refines_of_le enum s hwf hen fuel hf, rfl, by simp⟩, ?_⟩
    rw [Call.op_effect]
    simp only [Call.apply, step, hen, cur_alloc s hwf]
  · intro fuel hen hf
    refine ⟨⟨[.read], SharedStore_Keys_refines_of_le enum s hwf hen fuel hf, rfl, by simp⟩, ?_⟩
    rw [Call.op_effect]
    simp only [Call.apply, step, hen]
    rfl
  · intro k g fuel hf
    refine ⟨⟨[.write], SharedStore_Set_refines_of_le enum s k g hwf fuel hf, rfl, by simp⟩, ?_⟩
    rw [Call.op_effect]
    simp only [Call.apply, step, cur_write_data _ _ hd]
  · intro k fuel hf
    refine ⟨⟨[.write], SharedStore_Delete_refines_of_le enum s k hwf fuel hf, rfl, by simp⟩, ?_⟩
    rw [Call.op_effect]
    simp only [Call.apply, step, cur_write_data _ _ hd]
  · intro fuel hf
    refine ⟨⟨[.write], SharedStore_Clear_refines_of_le enum s fuel hf, rfl, by simp⟩, ?_⟩
    rw [Call.op_effect]
    simp [Call.apply, step, St.cur, St.deref, getD_append_len]
  · intro j r fuel hj hr hen hf
    have hlen : (enum (s.deref r)).length = (s.deref r).length := by simpa using congrArg List.length hen
    refine ⟨⟨List.replicate (s.deref r).length .write, SharedStore_Merge_refines_of_le enum s j r hwf hj hr hen fuel hf, ?_,
      fun e he => .inr (List.eq_of_mem_replicate he)⟩, ?_⟩
    · simp [Call.op, mergeOp, count_writes, hlen]
    · rw [Call.op_effect]
      simp only [Call.apply, step, hj, hen, cur_write_data _ _ hd]

/-- `Merge(nil)` is not an operation of the transition system at all: it takes no lock, touches nothing, changes nothing (in every
    heap state, well-formed or not) -/
theorem merge_nil_is_no_operation (enum : KV → KV) (s : St) (fuel : Nat) (hf : 4 ≤ fuel) :
    runStore enum fuel SharedStore_Merge [storeRef, .nil] s = some ([], s, []) := by
  rw [SharedStore_Merge_nil_refines_of_le enum s fuel hf]
  cases s; rfl

/-- for EVERY enumeration order (Go does not specify one) the three methods with a loop lock in the same mode, perform the same number
    of writes, and are the operations `Call.getAll enum` / `Call.keys enum` / `Call.merge (enum m)`, whose answers differ from the
    model's only in the order of a list; `StoreConc.Op` and `Props/C13.lean` do not care which list it is -/
theorem source_ops_anyorder (enum : KV → KV) (s : St) (hwf : WF s) :
    (∀ fuel, (enum s.cur).length + 10 ≤ fuel →
      runStore enum fuel SharedStore_GetAll [storeRef] s =
        some ([.ref "map" s.maps.length], { s with maps := s.maps ++ [mergeInto [] (enum s.cur).reverse] },
          [.lock (Call.getAll enum).op.mode, .deferUnlock (Call.getAll enum).op.mode, .read, .unlock (Call.getAll enum).op.mode]) ∧
      (Call.getAll enum).apply s.cur = (s.cur, .map (mergeInto [] (enum s.cur).reverse))) ∧
    (∀ fuel, (enum s.cur).length + 11 ≤ fuel →
      runStore enum fuel SharedStore_Keys [storeRef] s =
        some ([.ref "strs" s.slices.length], { s with slices := s.slices ++ [keysOf (enum s.cur)] },
          [.lock (Call.keys enum).op.mode, .deferUnlock (Call.keys enum).op.mode, .read, .unlock (Call.keys enum).op.mode]) ∧
      (Call.keys enum).apply s.cur = (s.cur, .keys (keysOf (enum s.cur)))) ∧
    (∀ r fuel, r < s.maps.length → (enum (s.deref r)).length + 9 ≤ fuel →
      runStore enum fuel SharedStore_Merge [storeRef, .ref "map" r] s =
        some ([], s.write s.data ((Call.merge (enum (s.deref r))).apply s.cur).1,
          [.lock (Call.merge (enum (s.deref r))).op.mode, .deferUnlock (Call.merge (enum (s.deref r))).op.mode] ++
            List.replicate (Call.merge (enum (s.deref r))).op.body.length .write ++ [.unlock (Call.merge (enum (s.deref r))).op.mode])) :=
  ⟨fun fuel hf => ⟨SharedStore_GetAll_general_of_le enum s hwf fuel hf, rfl⟩,
   fun fuel hf => ⟨SharedStore_Keys_general_of_le enum s hwf fuel hf, rfl⟩,
   fun r fuel hr hf => by
    rw [SharedStore_Merge_general_of_le enum s r hwf hr fuel hf]
    simp [Call.op, mergeOp, Call.apply]⟩

def seqExec (m : KV) : List Call → KV
  | [] => m
  | c :: cs => seqExec (c.apply m).1 cs

def seqRun (m : KV) : List Call → List Resp
  | [] => []
  | c :: cs => (c.apply m).2 :: seqRun (c.apply m).1 cs

theorem seqExec_append (m : KV) (a b : List Call) : seqExec m (a ++ b) = seqExec (seqExec m a) b := by
  induction a generalizing m with
  | nil => rfl
  | cons c t ih => exact ih _

theorem seqRun_append (m : KV) (a b : List Call) : seqRun m (a ++ b) = seqRun m a ++ seqRun (seqExec m a) b := by
  induction a generalizing m with
  | nil => rfl
  | cons c t ih => simp only [List.cons_append, seqRun, seqExec, ih]

theorem legal_of_calls {m0 : KV} {log : List (StoreConc.Op KV Resp × Resp)} {g : KV} (h : StoreConc.Legal m0 log g)
    (hsrc : ∀ p ∈ log, ∃ c : Call, p.1 = c.op) :
    ∃ cs : List Call, log.map (·.1) = cs.map Call.op ∧ log.map (·.2) = seqRun m0 cs ∧ g = seqExec m0 cs := by
  induction h with
  | nil => exact ⟨[], rfl, rfl, rfl⟩
  | @snoc log g op hL ih =>
    obtain ⟨cs, h1, h2, h3⟩ := ih (fun p hp => hsrc p (List.mem_append_left _ hp))
    obtain ⟨c, hc⟩ := hsrc (op, (runBody op.body g op.init).2) (List.mem_append_right _ (List.mem_singleton.2 rfl))
    simp only at hc
    subst hc
    refine ⟨cs ++ [c], ?_, ?_, ?_⟩
    · simp [h1]
    · rw [List.map_append, h2, seqRun_append, ← h3, Call.op_effect]; rfl
    · rw [seqExec_append, ← h3, Call.op_effect]; rfl

/-- **C13 for the operations the interpreted source performs.**
    `hrt`, the RUNTIME (assumed): `σ` is a state of the transition system of `Model/StoreConc.lean` started with all threads idle on the
    map `m0`; `acquireW` is enabled only when nobody is inside, `acquireR` only when no writer is inside — these two guards ARE the
    semantics of `sync.RWMutex`; between two micro-steps of one goroutine any other may move; a micro-step is atomic.
    `hsrc`, the SOURCE: the operations linearised so far are `Call.op c`; that the interpreted method locks in that mode, writes inside
    and has the effect `Call.apply c` is `source_ops_are_model_ops`, proved.
    Then the order of the lock acquisitions is a sequential history `cs` of calls, each applied atomically to the map its predecessors
    left, `σ.g` the result of all of them; every completed call returned the answer promised at its acquisition; with no writer inside
    the real map is `σ.g`; a writer inside is alone; a reader inside will return what it was promised. -/
theorem C13_for_interpreted_source {m0 : KV} {σ : StoreConc.Sys KV Resp} (hrt : Props.C13.Reachable m0 σ)
    (hsrc : ∀ p ∈ σ.lin, ∃ c : Call, p.1 = c.op) :
    (∃ cs : List Call, σ.lin.map (·.1) = cs.map Call.op ∧ σ.lin.map (·.2) = seqRun m0 cs ∧ σ.g = seqExec m0 cs) ∧
    (∀ t l p, σ.th t = .done l p → l = p) ∧
    (¬ σ.writerInside → σ.s = σ.g) ∧
    (∀ t op r l p, σ.th t = .inside op r l p → op.mode = .W → ∀ u, u ≠ t → ∀ op' r' l' p', σ.th u ≠ .inside op' r' l' p') ∧
    (∀ t op r l p, σ.th t = .inside op r l p → op.mode = .R → (runBody r σ.s l).2 = p) :=
  have hl := Props.C13.linearizable hrt
  have hp := Props.C13.no_partial_observation hrt
  ⟨legal_of_calls hl.1 hsrc, hl.2.1, hl.2.2, hp.1, hp.2⟩

/-- non-vacuity: a reachable state with a three-entry `Merge` inside its critical section, two of its three writes still to come,
    linearised, `hsrc` true -/
example : ∃ σ : StoreConc.Sys KV Resp, Props.C13.Reachable [] σ ∧ σ.writerInside ∧ σ.lin ≠ [] ∧ (∀ p ∈ σ.lin, ∃ c : Call, p.1 = c.op) ∧
    σ.s = [("a", .tok 1)] ∧ σ.g = [("c", .tok 3), ("b", .tok 2), ("a", .tok 1)] := by
  let mg : Call := .merge [("a", .tok 1), ("b", .tok 2), ("c", .tok 3)]
  have r1 : Props.C13.Reachable ([] : KV) _ := .step .init (StoreConc.Step.invoke (Props.C13.initSys []) 0 mg.op rfl)
  have r2 : Props.C13.Reachable ([] : KV) _ := .step r1 (StoreConc.Step.acquireW _ 0 mg.op (by simp [StoreConc.upd]) rfl
    (by
      rintro ⟨u, op, r, l, p, hu⟩
      by_cases h0 : u = 0
      · subst h0; simp [StoreConc.upd] at hu
      · simp [StoreConc.upd, h0, Props.C13.initSys] at hu))
  have r3 : Props.C13.Reachable ([] : KV) _ := .step r2 (StoreConc.Step.micro _ 0 mg.op (fun m r => (put m "a" (.tok 1), r))
    [fun m r => (put m "b" (.tok 2), r), fun m r => (put m "c" (.tok 3), r)] .unit (runBody mg.op.body [] mg.op.init).2 rfl)
  refine ⟨_, r3, ⟨0, mg.op, _, _, _, rfl, rfl⟩, by simp, ?_, by decide, by decide⟩
  intro p hp
  simp only [Props.C13.initSys, List.nil_append, List.mem_singleton] at hp
  exact ⟨mg, by rw [hp]⟩

/-- the answer a caller reads off the values a method returned; a returned reference is dereferenced in the heap `st` after the call
    (the Go driver ranges over the returned map / slice) -/
def decResp (st : St) : List GV → Resp
  | [] => .unit
  | [v, .bool ok] => .got v.toVal ok
  | [.bool b] => .bool b
  | [.int n] => .nat n.toNat
  | [.ref "map" r] => .map (st.deref r)
  | [.ref "strs" r] => .keys (st.derefSlice r)
  | _ => .junk

/-- the caller keeps the map a call returned as its newest handle -/
def regMap (st : St) : List GV → St
  | [.ref "map" r] => { st with snaps := st.snaps ++ [r] }
  | _ => st

/-- the caller keeps the keys slice a call returned as its newest handle -/
def regStrs (st : St) : List GV → St
  | [.ref "strs" r] => { st with ksnaps := st.ksnaps ++ [r] }
  | _ => st

/-- one method call by the interpreter: the decoded answer, the heap afterwards (with what the caller registers) -/
def callM (en : KV → KV) (fuel : Nat) (f : Func) (args : List GV) (s : St) (reg : St → List GV → St := fun st _ => st) :
    Option (Resp × St) :=
  (runStore en fuel f args s).map fun r => (decResp r.2.1 r.1, reg r.2.1 r.1)

/-- **one step of a scenario against the interpreted source**; `en` is the order in which the runtime enumerates the map this call
    ranges over (`s.data` for `GetAll` / `Keys`, the argument for `Merge`). The last line: what the caller does to its own objects. -/
def srcStep (fuel : Nat) (en : KV → KV) (s : St) : Store.Op → Option (Resp × St)
  | .get k => callM en fuel SharedStore_Get [storeRef, .str k] s
  | .set k v => callM en fuel SharedStore_Set [storeRef, .str k, GV.ofVal v] s
  | .getAll => callM en fuel SharedStore_GetAll [storeRef] s regMap
  | .mergeNil => callM en fuel SharedStore_Merge [storeRef, .nil] s
  | .mergeLit l =>
    -- `m := map[string]any{…}` is the caller's; the caller keeps it
    callM en fuel SharedStore_Merge [storeRef, .ref "map" s.maps.length]
      { s with maps := s.maps ++ [mergeInto [] l], snaps := s.snaps ++ [s.maps.length] }
  | .mergeSnap j =>
    match s.snaps[j]? with
    | none => some (.noHandle, s)
    | some r => callM en fuel SharedStore_Merge [storeRef, .ref "map" r] s
  | .has k => callM en fuel SharedStore_Has [storeRef, .str k] s
  | .delete k => callM en fuel SharedStore_Delete [storeRef, .str k] s
  | .clear => callM en fuel SharedStore_Clear [storeRef] s
  | .keys => callM en fuel SharedStore_Keys [storeRef] s regStrs
  | .len => callM en fuel SharedStore_Len [storeRef] s
  | op => some ((step s op).2, (step s op).1)

def srcRun (fuel : Nat) (s : St) : List (Store.Op × (KV → KV)) → Option (List Resp × St)
  | [] => some ([], s)
  | (op, en) :: rest =>
    match srcStep fuel en s op with
    | some (r, s1) => (srcRun fuel s1 rest).map fun x => (r :: x.1, x.2)
    | none => none

/-- the whole scenario: `NewSharedStore()` by the interpreter on the empty heap, then the steps -/
def srcScenario (fuel : Nat) (steps : List (Store.Op × (KV → KV))) : Option (List Resp × St) :=
  (runStore id fuel NewSharedStore [] emptyHeap).bind fun r => srcRun fuel r.2.1 steps

/-- what `srcStep` yields, in closed form, as a function of the enumeration order -/
def srcPost (en : KV → KV) (s : St) : Store.Op → Resp × St
  | .getAll =>
    (.map (mergeInto [] (en s.cur).reverse),
      { s with maps := s.maps ++ [mergeInto [] (en s.cur).reverse], snaps := s.snaps ++ [s.maps.length] })
  | .keys =>
    (.keys (keysOf (en s.cur)), { s with slices := s.slices ++ [keysOf (en s.cur)], ksnaps := s.ksnaps ++ [s.slices.length] })
  | .mergeSnap j =>
    match s.snaps[j]? with
    | none => (.noHandle, s)
    | some r => (.unit, s.write s.data (mergeInto s.cur (en (s.deref r)).reverse))
  | .mergeLit l =>
    let s1 : St := { s with maps := s.maps ++ [mergeInto [] l], snaps := s.snaps ++ [s.maps.length] }
    (.unit, s1.write s1.data (mergeInto s1.cur (en (mergeInto [] l)).reverse))
  | op => ((step s op).2, (step s op).1)

/-- a recursion depth of the interpreter that suffices for the step -/
def needFuel (en : KV → KV) (s : St) : Store.Op → Nat
  | .getAll => (en s.cur).length + 10
  | .keys => (en s.cur).length + 11
  | .mergeSnap j => (en (s.deref ((s.snaps[j]?).getD 0))).length + 9
  | .mergeLit l => (en (mergeInto [] l)).length + 9
  | _ => 9

theorem callM_of_refines {en : KV → KV} {fuel : Nat} {f : Func} {args : List GV} {s s1 : St} {r : Resp} {tr : List LockEv}
    (h : runStore en fuel f args s = some (encResp s1 r, withHandles s1 s, tr))
    (hs : s1.snaps = s.snaps) (hk : s1.ksnaps = s.ksnaps) (hr : decResp s1 (encResp s1 r) = r) :
    callM en fuel f args s = some (r, s1) := by
  simp only [callM, h, Option.map_some, withHandles_self s1 s hs hk, hr]

theorem srcStep_eq (fuel : Nat) (en : KV → KV) (s : St) (hiso : Iso s) (op : Store.Op) (hf : needFuel en s op ≤ fuel) :
    srcStep fuel en s op = some (srcPost en s op) := by
  have hwf : WF s := hiso.data_lt
  cases op with
  | get k =>
    exact callM_of_refines (SharedStore_Get_refines_of_le en s k hwf fuel (Nat.le_trans (by decide : 8 ≤ 9) hf)) rfl rfl
      (by simp [step, encResp, decResp, toVal_ofVal])
  | set k v => exact callM_of_refines (SharedStore_Set_refines_of_le_val en s k v hwf fuel (Nat.le_trans (by decide : 6 ≤ 9) hf)) rfl rfl rfl
  | has k => exact callM_of_refines (SharedStore_Has_refines_of_le en s k hwf fuel (Nat.le_trans (by decide : 7 ≤ 9) hf)) rfl rfl rfl
  | len => exact callM_of_refines (SharedStore_Len_refines_of_le en s hwf fuel hf) rfl rfl rfl
  | delete k => exact callM_of_refines (SharedStore_Delete_refines_of_le en s k hwf fuel (Nat.le_trans (by decide : 8 ≤ 9) hf)) rfl rfl rfl
  | clear => exact callM_of_refines (SharedStore_Clear_refines_of_le en s fuel (Nat.le_trans (by decide : 6 ≤ 9) hf)) rfl rfl rfl
  | mergeNil => exact callM_of_refines (SharedStore_Merge_nil_refines_of_le en s fuel (Nat.le_trans (by decide : 4 ≤ 9) hf)) rfl rfl rfl
  | getAll =>
    simp only [srcStep, callM, SharedStore_GetAll_general_of_le en s hwf fuel hf]
    simp [srcPost, decResp, regMap, St.deref]
  | keys =>
    simp only [srcStep, callM, SharedStore_Keys_general_of_le en s hwf fuel hf]
    simp [srcPost, decResp, regStrs, St.derefSlice]
  | mergeSnap j =>
    cases hj : s.snaps[j]? with
    | none => simp [srcStep, srcPost, hj]
    | some r =>
      simp only [needFuel, hj, Option.getD_some] at hf
      simp only [srcStep, srcPost, hj, callM, SharedStore_Merge_general_of_le en s r hwf (handle_live hiso hj) fuel hf]
      rfl
  | mergeLit l =>
    have hwf1 : WF ({ s with maps := s.maps ++ [mergeInto [] l], snaps := s.snaps ++ [s.maps.length] } : St) :=
      (hiso.allocMap _).data_lt
    have hd1 : ({ s with maps := s.maps ++ [mergeInto [] l], snaps := s.snaps ++ [s.maps.length] } : St).deref s.maps.length
        = mergeInto [] l := by simp [St.deref]
    simp only [srcStep, srcPost, callM]
    rw [SharedStore_Merge_general_of_le en _ s.maps.length hwf1 (by simp) fuel (by rw [hd1]; exact hf), hd1]
    rfl
  | _ => rfl

/-- list order for `Keys`, reverse list order for `GetAll` / `Merge` (`Refine/Store.lean`, "iteration order") -/
def exactOrder : Store.Op → KV → KV
  | .keys => id
  | _ => List.reverse

theorem srcPost_exact (s : St) (op : Store.Op) : srcPost (exactOrder op) s op = ((step s op).2, (step s op).1) := by
  cases op with
  | mergeSnap j => simp only [srcPost, step, exactOrder, List.reverse_reverse]; cases s.snaps[j]? <;> rfl
  | mergeLit l =>
    simp only [srcPost, step, exactOrder, List.reverse_reverse, St.cur, St.deref, getD_append_len]
  | _ => simp [srcPost, step, exactOrder]

def withExact (ops : List Store.Op) : List (Store.Op × (KV → KV)) := ops.map fun op => (op, exactOrder op)

/-- a recursion depth that suffices for the whole scenario (it grows with the largest map ranged over) -/
def needRun (s : St) : List Store.Op → Nat
  | [] => 0
  | op :: t => max (needFuel (exactOrder op) s op) (needRun (step s op).1 t)

theorem srcRun_exact (fuel : Nat) (ops : List Store.Op) : ∀ (s : St), Iso s → needRun s ops ≤ fuel →
    srcRun fuel s (withExact ops) = some (run s ops, exec s ops) := by
  induction ops with
  | nil => intro s _ _; rfl
  | cons op t ih =>
    intro s hiso hf
    simp only [needRun, Nat.max_le] at hf
    simp only [withExact, List.map_cons, srcRun, srcStep_eq fuel _ s hiso op hf.1, srcPost_exact]
    have := ih (step s op).1 (iso_step hiso op) hf.2
    simp only [withExact] at this
    rw [this]; rfl

/-- **C14 for the interpreted source, exact form.** `NewSharedStore()` and then ANY sequence of steps — store methods run by the
    interpreter, interleaved with the caller's own mutations of the objects it was handed — under the orders `exactOrder`, at any
    sufficient depth: answers and final heap are `Store.run St.init ops` / `Store.exec St.init ops`, literally. Hence `Props/C14.lean`
    for that run: `c14` holds; the answers are those of the machine in which every handed-out object is an independent VALUE; the heap
    satisfies the isolation invariant; the store denotes the plain map of `Spec/Store.lean`. -/
theorem C14_for_interpreted_source (ops : List Store.Op) (fuel : Nat) (hf : max 8 (needRun St.init ops) ≤ fuel) :
    ∃ resps st, srcScenario fuel (withExact ops) = some (resps, st) ∧
      resps = run St.init ops ∧ st = exec St.init ops ∧
      Spec.Store.c14 ops resps = true ∧
      resps = vrun VSt.init ops ∧ st.view = vexec VSt.init ops ∧
      Iso st ∧
      (∀ k, abs st k = (Spec.Store.fexec Spec.Store.FSt.init ops).cur.f k) := by
  rw [Nat.max_le] at hf
  refine ⟨run St.init ops, exec St.init ops, ?_, rfl, rfl, Props.C14.c14_holds ops,
    (Props.C14.heap_machine_is_value_machine ops).1, (Props.C14.heap_machine_is_value_machine ops).2,
    Props.C14.isolation_invariant ops, Props.C14.abs_is_plain_map ops⟩
  simp only [srcScenario, NewSharedStore_refines_of_le id fuel hf.1, Option.bind_some]
  exact srcRun_exact fuel ops St.init iso_init hf.2

/-- non-vacuity: a snapshot, a caller-side mutation of it, a literal, a `Clear`, a `Merge` of the mutated snapshot, at depth 40
    (`decide` evaluates the interpreter) -/
example : (srcScenario 40 (withExact [.set "a" (.tok 1), .getAll, .snapSet 0 "a" (.tok 2), .get "a", .mergeLit [("b", .tok 3)], .keys,
      .clear, .len, .mergeSnap 0, .get "a", .readKeys 0])).map (·.1) =
    some [.unit, .map [("a", .tok 1)], .unit, .got (.tok 1) true, .unit, .keys ["b", "a"], .unit, .nat 0, .unit, .got (.tok 2) true,
      .keys ["b", "a"]] := by
  have h := C14_for_interpreted_source [.set "a" (.tok 1), .getAll, .snapSet 0 "a" (.tok 2), .get "a", .mergeLit [("b", .tok 3)], .keys,
      .clear, .len, .mergeSnap 0, .get "a", .readKeys 0] 40 (by decide)
  obtain ⟨resps, st, h1, rfl, rfl, _⟩ := h
  rw [h1]; decide

open Flyt.Spec.Store in
theorem sim_perm {a b : KV} {F : FMap} (hp : b.Perm a) (h : Sim a F) : Sim b F :=
  ⟨fun k => (mapEq_of_perm hp h.nd k).trans (h.look k), h.wf, nodupKeys_perm hp h.nd⟩

open Flyt.Spec.Store in
/-- one step under ANY permuting order: the answer passes `respOK` (the step predicate of `c14`), the heap stays isolated, and its
    value view stays related to the reference state (`SimV`: every map has the `lookup` of the reference's function, no key twice) -/
theorem srcPost_sim (en : KV → KV) (hperm : ∀ m, (en m).Perm m) {s : St} (hiso : Iso s) {fs : FSt} {ks : List (List Key)}
    (h : SimV s.view fs ks) (op : Store.Op) :
    respOK fs ks op (srcPost en s op).1 = true ∧ Iso (srcPost en s op).2 ∧
      SimV (srcPost en s op).2.view (fstep fs op) (ksStep ks op (srcPost en s op).1) := by
  have hdefault : srcPost en s op = ((step s op).2, (step s op).1) →
      respOK fs ks op (srcPost en s op).1 = true ∧ Iso (srcPost en s op).2 ∧
        SimV (srcPost en s op).2.view (fstep fs op) (ksStep ks op (srcPost en s op).1) := by
    intro he
    rw [he]
    have hv := step_view hiso op
    have hs := simV_step h op
    simp only
    rw [hv.1, hv.2]
    exact ⟨hs.1, iso_step hiso op, hs.2⟩
  have hrev : ∀ m, ((en m).reverse).Perm m := fun m => (List.reverse_perm _).trans (hperm m)
  have hcur : Sim s.cur fs.cur := h.cur
  cases op with
  | getAll =>
    have hc : Sim (mergeInto [] (en s.cur).reverse) fs.cur := sim_copy (sim_perm (hrev _) hcur)
    refine ⟨by simp only [srcPost, respOK]; exact sim_mapOK hc, hiso.allocMap _, ?_⟩
    simp only [srcPost, St.view_allocMap hiso, fstep, ksStep]
    exact ⟨hcur, by simp [h.len], simV_push h hc, h.ks⟩
  | keys =>
    have hc : Sim (en s.cur) fs.cur := sim_perm (hperm _) hcur
    refine ⟨by simp only [srcPost, respOK]; exact sim_keysOK hc, hiso.allocSlice _, ?_⟩
    simp only [srcPost, St.view_allocSlice hiso, fstep, ksStep]
    exact ⟨hcur, h.len, h.snaps, by simp [h.ks]⟩
  | mergeSnap j =>
    have hlen : s.snaps.length = fs.snaps.length := by simpa [St.view] using h.len
    cases hj : s.snaps[j]? with
    | none =>
      have hlt : ¬ j < fs.snaps.length := by
        intro hlt; rw [← hlen] at hlt; rw [List.getElem?_eq_getElem hlt] at hj; cases hj
      have hf : fs.snaps[j]? = none := List.getElem?_eq_none (by omega)
      simp only [srcPost, hj, respOK, fstep, ksStep, hf, if_neg hlt]
      exact ⟨by simp, hiso, h⟩
    | some r =>
      have hlt : j < fs.snaps.length := by
        rw [← hlen]; apply Classical.byContradiction; intro hn
        rw [List.getElem?_eq_none (by omega)] at hj; cases hj
      have hv : s.view.snaps[j]? = some (s.deref r) := by rw [view_snaps_getElem?, hj]; rfl
      have hF : fs.snaps[j]? = some fs.snaps[j] := List.getElem?_eq_getElem hlt
      have ha : Sim (s.deref r) fs.snaps[j] := h.snaps j _ _ hv hF
      simp only [srcPost, hj, respOK, fstep, ksStep, hF, if_pos hlt, St.view_write_data hiso]
      exact ⟨by simp, hiso.write _ _, ⟨sim_merge hcur (sim_perm (hrev _) ha), h.len, h.snaps, h.ks⟩⟩
  | mergeLit l =>
    have hiso1 := hiso.allocMap (mergeInto [] l)
    have hv1 := St.view_allocMap hiso (mergeInto [] l)
    have hcur1 : ({ s with maps := s.maps ++ [mergeInto [] l], snaps := s.snaps ++ [s.maps.length] } : St).cur = s.cur :=
      cur_alloc s hiso.data_lt _ _
    have ha : Sim (mergeInto [] l) (FMap.ofList l) := sim_ofList l
    simp only [srcPost, respOK, fstep, ksStep, hcur1]
    refine ⟨by simp, hiso1.write _ _, ?_⟩
    have hw := St.view_write_data hiso1 (mergeInto s.cur (en (mergeInto [] l)).reverse)
    simp only at hw
    rw [hw, hv1]
    exact ⟨sim_merge hcur (sim_perm (hrev _) ha), by simp [h.len], simV_push h ha, h.ks⟩
  | _ => exact hdefault rfl

open Flyt.Spec.Store in
theorem srcRun_anyorder (steps : List (Store.Op × (KV → KV))) (hperm : ∀ p ∈ steps, ∀ m, (p.2 m).Perm m) :
    ∀ (s : St) (fs : FSt) (ks : List (List Key)), Iso s → SimV s.view fs ks →
      ∃ F, ∀ fuel, F ≤ fuel → ∃ resps st, srcRun fuel s steps = some (resps, st) ∧
        check fs ks (steps.map (·.1)) resps = true ∧ Iso st ∧ ∃ ks', SimV st.view (fexec fs (steps.map (·.1))) ks' := by
  induction steps with
  | nil => intro s fs ks hiso h; exact ⟨0, fun _ _ => ⟨[], s, rfl, rfl, hiso, ks, h⟩⟩
  | cons p t ih =>
    obtain ⟨op, en⟩ := p
    intro s fs ks hiso h
    have hp : ∀ m, (en m).Perm m := hperm (op, en) List.mem_cons_self
    obtain ⟨h1, h2, h3⟩ := srcPost_sim en hp hiso h op
    obtain ⟨F, hF⟩ := ih (fun q hq => hperm q (List.mem_cons_of_mem _ hq)) _ _ _ h2 h3
    refine ⟨max (needFuel en s op) F, fun fuel hf => ?_⟩
    rw [Nat.max_le] at hf
    obtain ⟨resps, st, hr, hc, hi, hk⟩ := hF fuel hf.2
    refine ⟨(srcPost en s op).1 :: resps, st, ?_, ?_, hi, hk⟩
    · simp only [srcRun, srcStep_eq fuel en s hiso op hf.1, hr]; rfl
    · simp only [List.map_cons, check, Bool.and_eq_true]; exact ⟨h1, hc⟩

open Flyt.Spec.Store in
/-- **C14 for the interpreted source, for EVERY enumeration order.** Each step comes with its own order, any function that permutes
    the entries of the map that call ranges over (Go's randomised `range`; `hperm`). At every sufficient depth the run is not stuck;
    its answers satisfy `c14`, the predicate the driver evaluates on the Go implementation's answers (`Keys` / `GetAll` judged as
    sets); the final heap satisfies the isolation invariant; the store denotes the plain map `fexec` of `Spec/Store.lean`. -/
theorem C14_for_interpreted_source_anyorder (steps : List (Store.Op × (KV → KV))) (hperm : ∀ p ∈ steps, ∀ m, (p.2 m).Perm m) :
    ∃ F, ∀ fuel, F ≤ fuel → ∃ resps st, srcScenario fuel steps = some (resps, st) ∧
      c14 (steps.map (·.1)) resps = true ∧ Iso st ∧
      (∀ k, abs st k = (fexec FSt.init (steps.map (·.1))).cur.f k) := by
  obtain ⟨F, hF⟩ := srcRun_anyorder steps hperm St.init FSt.init [] iso_init (by rw [view_init]; exact simV_init)
  refine ⟨max 8 F, fun fuel hf => ?_⟩
  rw [Nat.max_le] at hf
  obtain ⟨resps, st, hr, hc, hi, ks', hk⟩ := hF fuel hf.2
  refine ⟨resps, st, ?_, hc, hi, fun k => hk.cur.look k⟩
  simp only [srcScenario, NewSharedStore_refines_of_le id fuel hf.1, Option.bind_some]
  exact hr

/-- non-vacuity: `hperm` holds of the orders of the exact form, and of a rotation -/
example : ∀ p ∈ withExact [.set "a" (.tok 1), .getAll, .keys], ∀ m, (p.2 m).Perm m := by
  intro p hp m
  simp only [withExact, List.map_cons, List.map_nil, List.mem_cons, List.not_mem_nil, or_false] at hp
  rcases hp with rfl | rfl | rfl
  · exact List.reverse_perm m
  · exact List.reverse_perm m
  · exact List.Perm.refl m
example : ∀ m : KV, (m.drop 1 ++ m.take 1).Perm m := fun m =>
  List.perm_append_comm.trans (by rw [List.take_append_drop])

end Flyt.Refine.Bridges
