import FlytModel.Refine.BridgeStore
import FlytModel.Refine.BridgeFlow
import FlytModel.Refine.BridgePool
/-!
# Bridges: property theorems of the hand model, carried down to the interpreted source

The property theorems (`Props/C*.lean`) are about the hand-written model; the refinement theorems (`Refine/*.lean`) say that the
translated Go source, run by the definitional interpreter, computes the model's functions. The three files imported here compose the
two, per component (namespace `Flyt.Refine.Bridges`): `Refine/BridgeStore.lean` (C13, C14), `Refine/BridgeFlow.lean` (C03),
`Refine/BridgePool.lean` (C12, C08). What they assume about the Go runtime (RWMutex guards, scheduler, channels, WaitGroup) is the
transition systems' `Step` / `apply`; the rest is derived from the source.
-/

namespace Flyt.Refine.Bridges

/-- the headline statements exist under these names (a renamed or dropped theorem breaks this file) -/
example := @source_ops_are_model_ops
example := @C13_for_interpreted_source
example := @C14_for_interpreted_source
example := @C14_for_interpreted_source_anyorder
example := @built_flow_exec_is_flowLoop
example := @C03_for_interpreted_source
example := @C12_for_interpreted_source
example := @C08_bound_for_interpreted_source

end Flyt.Refine.Bridges
