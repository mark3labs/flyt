import FlytModel.GoIR.FullStackWorld
import FlytModel.Refine.Stack
import FlytModel.Refine.BatchStack
import FlytModel.Refine.FlowBuild
import FlytModel.Refine.Config
import FlytModel.Refine.Small
/-!
# The full stack with the batch path: `Run → Flow.Exec → Run → runBatch → runBatchSequential → runExecWithRetries`

`Refine/Stack.lean` (`deepRun_eq_runNode`) stacks `Run` and `Flow.Exec` to any nesting depth but stops at `Run`'s dispatch on a batch
node (`batchDispatchWorld`: the call `runBatch` has the MODEL's meaning); `Refine/BatchStack.lean`
(`runBatch_over_interpreted_sequential`) stacks `runBatch`, `runBatchSequential`, `runExecWithRetries`. Here they are joined
(`GoIR/FullStackWorld.lean`: `batchDispatchWorldOver`, `fullBatch`, `fullLevel`, `fullRun`).

At the seam `Run → runBatch` the world step is an EQUALITY of worlds (`batchDispatchWorldOver_model`): `runBatch` never runs out of
fuel, so, unlike at the two flow seams of `Stack.lean`, the stacked world agrees with the layered one everywhere and no `callFunc_le`
is needed. `fullRun_eq_runNode` is `Stack.run_of_level` over `fullLevel_eq`, which is `Stack.deepLevel_eq` with the batch case
replaced by `fullBatchNode_eq`; the leaf and flow cases are generic in the meaning `R` of the nested `Run`.

The hypothesis `IdxOK`: for every batch node of the arena that takes the sequential path (`conc = 0`) and every visit `v`,
`idxOf id v` maps the `i`-th prepared item to `i` (`runBatch_over_interpreted_sequential`'s `hidx`, per node and visit; the script
of a batch node is per visit, `env.batchBeh id (st.visits id)`, as in `runNode`'s batch branch). With the canonical `idxOf`
(`canonIdx`: position among the prepared items) it is EQUIVALENT to "the prepared items are pairwise distinct" (`NodupOK`;
`canonIdx_ok`, `nodup_of_idxOK`), which for a finitely described arena is the Boolean check `nodupCheck` (`nodupOK_of_check`).
The hypothesis is not an artefact of the proof: the IR call `runExecWithRetries(ctx, node, item)` carries the item, not its
index, and the item world must pick the item's script; with two equal items (`FullEx.envBDup`) `fullRunCanon` differs from the
model (`GoIR/FullStackTest.lean` shows it).

Not covered: runs in which the model runs out of fuel; the CONCURRENT executor below `runBatch` (`conc > 0`: `stackBatchWorld` keeps
`batchWorld`'s modelled serial schedule; `Refine/FullConc.lean` interprets it as well); batch nodes
handed to `Run` as the `*BatchNodeBuilder` are covered by `fullBatchNode_eq` (`vb = true`) but `fullRun` uses the bare `*BatchNode`
as `deepRun` does; the user's callbacks are the scripts. In `fullRun` the flow node's `Flow.Prep` / `Flow.Post` and the embedded
`BaseNode`'s getters and fallback are `flowNodeWorld`'s; in `fullRun'` (last section, `fullRun'_eq_runNode`) these five are interpreted
source as well (`flowNodeWorldFull`), what remains of the world of `Run` on a flow node is type assertions, `ctx.Err()`, `DefaultAction`.
-/
namespace Flyt.Refine.FullStack
open Flyt Flyt.GoIR Flyt.Refine

theorem fullItemFuel_eq (cfg : BatchCfg) : fullItemFuel cfg = itemFuel cfg := rfl
theorem scrPrepLen_eq (scr : BatchScript) : scrPrepLen scr = Batch.prepLen scr := rfl
theorem fullSeqFuel_eq (scr : BatchScript) : fullSeqFuel scr = BatchStack.stackSeqFuel scr := rfl
theorem fullBatchFuel_eq (scr : BatchScript) : fullBatchFuel scr = batchFuel scr := rfl

/-- what `B` has to be for the `runBatch` call of `Run` on batch node `n` (visit `v`): the model's `runBatch` -/
def BatchOK (kind : CtxKind) (n : NodeId) (v : Nat) (cfg : BatchCfg) (scr : BatchScript) (B : BatchFn) : Prop :=
  ∀ sid ctx, B sid ctx = some (Flyt.runBatch kind n v sid cfg scr ctx)

/-- the world step at `Run → runBatch`, an equality: `runBatch` is total (`Flyt.Proofs.runBatch_proper`) -/
theorem batchDispatchWorldOver_model (kind : CtxKind) (n : NodeId) (v : Nat) (cfg : BatchCfg) (scr : BatchScript) (vb : Bool) :
    batchDispatchWorldOver (fun sid ctx => some (Flyt.runBatch kind n v sid cfg scr ctx)) vb =
      batchDispatchWorld kind n v cfg scr vb := rfl

theorem Run_over_runBatch (kind : CtxKind) (n : NodeId) (v : Nat) (sid : StoreId) (cfg : BatchCfg) (scr : BatchScript)
    (vb : Bool) (ctx : Ctx) (B : BatchFn) (hB : BatchOK kind n v cfg scr B) (fuel : Nat) (hf : batchNodeFuel ≤ fuel) :
    runBatchNodeIn (batchDispatchWorldOver B vb) fuel Flyt.Expected.IR.Run n sid ctx
      = some (Flyt.runBatch kind n v sid cfg scr ctx) := by
  obtain rfl : B = fun sid ctx => some (Flyt.runBatch kind n v sid cfg scr ctx) := funext fun sid => funext (hB sid)
  rw [batchDispatchWorldOver_model, ← runBatchNodeIR_eq_In]
  exact Run_dispatches_to_runBatch_of_le kind n v sid cfg scr vb ctx fuel hf

/-- the `hidx` of `runBatch_over_interpreted_sequential` for one node, visit: on the sequential path the prepared items are told
    apart by `idxOf` -/
def IdxOKAt (cfg : BatchCfg) (scr : BatchScript) (idxOf : Result → Nat) : Prop :=
  ¬ cfg.conc > 0 → ∀ l, scr.prep.res = .ok l →
    ∀ i (h : i < (normItems cfg.shape l).length), idxOf (normItems cfg.shape l)[i] = i

theorem fullBatch_ok (kind : CtxKind) (n : NodeId) (v : Nat) (cfg : BatchCfg) (scr : BatchScript) (idxOf : Result → Nat)
    (hidx : IdxOKAt cfg scr idxOf) : BatchOK kind n v cfg scr (fullBatch kind n v cfg scr idxOf) := by
  intro sid ctx
  exact BatchStack.runBatch_over_interpreted_sequential kind n v sid cfg scr idxOf ctx hidx
    (fullItemFuel cfg) (Nat.le_refl _) (fullSeqFuel scr) (Nat.le_refl _) (fullBatchFuel scr) (Nat.le_refl _)

/-- `Run` on a batch node, interpreted down to the item callbacks: `Run`'s dispatch → `runBatch` → `runBatchSequential` →
    `runExecWithRetries`, every one the interpretation of its translated source, is the model's `runBatch`. -/
theorem fullBatchNode_eq (kind : CtxKind) (n : NodeId) (v : Nat) (sid : StoreId) (cfg : BatchCfg) (scr : BatchScript)
    (idxOf : Result → Nat) (vb : Bool) (ctx : Ctx) (hidx : IdxOKAt cfg scr idxOf) :
    fullBatchNode kind n v sid cfg scr idxOf vb ctx = some (Flyt.runBatch kind n v sid cfg scr ctx) :=
  Run_over_runBatch kind n v sid cfg scr vb ctx _ (fullBatch_ok kind n v cfg scr idxOf hidx) batchIRFuel (Nat.le_refl _)

/-- the hypothesis on the arena: every batch node that takes the sequential path (`conc = 0`) has, on every visit, prepared items
    that `idxOf id v` tells apart (`idxOf id v items[i] = i`) -/
def IdxOK (env : Flyt.Env) (idxOf : NodeId → Nat → Result → Nat) : Prop :=
  ∀ id cfg, env.arena id = .batch cfg → ∀ v, IdxOKAt cfg (env.batchBeh id v) (idxOf id v)

theorem fullLevel_eq (env : Flyt.Env) (idxOf : NodeId → Nat → Result → Nat) (hidx : IdxOK env idxOf) (k : Nat) (R : Nat → RunFn)
    (hR : Stack.RunOK env k R) (id : NodeId) (sid : StoreId) (st : RunSt)
    (hne : (runNode env (k + 1) id sid st).2.2 ≠ .fuel) :
    fullLevel env idxOf k R id sid st = some (runNode env (k + 1) id sid st) := by
  unfold fullLevel
  cases harena : env.arena id with
  | leaf cfg => exact Stack.leafLevel_eq env k id sid st cfg harena
  | batch cfg =>
    simp only
    rw [fullBatchNode_eq env.kind id (st.visits id) sid cfg (env.batchBeh id (st.visits id)) (idxOf id (st.visits id)) false st.ctx
      (hidx id cfg harena (st.visits id))]
    exact Stack.batchLevel_eq env k id sid st cfg harena
  | flow start ops =>
    exact Stack.Run_over_interpreted_FlowExec env id start ops k sid st _ (Stack.deepExec_ok env id start ops k R hR) harena hne

/-- **The full stack, batch path included.** For every arena (leaves, batch nodes, flows nested to any depth, loops), every depth
    `k`, node, store and run state: whenever the model's `runNode env k` does not run out of fuel, the interpretation `fullRun` —
    `Run` interpreted; on a flow its `Flow.Exec` interpreted, whose nested `Run` calls are interpreted again, …; on a batch node
    `Run`'s dispatch, `runBatch`, `runBatchSequential` and every item's `runExecWithRetries` interpreted, down to the scripted
    user callbacks — returns exactly the model's events, run state (context, visit counters) and outcome. -/
theorem fullRun_eq_runNode (env : Flyt.Env) (idxOf : NodeId → Nat → Result → Nat) (hidx : IdxOK env idxOf) :
    ∀ (k : Nat) (id : NodeId) (sid : StoreId) (st : RunSt),
      (runNode env k id sid st).2.2 ≠ .fuel → fullRun env idxOf k id sid st = some (runNode env k id sid st) :=
  Stack.run_of_level env (fullLevel env idxOf) (fullRun env idxOf) (fun k => by rw [fullRun]) (fullLevel_eq env idxOf hidx)

/-- on every visit of every sequential batch node, the prepared items are pairwise distinct -/
def NodupOK (env : Flyt.Env) : Prop :=
  ∀ id cfg, env.arena id = .batch cfg → ¬ cfg.conc > 0 → ∀ v l, (env.batchBeh id v).prep.res = .ok l → (normItems cfg.shape l).Nodup

theorem idxOf_getElem_of_nodup {α : Type} [DecidableEq α] (l : List α) (hn : l.Nodup) (i : Nat) (h : i < l.length) :
    l.idxOf l[i] = i := hn.idxOf_getElem i h

theorem nodup_of_index {α : Type} (l : List α) (f : α → Nat) (k : Nat) (hf : ∀ i (h : i < l.length), f l[i] = k + i) : l.Nodup :=
  List.pairwise_iff_getElem.2 fun i j hi hj hij he => by
    have h := hf i hi
    rw [he, hf j hj] at h
    omega

theorem canonIdx_ok (env : Flyt.Env) (h : NodupOK env) : IdxOK env (canonIdx env) := by
  intro id cfg harena v hc l hl i hi
  simp only [canonIdx, harena, hl]
  exact idxOf_getElem_of_nodup _ (h id cfg harena hc v l hl) i hi

/-- `IdxOK` for ANY `idxOf` forces the items to be pairwise distinct: `NodupOK` is the weakest form of the hypothesis -/
theorem nodup_of_idxOK (env : Flyt.Env) (idxOf : NodeId → Nat → Result → Nat) (h : IdxOK env idxOf) : NodupOK env := by
  intro id cfg harena hc v l hl
  have hi := h id cfg harena v hc l hl
  exact nodup_of_index _ (idxOf id v) 0 (by simpa using hi)

theorem fullRunCanon_eq_runNode (env : Flyt.Env) (hnd : NodupOK env) (k : Nat) (id : NodeId) (sid : StoreId) (st : RunSt)
    (hne : (runNode env k id sid st).2.2 ≠ .fuel) : fullRunCanon env k id sid st = some (runNode env k id sid st) :=
  fullRun_eq_runNode env (canonIdx env) (canonIdx_ok env hnd) k id sid st hne

/-! `NodupOK` quantifies over all node ids and visits. For an arena whose batch nodes are among a finite list `ids` and whose batch
scripts do not change after visit `V` (`batchBeh id v = batchBeh id (min v V)`), it is the Boolean check `nodupCheck`. -/

def nodupAt (env : Flyt.Env) (id : NodeId) (v : Nat) : Bool :=
  match env.arena id with
  | .batch cfg =>
    cfg.conc > 0 ||
      (match (env.batchBeh id v).prep.res with
       | .ok l => decide (normItems cfg.shape l).Nodup
       | .error _ => true)
  | _ => true

def nodupCheck (env : Flyt.Env) (ids : List NodeId) (V : Nat) : Bool :=
  ids.all fun id => (List.range (V + 1)).all fun v => nodupAt env id v

theorem nodupOK_of_check (env : Flyt.Env) (ids : List NodeId) (V : Nat)
    (hids : ∀ id cfg, env.arena id = .batch cfg → id ∈ ids)
    (hV : ∀ id v, id ∈ ids → env.batchBeh id v = env.batchBeh id (min v V))
    (hchk : nodupCheck env ids V = true) : NodupOK env := by
  intro id cfg harena hc v l hl
  have hmem := hids id cfg harena
  have h1 := (List.all_eq_true.mp hchk) id hmem
  have h2 := (List.all_eq_true.mp h1) (min v V) (by simp [List.mem_range]; omega)
  rw [hV id v hmem] at hl
  simp only [nodupAt, harena, hl] at h2
  simpa [hc] using h2

/-! `FullEx.envB` (`GoIR/FullStackWorld.lean`): root flow 0 = `1 -a-> 8 -next-> 2 -y-> 9`, `9 -again-> 9`, `9 -done-> 11 -next-> 3`, where 2 is the
nested flow `4 -x-> 10 -default-> 5`; 8, 9, 10 are sequential batch nodes (retries with waits and a fallback; an item error in `stop`
mode; 9 is reached twice with different scripts), 11 a concurrent one. The batch nodes are among `[8, 9, 10, 11]`, the scripts do not
change after visit 1, and the Boolean check `nodupCheck` evaluates to `true` (`decide`): the prepared items are pairwise distinct,
the theorem applies with the canonical `idxOf`. (`GoIR/FullStackTest.lean` EVALUATES both sides.) -/
open FullEx in
theorem envB_nodup : NodupOK envB := by
  apply nodupOK_of_check envB [8, 9, 10, 11] 1
  · intro id cfg h
    simp only [envB] at h
    unfold arenaB at h
    split at h <;> cases h <;> simp
  · intro id v _
    cases v with
    | zero => rfl
    | succ v =>
      have : min (v + 1) 1 = 1 := by omega
      rw [this]
      simp only [envB]
      unfold behB
      split <;> first | rfl | simp_all
  · decide

/-- the flow 12 = `8 -next-> 10` (two sequential batch nodes: retries / waits / fallback, then a bare one), depth 4 -/
theorem envB_flow12 :
    fullRunCanon FullEx.envB 4 12 7 Proofs.Ex.st0 = some (runNode FullEx.envB 4 12 7 Proofs.Ex.st0) :=
  fullRunCanon_eq_runNode FullEx.envB envB_nodup 4 12 7 Proofs.Ex.st0 (by decide)

/-- with an explicit `idxOf` instead of `fullRunCanon`: the nested flow 2 = `4 -x-> 10 -default-> 5` -/
example : fullRun FullEx.envB (canonIdx FullEx.envB) 6 2 7 Proofs.Ex.st0 = some (runNode FullEx.envB 6 2 7 Proofs.Ex.st0) :=
  fullRun_eq_runNode FullEx.envB _ (canonIdx_ok _ envB_nodup) 6 2 7 Proofs.Ex.st0 (by decide)

example : (fullRunCanon FullEx.envB 4 12 7 Proofs.Ex.st0).map (fun r => (r.2.2, r.2.1.visits 8, r.2.1.visits 10))
    = some (.ok "default", 1, 1) := by
  rw [envB_flow12]; decide

/-- the root flow (both visits of node 9, the nested flow, the concurrent node 11), depth 12; the side condition "the model does not
    run out of fuel" is a closed Boolean computation (51 events), checked by kernel reduction -/
theorem envB_root :
    fullRunCanon FullEx.envB 12 0 7 Proofs.Ex.st0 = some (runNode FullEx.envB 12 0 7 Proofs.Ex.st0) :=
  fullRunCanon_eq_runNode FullEx.envB envB_nodup 12 0 7 Proofs.Ex.st0 (by decide +kernel)

/-- the five interpreted entries are what `flowNodeWorld` gives (`Flow_Prep_refines_of_le`, `Flow_Post_refines_of_le`,
    `BaseNode_GetMaxRetries_refines_of_le`, `BaseNode_GetWait_refines_of_le`, `BaseNode_ExecFallback_refines_of_le`); on a call with
    the wrong number of arguments both are undefined -/
theorem fullMcall_eq (env : Flyt.Env) (E : ExecFn) (start : Option NodeId) (tbl : Table) :
    fullMcall (flowNodeWorldOver env E start tbl) (flowNodeWorldOver env E start tbl).mcall
      = (flowNodeWorldOver env E start tbl).mcall := by
  funext recv m args h w
  cases recv with
  | node i =>
    simp only [fullMcall]
    by_cases h1 : (m == "Prep") = true
    · obtain rfl := eq_of_beq h1
      match args with
      | [c, sh] => simp only [FlowBuild.Flow_Prep_refines_of_le flowPrepFuel (Nat.le_refl _), Option.map_some]; rfl
      | [] | [_] | _ :: _ :: _ :: _ => rfl
    rw [if_neg h1]
    by_cases h2 : (m == "Post") = true
    · obtain rfl := eq_of_beq h2
      match args with
      | [c, sh, pv, x] =>
        simp only [FlowBuild.Flow_Post_refines_of_le flowPostFuel (Nat.le_refl _), Option.map_some]
        exact (FlowBuild.flowNodeWorld_Post_agrees env start tbl i c sh pv x h w).symm
      | [] | [_] | [_, _] | [_, _, _] => rfl
      | _ :: _ :: _ :: x :: _ :: _ => cases x <;> rfl
    rw [if_neg h2]
    by_cases h3 : (m == "GetMaxRetries") = true
    · obtain rfl := eq_of_beq h3
      rw [Config.BaseNode_GetMaxRetries_refines_of_le Config.emptyNode 0 getterFuel (by decide)]; rfl
    rw [if_neg h3]
    by_cases h4 : (m == "GetWait") = true
    · obtain rfl := eq_of_beq h4
      rw [Config.BaseNode_GetWait_refines_of_le Config.emptyNode 0 getterFuel (by decide)]; rfl
    rw [if_neg h4]
    by_cases h5 : (m == "ExecFallback") = true
    · obtain rfl := eq_of_beq h5
      match args with
      | [pv, x] =>
        cases x with
        | err e => simp only [Small.BaseNode_ExecFallback_refines_of_le _ _ _ _ _ _ fallbackFuel (Nat.le_refl _)]; rfl
        | _ => rfl
      | [] | [_] => rfl
      | _ :: x :: _ :: _ => cases x <;> rfl
    rw [if_neg h5]
  | _ => rfl

theorem flowNodeWorldFull_eq (env : Flyt.Env) (E : ExecFn) (start : Option NodeId) (tbl : Table) :
    flowNodeWorldFull env E start tbl = flowNodeWorldOver env E start tbl := by
  unfold flowNodeWorldFull
  rw [fullMcall_eq]

theorem fullLevel'_eq_fullLevel (env : Flyt.Env) (idxOf : NodeId → Nat → Result → Nat) (k : Nat) (R : Nat → RunFn) :
    fullLevel' env idxOf k R = fullLevel env idxOf k R := by
  funext id sid st
  unfold fullLevel' fullLevel
  cases env.arena id with
  | leaf cfg => rfl
  | batch cfg => rfl
  | flow start ops => simp only [flowNodeWorldFull_eq]

/-- `fullRun_eq_runNode` for `fullRun'`: additionally the flow node's `Prep`, `Post` and the embedded `BaseNode`'s
    `GetMaxRetries` / `GetWait` / `ExecFallback` are the interpretation of their translated sources (`flowNodeWorldFull`): every method
    `Run` calls on a flow node is interpreted source; only type assertions, `ctx.Err()` and `DefaultAction` are the world's. -/
theorem fullRun'_eq_runNode (env : Flyt.Env) (idxOf : NodeId → Nat → Result → Nat) (hidx : IdxOK env idxOf) :
    ∀ (k : Nat) (id : NodeId) (sid : StoreId) (st : RunSt),
      (runNode env k id sid st).2.2 ≠ .fuel → fullRun' env idxOf k id sid st = some (runNode env k id sid st) :=
  Stack.run_of_level env (fullLevel env idxOf) (fullRun' env idxOf) (fun k => by rw [fullRun', fullLevel'_eq_fullLevel])
    (fullLevel_eq env idxOf hidx)

theorem fullRunCanon'_eq_runNode (env : Flyt.Env) (hnd : NodupOK env) (k : Nat) (id : NodeId) (sid : StoreId) (st : RunSt)
    (hne : (runNode env k id sid st).2.2 ≠ .fuel) : fullRunCanon' env k id sid st = some (runNode env k id sid st) :=
  fullRun'_eq_runNode env (canonIdx env) (canonIdx_ok env hnd) k id sid st hne

theorem envB_root' :
    fullRunCanon' FullEx.envB 12 0 7 Proofs.Ex.st0 = some (runNode FullEx.envB 12 0 7 Proofs.Ex.st0) :=
  fullRunCanon'_eq_runNode FullEx.envB envB_nodup 12 0 7 Proofs.Ex.st0 (by decide +kernel)

end Flyt.Refine.FullStack

#print axioms Flyt.Refine.FullStack.fullRun_eq_runNode
#print axioms Flyt.Refine.FullStack.fullRunCanon_eq_runNode
#print axioms Flyt.Refine.FullStack.fullBatchNode_eq
#print axioms Flyt.Refine.FullStack.nodupOK_of_check
#print axioms Flyt.Refine.FullStack.envB_nodup
#print axioms Flyt.Refine.FullStack.envB_flow12
#print axioms Flyt.Refine.FullStack.envB_root
#print axioms Flyt.Refine.FullStack.fullRun'_eq_runNode
