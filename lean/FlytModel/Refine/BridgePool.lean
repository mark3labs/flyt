import FlytModel.Refine.Pool
import FlytModel.Props.C12
import FlytModel.Props.C08
/-!
# Bridge: C12 / C08 (worker pool) for the INTERPRETED source of `WorkerPool`

`Props/C12.lean` / `Props/C08.lean` are about `Pool.Reachable`: every state the LTS of `Model/Pool.lean` reaches by `Pool.apply`, whatever
the labels. `Refine/Pool.lean` proves, per function of the translated source, which synchronisation actions ONE goroutine performs, in
which order, and maps them to labels. A run of the pool PROGRAM (`SourceRun`) interleaves such sequences, every label accepted by
`Pool.apply` when its turn comes; it is a `Pool.Reachable` run, and so is every prefix: the invariants hold in EVERY state of it.

From the source: the ORDER of the labels of one goroutine (`hsrc` + `hint`). NOT from the source: which interleavings happen and when a
blocking operation may complete — the Go scheduler, buffered channels, `close`, `select`, `sync.WaitGroup`. That is `Pool.apply`: `hacc`
assumes that the runtime lets an action complete only when `apply` accepts its label. The invariants need nothing else
(`accepted_run_reachable`): `hsrc` and `hint` say that the runs of the Go program are among the runs quantified over. The LTS accepts
more than the runtime produces (it does not check that the `t` of a worker's `finish t` is the task that worker's own `take` dequeued);
for invariants of all reachable states that is the safe direction. That `NewWorkerPool` builds `Pool.init`: `Refine/NewPool.lean`.
-/
namespace Flyt.Refine.Bridges
open Flyt Flyt.GoIR Flyt.GoIR.PoolW Flyt.Expected.IR Flyt.Refine Flyt.Refine.Pool
open Flyt.Pool (Label)

/-- `ls` is what a run of the interpreter on the translated source yields for a goroutine in role `r` (started with an empty trace, at
    a sufficient recursion depth; the worker: with ANY script of observations and at ANY depth at which the run returns) -/
def SourceLabels : Role → List Label → Prop
  | .submitter t, ls => ∃ (fuel : Nat) (task : GV) (w : PW), 5 ≤ fuel ∧ w.trace = [] ∧
      labelsOfRun (.submitter t) (run fuel WorkerPool_Submit [poolH, task] w) = some ls
  | .waiter, ls => ∃ (fuel : Nat) (w : PW), 5 ≤ fuel ∧ w.trace = [] ∧ labelsOfRun .waiter (run fuel WorkerPool_Wait [poolH] w) = some ls
  | .closer, ls => ∃ (fuel : Nat) (w : PW), 7 ≤ fuel ∧ w.trace = [] ∧ labelsOfRun .closer (run fuel WorkerPool_Close [poolH] w) = some ls
  | .worker, ls => ∃ (fuel : Nat) (w : PW), w.trace = [] ∧ labelsOfRun .worker (run fuel WorkerPool_worker [poolH] w) = some ls
  | .wrapper t, ls => ∃ (fuel : Nat) (task : GV) (w : PW), 5 ≤ fuel ∧ w.trace = [] ∧ w.defers = [] ∧
      labelsOfRun (.wrapper t) (runWithDefers fuel wrapTask [poolH, task] { w with cur := some (.user t) }) = some ls

/-- the same set, explicitly -/
inductive RoleLabels : Role → List Label → Prop
  | submit (t : Nat) : RoleLabels (.submitter t) [.add t, .send t]
  | wait : RoleLabels .waiter [.callWait, .waitRet]
  | close : RoleLabels .closer [.close]
  | worker (ts : List Nat) : RoleLabels .worker ((ts.flatMap fun t => [.take, .finish t]) ++ [.exit])
  | wrapper (t : Nat) : RoleLabels (.wrapper t) [.finish t]

theorem script_split (sc : List Obs) :
    (∃ ts : List Nat, sc = ts.map .task) ∨ (∃ (ts : List Nat) (stop : Obs) (rest : List Obs), stop.isStop = true ∧ sc = ts.map .task ++ stop :: rest) := by
  induction sc with
  | nil => exact .inl ⟨[], rfl⟩
  | cons o t ih =>
    cases o with
    | task n =>
      rcases ih with ⟨ts, h⟩ | ⟨ts, stop, rest, hs, h⟩
      · exact .inl ⟨n :: ts, by rw [h]; rfl⟩
      · exact .inr ⟨n :: ts, stop, rest, hs, by rw [h]; rfl⟩
    | tasksClosed => exact .inr ⟨[], .tasksClosed, t, rfl, rfl⟩
    | doneClosed => exact .inr ⟨[], .doneClosed, t, rfl, rfl⟩

theorem run_mono {f g : Nat} (hfg : f ≤ g) {fn args w r} (h : run f fn args w = some r) : run g fn args w = some r := by
  simp only [run, Option.map_eq_some_iff] at h ⊢
  obtain ⟨x, hx, rfl⟩ := h
  exact ⟨x, mono_callFunc poolWorld hfg hx, rfl⟩

theorem with_script_eq (w : PW) (sc : List Obs) (h : w.script = sc) : { w with script := sc } = w := by subst h; cases w; rfl

/-- a run of the worker that returns was told to stop after some tasks `ts` (otherwise `WorkerPool_worker_blocks`), and is the run at
    the depth `worker_labels` asks for `ts` -/
theorem worker_returns {fuel : Nat} {w : PW} {x : List GV × PW} (hr : run fuel WorkerPool_worker [poolH] w = some x) :
    ∃ (ts : List Nat) (stop : Obs) (rest : List Obs) (g : Nat), stop.isStop = true ∧ 11 + 1 * ts.length ≤ g ∧
      run g WorkerPool_worker [poolH] { w with script := ts.map .task ++ stop :: rest } = some x := by
  rcases script_split w.script with ⟨ts, hsc⟩ | ⟨ts, stop, rest, hstop, hsc⟩
  · have hb := WorkerPool_worker_blocks fuel ts w
    rw [with_script_eq w _ hsc, hr] at hb; cases hb
  · exact ⟨ts, stop, rest, _, hstop, Nat.le_max_right fuel _, by
      rw [with_script_eq w _ hsc]; exact run_mono (Nat.le_max_left ..) hr⟩

/-- the label sequences of the interpreted source, role by role, are exactly `RoleLabels`; a worker that is never told to stop
    never returns and contributes none -/
theorem sourceLabels_iff (r : Role) (ls : List Label) : SourceLabels r ls ↔ RoleLabels r ls := by
  constructor
  · intro h
    cases r with
    | submitter t =>
      obtain ⟨fuel, task, w, hf, hw, h⟩ := h
      rw [Submit_labels hf t task w hw] at h; cases h; exact .submit t
    | waiter =>
      obtain ⟨fuel, w, hf, hw, h⟩ := h
      rw [Wait_labels hf w hw] at h; cases h; exact .wait
    | closer =>
      obtain ⟨fuel, w, hf, hw, h⟩ := h
      rw [Close_labels hf w hw] at h; cases h; exact .close
    | wrapper t =>
      obtain ⟨fuel, task, w, hf, hw, hd, h⟩ := h
      rw [wrapper_labels hf t task w hw hd] at h; cases h; exact .wrapper t
    | worker =>
      obtain ⟨fuel, w, hw, h⟩ := h
      obtain ⟨x, hr, rfl⟩ := Option.map_eq_some_iff.1 h
      obtain ⟨ts, stop, rest, g, hstop, hg, hx⟩ := worker_returns hr
      have hl := worker_labels ts hg stop hstop rest w hw
      rw [hx] at hl
      rw [show labelsOf .worker x.2.trace = _ from Option.some.inj hl]
      exact .worker ts
  · intro h
    cases h with
    | submit t => exact ⟨5, .nil, {}, Nat.le_refl _, rfl, Submit_labels (Nat.le_refl _) t .nil {} rfl⟩
    | wait => exact ⟨5, {}, Nat.le_refl _, rfl, Wait_labels (Nat.le_refl _) {} rfl⟩
    | close => exact ⟨7, {}, Nat.le_refl _, rfl, Close_labels (Nat.le_refl _) {} rfl⟩
    | wrapper t => exact ⟨5, .nil, {}, Nat.le_refl _, rfl, rfl, wrapper_labels (Nat.le_refl _) t .nil {} rfl rfl⟩
    | worker ts =>
      exact ⟨11 + 1 * ts.length, { ({} : PW) with script := ts.map .task ++ [.doneClosed] }, rfl,
        worker_labels ts (Nat.le_refl _) .doneClosed rfl [] {} rfl⟩

/-- `out` is an interleaving of the sequences `gs`, each consumed front to back; sequences need not be exhausted (a goroutine may be
    blocked, or not have got further yet), so every prefix of an interleaving is one -/
inductive Interleave {α : Type} : List (List α) → List α → Prop
  | stop (gs : List (List α)) : Interleave gs []
  | step (gs : List (List α)) (i : Nat) (a : α) (rest : List α) (out : List α) :
      gs[i]? = some (a :: rest) → Interleave (gs.set i rest) out → Interleave gs (a :: out)

theorem Interleave.prefix {α : Type} {gs : List (List α)} {a b : List α} (h : Interleave gs (a ++ b)) : Interleave gs a := by
  induction a generalizing gs with
  | nil => exact .stop gs
  | cons x t ih =>
    cases h with
    | step _ i _ rest _ hi hrest => exact .step gs i x rest t hi (ih hrest)

theorem foldlM_append_eq_some {σ α : Type} {f : σ → α → Option σ} {s s' : σ} {a b : List α} :
    (a ++ b).foldlM f s = some s' ↔ ∃ p, a.foldlM f s = some p ∧ b.foldlM f p = some s' := by
  rw [List.foldlM_append]; exact Option.bind_eq_some_iff

theorem foldlM_invariant {σ α : Type} {f : σ → α → Option σ} {P : σ → Prop} (hstep : ∀ s l t, P s → f s l = some t → P t)
    {s s' : σ} {ls : List α} (hs : P s) (h : ls.foldlM f s = some s') : P s' := by
  induction ls generalizing s with
  | nil => cases h; exact hs
  | cons l t ih =>
    obtain ⟨s1, h1, h2⟩ := Option.bind_eq_some_iff.1 h
    exact ih (hstep s l s1 hs h1) h2

/-- apply the labels one after the other; `none` as soon as one is not accepted -/
def runLabels (p : Flyt.Pool.Pool) : List Label → Option Flyt.Pool.Pool
  | [] => some p
  | l :: ls => (Flyt.Pool.apply p l).bind fun q => runLabels q ls

theorem runLabels_eq_foldlM (p : Flyt.Pool.Pool) (ls : List Label) : runLabels p ls = ls.foldlM Flyt.Pool.apply p := by
  induction ls generalizing p with
  | nil => rfl
  | cons l t ih => exact congrArg _ (funext ih)

theorem runLabels_append_eq_some {p q : Flyt.Pool.Pool} {a b : List Label} :
    runLabels p (a ++ b) = some q ↔ ∃ r, runLabels p a = some r ∧ runLabels r b = some q := by
  simp only [runLabels_eq_foldlM]; exact foldlM_append_eq_some

theorem path_of_runLabels {p q : Flyt.Pool.Pool} {ls : List Label} (h : runLabels p ls = some q) : Props.C12.Path p q :=
  foldlM_invariant (fun _ l _ hp hl => .step hp ⟨l, hl⟩) (.refl p) (runLabels_eq_foldlM p ls ▸ h)

/-- ANY label sequence that `Pool.apply` accepts step by step is a `Pool.Reachable` run: no assumption on where the labels come from -/
theorem accepted_run_reachable {cap : Nat} {workers : Int} {p q : Flyt.Pool.Pool} {ls : List Label}
    (hp : Flyt.Pool.Reachable cap workers p) (h : runLabels p ls = some q) : Flyt.Pool.Reachable cap workers q :=
  Props.C12.reachable_path hp (path_of_runLabels h)

/-- a goroutine of the pool program: its role and the labels it contributes -/
structure Goroutine where
  role : Role
  labels : List Label

/-- its label sequence is one the interpreted source yields for its role; the wrapper closure is not a goroutine of its own (it runs
    inside the worker's call, whose label `finish t` it is: `wrapper_inline`) -/
def Goroutine.FromSource (g : Goroutine) : Prop := (∀ t, g.role ≠ .wrapper t) ∧ SourceLabels g.role g.labels

/-- **a run of the pool program** from `NewWorkerPool(workers)` (channel capacity `cap`) to the state `q`, with label sequence `ls`:
    `hsrc` each goroutine contributes what the interpreted source of its role yields, `hint` interleaved in some way, `hacc` each label
    accepted by `Pool.apply` when its turn comes (the runtime: scheduler, channels, WaitGroup) -/
def SourceRun (cap : Nat) (workers : Int) (ls : List Label) (q : Flyt.Pool.Pool) : Prop :=
  ∃ gs : List Goroutine, (∀ g ∈ gs, g.FromSource) ∧ Interleave (gs.map (·.labels)) ls ∧
    runLabels (Flyt.Pool.init cap workers) ls = some q

/-- every prefix of a run of the program is a run of the program -/
theorem SourceRun.prefix {cap : Nat} {workers : Int} {a b : List Label} {q : Flyt.Pool.Pool} (h : SourceRun cap workers (a ++ b) q) :
    ∃ p, SourceRun cap workers a p ∧ runLabels p b = some q := by
  obtain ⟨gs, hsrc, hint, hacc⟩ := h
  obtain ⟨p, hp, hrest⟩ := runLabels_append_eq_some.1 hacc
  exact ⟨p, ⟨gs, hsrc, hint.prefix, hp⟩, hrest⟩

/-- a run of the pool program is a `Pool.Reachable` run -/
theorem source_run_reachable {cap : Nat} {workers : Int} {ls : List Label} {q : Flyt.Pool.Pool} (h : SourceRun cap workers ls q) :
    Flyt.Pool.Reachable cap workers q := by
  obtain ⟨_, _, _, hacc⟩ := h
  exact accepted_run_reachable .init hacc

/-- **C12 for the interpreted source.** In EVERY state `p` of a run of the pool program (after every prefix `l₁` of its labels): `p` is
    reachable; a task is in exactly one of pending, queued, running, finished; the WaitGroup counter is the number of unfinished tasks;
    `Wait` returns only at counter zero, every task submitted so far being finished then; no task is dropped and a finished task stays
    finished up to the end `q`. At the end, if `q` is closed with counter zero, no worker can take or run anything, every idle worker
    can leave, and when they have all done so all `q.w` workers have terminated. -/
theorem C12_for_interpreted_source {cap : Nat} {workers : Int} {ls : List Label} {q : Flyt.Pool.Pool} (h : SourceRun cap workers ls q) :
    (∀ l₁ l₂, ls = l₁ ++ l₂ → ∃ p, runLabels (Flyt.Pool.init cap workers) l₁ = some p ∧
      SourceRun cap workers l₁ p ∧ Flyt.Pool.Reachable cap workers p ∧
      (p.pend ++ p.queue ++ p.running ++ p.finished).Nodup ∧
      p.wg = p.pend.length + p.queue.length + p.running.length ∧
      (∀ l₂', l₂ = .waitRet :: l₂' → p.wg = 0 ∧
        ∃ r, Flyt.Pool.apply p .waitRet = some r ∧ ∀ t, t ∈ p.tasks → t ∈ r.finished) ∧
      (∀ t, t ∈ p.tasks → t ∈ q.tasks) ∧
      (∀ t, t ∈ p.finished → t ∈ q.finished ∧ t ∉ q.running ∧ t ∉ q.queue ∧ t ∉ q.pend)) ∧
    (q.closed = true → q.wg = 0 →
      Flyt.Pool.apply q .take = none ∧ (∀ t, Flyt.Pool.apply q (.finish t) = none) ∧
      (q.idle > 0 → (Flyt.Pool.apply q .exit).isSome) ∧
      (Props.C12.exitAll q.idle q).exited = q.w ∧ (Props.C12.exitAll q.idle q).idle = 0) := by
  refine ⟨?_, fun hc hw => ?_⟩
  · rintro l₁ l₂ rfl
    obtain ⟨p, hsrc, hrest⟩ := h.prefix
    have hp := source_run_reachable hsrc
    have hpath := path_of_runLabels hrest
    have inv := Flyt.Pool.inv_reachable hp
    have hacc : runLabels (Flyt.Pool.init cap workers) l₁ = some p := by obtain ⟨_, _, _, h3⟩ := hsrc; exact h3
    refine ⟨p, hacc, hsrc, hp, inv.nodup, inv.wgEq, ?_, Props.C12.never_dropped hpath,
      Props.C12.finished_is_final hp hpath⟩
    rintro l₂' rfl
    simp only [runLabels] at hrest
    cases hr : Flyt.Pool.apply p .waitRet with
    | none => rw [hr] at hrest; cases hrest
    | some r =>
      refine ⟨?_, r, rfl, Props.C12.wait_barrier hp hr⟩
      simp only [Flyt.Pool.apply] at hr
      split at hr
      · rename_i hcnd; exact hcnd.2
      · cases hr
  · obtain ⟨a, b, c, d, e, _⟩ := Props.C12.close_leaks_nothing (source_run_reachable h) hc hw
    exact ⟨a, b, c, d, e⟩

/-- **C08 (hard bound) for the interpreted source.** In every state of a run of the pool program at most `w` tasks are being
    executed, `w` being what `NewWorkerPool` was given (`≤ 0` meaning 1); and an idle worker never refuses queued work. -/
theorem C08_bound_for_interpreted_source {cap : Nat} {workers : Int} {ls : List Label} {q : Flyt.Pool.Pool}
    (h : SourceRun cap workers ls q) :
    ∀ l₁ l₂, ls = l₁ ++ l₂ → ∃ p, runLabels (Flyt.Pool.init cap workers) l₁ = some p ∧
      p.running.length ≤ p.w ∧ p.w = (if workers ≤ 0 then 1 else workers.toNat) ∧
      (p.queue ≠ [] → p.running.length + p.exited < p.w → (Flyt.Pool.apply p .take).isSome) := by
  rintro l₁ l₂ rfl
  obtain ⟨p, hsrc, _⟩ := h.prefix
  have hp := source_run_reachable hsrc
  have hacc : runLabels (Flyt.Pool.init cap workers) l₁ = some p := by obtain ⟨_, _, _, h3⟩ := hsrc; exact h3
  exact ⟨p, hacc, Props.C08.in_flight_le_workers hp, Props.C08.w_const hp, Props.C08.idle_worker_takes hp⟩

/-- non-vacuity of `SourceRun`: one worker, two submitters, a waiter, a closer; capacity 1, so the second `Submit` has to wait for the
    worker's `take` -/
example : ∃ q, SourceRun 1 1
    [.add 0, .send 0, .add 1, .callWait, .take, .send 1, .finish 0, .take, .finish 1, .waitRet, .close, .exit] q ∧
    q.finished = [1, 0] ∧ q.wg = 0 ∧ q.exited = 1 := by
  refine ⟨(runLabels (Flyt.Pool.init 1 1)
      [.add 0, .send 0, .add 1, .callWait, .take, .send 1, .finish 0, .take, .finish 1, .waitRet, .close, .exit]).getD (Flyt.Pool.init 1 1),
    ⟨[⟨.submitter 0, [.add 0, .send 0]⟩, ⟨.submitter 1, [.add 1, .send 1]⟩, ⟨.waiter, [.callWait, .waitRet]⟩,
      ⟨.worker, [.take, .finish 0, .take, .finish 1, .exit]⟩, ⟨.closer, [.close]⟩], ?_, ?_, by decide⟩, by decide, by decide, by decide⟩
  · intro g hg
    simp only [List.mem_cons, List.not_mem_nil, or_false] at hg
    rcases hg with rfl | rfl | rfl | rfl | rfl
    · exact ⟨fun t => by simp, (sourceLabels_iff _ _).2 (.submit 0)⟩
    · exact ⟨fun t => by simp, (sourceLabels_iff _ _).2 (.submit 1)⟩
    · exact ⟨fun t => by simp, (sourceLabels_iff _ _).2 .wait⟩
    · exact ⟨fun t => by simp, (sourceLabels_iff _ _).2 (.worker [0, 1])⟩
    · exact ⟨fun t => by simp, (sourceLabels_iff _ _).2 .close⟩
  · refine .step _ 0 _ _ _ rfl (.step _ 0 _ _ _ rfl (.step _ 1 _ _ _ rfl (.step _ 2 _ _ _ rfl (.step _ 3 _ _ _ rfl
      (.step _ 1 _ _ _ rfl (.step _ 3 _ _ _ rfl (.step _ 3 _ _ _ rfl (.step _ 3 _ _ _ rfl (.step _ 2 _ _ _ rfl
      (.step _ 4 _ _ _ rfl (.step _ 3 _ _ _ rfl (.stop _))))))))))))

/-- `hacc` bites: the same goroutines, but `Wait` returning while task 1 still runs, is not accepted -/
example : runLabels (Flyt.Pool.init 1 1) [.add 0, .send 0, .add 1, .callWait, .take, .send 1, .finish 0, .take, .waitRet] = none := by
  decide

end Flyt.Refine.Bridges
