import FlytModel.Refine.SourceBase
import FlytModel.Props.C09
/-!
# C09 (stop-on-error halts the batch; unprocessed items are never reported as successes) about the interpreted source

The corollaries are about the two executors, each as its own layer: `runBatchSequential` (`itemsSeqIR`, depth `≥ items.length + 23`)
and `runBatchConcurrent` on the pool's serial schedule (`itemsConcSerialIR`, depth `≥ items.length + 37`). In their worlds
`runExecWithRetries` is the model's `runItem`, so hypotheses about what an item's processing yields (`hfail`, `hpre`) are stated with
`runItem`; by `runExecWithRetries_refines_runItem_of_le` they are statements about the interpreted `runExecWithRetries`. Hypotheses of
the model theorems about the run's own trace (`hnever`, `hsplit`) sit inside the conclusion as implications. All need `hidx`: item
lists without repeated items (`hidx_of_nodup`; see `Refine/SourceC06.lean`).
Not carried over: the theorems of `Props/C09.lean` about the LTS `Flyt.Conc` (every schedule) and its gated simulation (for general
schedules there is only the per-task tie of `Refine/Task.lean`), and `spec_c09_holds_seq` (bridge to the driver's `Spec.c09`).
-/
set_option autoImplicit false
namespace Flyt.Refine.Source
open Flyt Flyt.GoIR Flyt.Refine Flyt.BatchSeq

/-- **C09, stop mode: after the first failing item nothing is executed.** If no callback cancels and `f` is the first item whose
    processing returns an error, the interpreted `runBatchSequential` and the interpreted `runBatchConcurrent` on the pool's serial
    schedule return the same triple; its events are those of items `0..f` only, slot `f` holds the error, every later slot holds the
    "batch stopped" error, there is one slot per item. Mirrors `Props.C09.stop_halts_after_first_failure`. -/
theorem C09_stop_halts_after_first_failure_for_interpreted_source (kind : CtxKind) (n : NodeId) (v : Nat) (cfg : BatchCfg)
    (scr : BatchScript) (hs : cfg.stop = true) (hq : ∀ j, Quiet (scr.item j)) (items : List Result) (f : Nat) (hf : f < items.length)
    (e : ErrRoot) (hfail : (runItem kind n v cfg f items[f] (scr.item f) .live).2.2 = .error e)
    (hpre : ∀ j (hj : j < f), ∃ s, (runItem kind n v cfg j (items[j]'(by omega)) (scr.item j) .live).2.2 = .slot s)
    (idxOf : Result → Nat) (hidx : ∀ i (h : i < items.length), idxOf items[i] = i)
    (fuel : Nat) (hfuel : items.length + 23 ≤ fuel) (cfuel : Nat) (hcfuel : items.length + 37 ≤ cfuel) :
    ∃ evs ctx' slots,
      itemsSeqIR fuel Flyt.Expected.IR.runBatchSequential kind n v cfg scr idxOf items .live = some (evs, ctx', slots) ∧
      itemsConcSerialIR cfuel Flyt.Expected.IR.runBatchConcurrent kind n v cfg scr idxOf items .live = some (evs, ctx', slots) ∧
      (∀ ev ∈ evs, ∃ j, evItem ev = some j ∧ j ≤ f) ∧
      slots[f]? = some (newErrorResult e) ∧
      (∀ j, f < j → j < items.length → slots[j]? = some BatchSeq.stoppedSlot) ∧
      slots.length = items.length := by
  obtain ⟨h0, h1, h2, h3, h4⟩ := Props.C09.stop_halts_after_first_failure kind n v cfg scr hs hq items f hf e hfail hpre
  refine ⟨_, _, _, runBatchSequential_refines_of_le kind n v cfg scr idxOf items .live hidx fuel hfuel, ?_, h1, h2, h3, h4⟩
  rw [runBatchConcurrent_serial_refines_of_le kind n v cfg scr idxOf items .live hidx cfuel hcfuel, h0]

/-- **C09, every mode, with or without cancellation: an item that never ran is never presented as a success.** For a node with an exec
    function and a retry budget ≥ 1: if no event of the interpreted `runBatchSequential` carries index `j`, slot `j` is an error.
    Mirrors `Props.C09.never_run_never_success`. -/
theorem C09_never_run_never_success_for_interpreted_source (kind : CtxKind) (n : NodeId) (v : Nat) (cfg : BatchCfg) (scr : BatchScript)
    (hb : 0 < cfg.budget) (hex : cfg.execS ≠ .absent) (items : List Result) (ctx : Ctx) (j : Nat) (hj : j < items.length)
    (idxOf : Result → Nat) (hidx : ∀ i (h : i < items.length), idxOf items[i] = i) (fuel : Nat) (hfuel : items.length + 23 ≤ fuel) :
    ∃ evs ctx' slots,
      itemsSeqIR fuel Flyt.Expected.IR.runBatchSequential kind n v cfg scr idxOf items ctx = some (evs, ctx', slots) ∧
      (itemEvents j evs = [] → ∃ r, slots[j]? = some r ∧ r.isError = true) :=
  transfer (runBatchSequential_refines_of_le kind n v cfg scr idxOf items ctx hidx fuel hfuel)
    (fun hnever => Props.C09.never_run_never_success kind n v cfg scr hb hex items ctx j hj hnever)

/-- … the same for the interpreted `runBatchConcurrent` on the pool's serial schedule (`itemsSerialPool_eq_seq`) -/
theorem C09_never_run_never_success_for_interpreted_serial_pool (kind : CtxKind) (n : NodeId) (v : Nat) (cfg : BatchCfg)
    (scr : BatchScript) (hb : 0 < cfg.budget) (hex : cfg.execS ≠ .absent) (items : List Result) (ctx : Ctx) (j : Nat)
    (hj : j < items.length) (idxOf : Result → Nat) (hidx : ∀ i (h : i < items.length), idxOf items[i] = i)
    (fuel : Nat) (hfuel : items.length + 37 ≤ fuel) :
    ∃ evs ctx' slots,
      itemsConcSerialIR fuel Flyt.Expected.IR.runBatchConcurrent kind n v cfg scr idxOf items ctx = some (evs, ctx', slots) ∧
      (itemEvents j evs = [] → ∃ r, slots[j]? = some r ∧ r.isError = true) := by
  refine transfer (runBatchConcurrent_serial_refines_of_le kind n v cfg scr idxOf items ctx hidx fuel hfuel) ?_
  rw [itemsSerialPool_eq_seq]
  exact fun hnever => Props.C09.never_run_never_success kind n v cfg scr hb hex items ctx j hj hnever

/-- … and a slot that is not one of the two "never processed" error markers is the outcome of processing that very item with its own
    script, whose events are in the trace: the real outcome of executing that item. Mirrors `Props.C09.slot_is_real_outcome_or_error`;
    the item's processing is given as the interpreted `runExecWithRetries`. -/
theorem C09_slot_is_real_outcome_or_error_for_interpreted_source (kind : CtxKind) (n : NodeId) (v : Nat) (cfg : BatchCfg)
    (scr : BatchScript) (items : List Result) (ctx : Ctx) (j : Nat) (hj : j < items.length)
    (idxOf : Result → Nat) (hidx : ∀ i (h : i < items.length), idxOf items[i] = i) (fuel : Nat) (hfuel : items.length + 23 ≤ fuel)
    (ifuel : Nat) (hif : itemFuel cfg ≤ ifuel) :
    ∃ evs ctx' slots,
      itemsSeqIR fuel Flyt.Expected.IR.runBatchSequential kind n v cfg scr idxOf items ctx = some (evs, ctx', slots) ∧
      ((∃ ievs ictx ires,
          runItemIR ifuel Flyt.Expected.IR.runExecWithRetries kind n v cfg j items[j] (scr.item j) .live = some (ievs, ictx, ires) ∧
          slots[j]? = some (slotOfRes ires) ∧ itemEvents j evs = ievs) ∨
       (∃ r, slots[j]? = some r ∧ r.isError = true)) := by
  refine transfer (runBatchSequential_refines_of_le kind n v cfg scr idxOf items ctx hidx fuel hfuel) ?_
  rcases Props.C09.slot_is_real_outcome_or_error kind n v cfg scr items ctx j hj with ⟨h1, h2⟩ | h
  · exact .inl ⟨_, _, _, runExecWithRetries_refines_runItem_of_le kind n v cfg j items[j] (scr.item j) .live ifuel hif, h1, h2⟩
  · exact .inr h

/-- **C09, stop mode with arbitrary scripts (cancellation included): nothing is executed after a final failure.** In the trace of the
    interpreted `runBatchSequential`, no exec call of ANY item follows an exec call that is a final failure (`Bridge.ffEv`: the item's own
    script makes it fail on its last attempt with no successful fallback). Mirrors `Props.C09.stop_mode_nothing_after_final_failure`. -/
theorem C09_stop_mode_nothing_after_final_failure_for_interpreted_source (kind : CtxKind) (n : NodeId) (v : Nat) (cfg : BatchCfg)
    (scr : BatchScript) (nn : Nat) (hs : cfg.stop = true) (items : List Result) (ctx : Ctx)
    (idxOf : Result → Nat) (hidx : ∀ i (h : i < items.length), idxOf items[i] = i) (fuel : Nat) (hfuel : items.length + 23 ≤ fuel) :
    ∃ evs ctx' slots,
      itemsSeqIR fuel Flyt.Expected.IR.runBatchSequential kind n v cfg scr idxOf items ctx = some (evs, ctx', slots) ∧
      ∀ (pre post : List Ev) (e : Ev), evs = pre ++ e :: post → Bridge.ffEv (Bridge.concCfgOf kind cfg scr nn) e = true →
        ∀ x ∈ post, isBexec x = false :=
  transfer (runBatchSequential_refines_of_le kind n v cfg scr idxOf items ctx hidx fuel hfuel)
    (fun pre post e hsplit hff => Props.C09.stop_mode_nothing_after_final_failure kind n v cfg scr nn hs items ctx pre post e hsplit hff)

/-- … the same for the interpreted `runBatchConcurrent` on the pool's serial schedule -/
theorem C09_stop_mode_nothing_after_final_failure_for_interpreted_serial_pool (kind : CtxKind) (n : NodeId) (v : Nat) (cfg : BatchCfg)
    (scr : BatchScript) (nn : Nat) (hs : cfg.stop = true) (items : List Result) (ctx : Ctx)
    (idxOf : Result → Nat) (hidx : ∀ i (h : i < items.length), idxOf items[i] = i) (fuel : Nat) (hfuel : items.length + 37 ≤ fuel) :
    ∃ evs ctx' slots,
      itemsConcSerialIR fuel Flyt.Expected.IR.runBatchConcurrent kind n v cfg scr idxOf items ctx = some (evs, ctx', slots) ∧
      ∀ (pre post : List Ev) (e : Ev), evs = pre ++ e :: post → Bridge.ffEv (Bridge.concCfgOf kind cfg scr nn) e = true →
        ∀ x ∈ post, isBexec x = false := by
  refine transfer (runBatchConcurrent_serial_refines_of_le kind n v cfg scr idxOf items ctx hidx fuel hfuel) ?_
  rw [itemsSerialPool_eq_seq]
  exact fun pre post e hsplit hff =>
    Props.C09.stop_mode_nothing_after_final_failure kind n v cfg scr nn hs items ctx pre post e hsplit hff

/-! ### non-vacuity: the F1 scenario of `Props/C09.lean` (5 items, item 2 fails, stop mode) -/

/-- the five items prep produces in that scenario (`normItems .anys`) -/
def exItemsC09 : List Result := [newResult (.tok 1), newResult (.tok 2), newResult (.tok 3), newResult (.tok 4), newResult (.tok 5)]

example : exItemsC09.Nodup := by decide

example : itemsSeqIR 28 Flyt.Expected.IR.runBatchSequential .canceled 0 0 Props.C09.exCfg Props.C09.exScr
      (fun r => exItemsC09.idxOf r) exItemsC09 .live =
    some ([.bexec 0 0 0 0 (.tok 1), .bexec 0 0 1 0 (.tok 2), .bexec 0 0 2 0 (.tok 3)], .live,
      [newResult (.tok 100), newResult (.tok 101), newErrorResult (.user 7),
       newErrorResult (.fw .batchStopped), newErrorResult (.fw .batchStopped)]) := by
  rw [runBatchSequential_refines_of_le _ _ _ _ _ _ _ _ (hidx_of_nodup exItemsC09 (by decide)) 28 (by decide)]; decide

end Flyt.Refine.Source
