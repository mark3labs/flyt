import FlytModel.GoIR.StoreWorld
import FlytModel.Expected.IR
import FlytModel.Refine.Run
import FlytModel.Refine.Range
import FlytModel.Proofs.StoreHeap
/-!
# Refinement: `SharedStore` (flyt.go:55-161) computes the heap machine `Store.step` of `Model/Store.lean` and takes the lock
`Model/StoreConc.lean` assumes it takes (properties C13 / C14)

`runStore enum fuel f args s = some (values, final state, trace)` runs the translated method (`Flyt.Expected.IR`) in `storeWorld enum`
(`GoIR/StoreWorld.lean`) from `{ st := s, held := none, tr := [] }`, then the deferred unlocks in LIFO order. One theorem per method,
for every `s` with `WF s` (the store's map is a live object: `Iso.data_lt`, `WF_step`), key, value and sufficient fuel: the values are
`encResp` of the model's response; the state is `withHandles (step s op).1 s` (a map / slice result is the reference of a NEW object,
which the model registers as a handle and the method does not); the trace is `[.lock m, .deferUnlock m] ++ accesses ++ [.unlock m]`,
`m = .R` for the readers, `.W` for `Set`, `Delete`, `Clear` and `Merge(m)` (one `.write` per entry); `Merge(nil)` has the EMPTY trace.
Reads through the interpreter's PURE primitives (`s.data`, `s.data[k]`, `range s.data`) cannot leave an event; they are guarded
instead (`guard_*`: an access that is not stuck was made holding the lock in the required mode).

Fuel: the bound of each `…_of_le` is the least depth at which no run of the method is stuck, except `GetAll`: `n + 10`, least is
`max 10 (n + 8)`.

Iteration order: `range` enumerates in the order `enum`. The source assigns in enumeration order, `mergeInto d l` assigns for the
LAST pair of `l` first, `keysOf` lists in list order. So equality with `Store.step` (`…_refines_of_le`) holds under `hen`: reverse
list order for `GetAll` / `Merge`, list order for `Keys`; no single order reproduces the lists of all three. For every order that
permutes (`…_anyorder_of_le`; `GetAll` / `Merge` need `NodupKeys` of the enumerated object, the invariant of `Proofs/StoreKV.lean`) the method makes
the same Go map (`MapEq`) and the same key set (`Perm`) — what the driver compares after sorting.
-/
namespace Flyt.Refine.Store
open Flyt Flyt.GoIR Flyt.Store Flyt.GoIR.StoreW Flyt.Expected.IR Flyt.Refine
open Flyt.StoreConc (Mode)
set_option linter.unusedSimpArgs false

/-- the recursion depth of the executable test -/
def F : Nat := 40

section steps
variable {Ω : Type} (W : World Ω)
theorem expr_sel (f : Nat) (a : Expr) (fl : String) (st : GoIR.St Ω) :
    evalExpr W (f + 1) (.sel a fl) st =
      match evalExpr W f a st with
      | some ([x], st1) => (W.field x fl st1.w).map fun v => ([v], st1)
      | _ => none := rfl
theorem stmt_expr_mcall_nil (f : Nat) (r : Expr) (m : String) (st : GoIR.St Ω) :
    execStmt W (f + 1) (.expr (.mcall r m .nil)) st = (evalExpr W f (.mcall r m .nil) st).map fun (_, st1) => (.next, st1) := rfl
theorem stmt_expr_call (f : Nat) (fn : String) (args : Exprs) (st : GoIR.St Ω) :
    execStmt W (f + 1) (.expr (.call fn args)) st = (evalExpr W f (.call fn args) st).map fun (_, st1) => (.next, st1) := rfl
theorem stmt_defer (f : Nat) (r : Expr) (m : String) (st : GoIR.St Ω) :
    execStmt W (f + 1) (.deferS (.mcall r m .nil)) st =
      (match evalExpr W f r st with
       | some ([x], st1) =>
         (match W.mcall x ("defer:" ++ m) [] st1.heap st1.w with
          | some (_, h, w) => some (.next, { st1 with heap := h, w := w })
          | none => none)
       | _ => none) := rfl
theorem expr_make (f : Nat) (ty : String) (rest : Exprs) (st : GoIR.St Ω) (h : ty ≠ "[]Result") :
    evalExpr W (f + 1) (.call "make" (.cons (.var ty) rest)) st =
      match evalArgs W f rest st with
      | some (vs, st1) =>
        (match W.call ("make:" ++ ty) vs st1.heap st1.w with
         | some (rs, h, w) => some (rs, { st1 with heap := h, w := w })
         | none => none)
      | none => none := by
  have h0 : evalExpr W (f + 1) (.call "make" (.cons (.var ty) rest)) st = (if ty == "[]Result" then _ else _) := rfl
  rw [h0, beq_eq_false_iff_ne.mpr h]; rfl
theorem expr_addr_lit (f : Nat) (ty : String) (elts : Exprs) (st : GoIR.St Ω) :
    evalExpr W (f + 1) (.un "&" (.lit ty elts)) st = evalExpr W f (.lit ty elts) st := rfl
theorem expr_lit_SharedStore (f : Nat) (elts : Exprs) (st : GoIR.St Ω) :
    evalExpr W (f + 1) (.lit "SharedStore" elts) st =
      match evalArgs W f (litValues elts) st with
      | some (vs, st1) =>
        (match W.call ("lit:" ++ "SharedStore" ++ ":" ++ litKeys elts) vs st1.heap st1.w with
         | some (rs, h, w) => some (rs, { st1 with heap := h, w := w })
         | none => none)
      | none => none := rfl
theorem stmt_range (f : Nat) (k v : String) (x : Expr) (body : Block) (st : GoIR.St Ω) :
    execStmt W (f + 1) (.rangeS k v x body) st =
      match evalExpr W f x st with
      | some ([.slice ad off n], st1) => loopRange W f k v ad off n 0 body st1
      | some ([.anys l], st1) => loopAnys W f k v l 0 body st1
      | some ([.nil], st1) => some (.next, st1)
      | some ([m], st1) =>
        (match W.rangeOf m st1.w with
         | some kvs => loopPairs W f k v kvs body st1
         | none => none)
      | _ => none := rfl
theorem loopPairs_nil (f : Nat) (k v : String) (body : Block) (st : GoIR.St Ω) :
    loopPairs W (f + 1) k v [] body st = some (.next, st) := rfl
theorem loopPairs_cons (f : Nat) (k v : String) (kx vx : GV) (rest : List (GV × GV)) (body : Block) (st : GoIR.St Ω) :
    loopPairs W (f + 1) k v ((kx, vx) :: rest) body st =
      (match execBlock W f body { st with env := (st.env.push k kx).push v vx } with
       | some (.brk, st2) => some (.next, popSt st2 st.env.length)
       | some (.ret vs, st2) => some (.ret vs, popSt st2 st.env.length)
       | some (_, st2) => loopPairs W f k v rest body (popSt st2 st.env.length)
       | none => none) := rfl
end steps

theorem of_if_some {α : Type} {c : Bool} {x y : α} (h : (if c then some x else none) = some y) : c = true ∧ x = y := by
  cases c <;> simp at h; exact ⟨rfl, h⟩
theorem of_guarded {α : Type} {p : Prop} [Decidable p] {c : Bool} {x y : α}
    (h : (if p then (if c then some x else none) else none) = some y) : c = true ∧ x = y := by
  by_cases hp : p
  · rw [if_pos hp] at h; exact of_if_some h
  · rw [if_neg hp] at h; cases h

/- `by rfl`, not the term `rfl`: a lemma whose proof is the term `rfl` is applied by `simp` as a definitional step that leaves no
   proof term, and the kernel then evaluates the world's match on the call name (string comparisons) again at every use. -/

section world
variable (enum : KV → KV)
local notation "W" => storeWorld enum

theorem W_mu (i : Nat) (w : SW) : (W).field (.ref "store" i) "mu" w = some (.ref "mutex" 0) := by rfl
theorem W_data (i : Nat) (w : SW) :
    (W).field (.ref "store" i) "data" w = if w.held.isSome then some (.ref "map" w.st.data) else none := by rfl
theorem W_mcall (i : Nat) (m : String) (h : Heap) (w : SW) :
    (W).mcall (.ref "mutex" i) m [] h w = (muCall m w).map fun w' => ([], h, w') := by rfl
theorem W_mapIndex (r : Nat) (k : String) (w : SW) : (W).mapIndex (.ref "map" r) (.str k) w = mapGet r k w := by rfl
theorem W_setIndex (r : Nat) (k : String) (v : GV) (w : SW) : (W).setIndex (.ref "map" r) (.str k) v w = mapSet r k v w := by rfl
theorem W_setField (i r : Nat) (w : SW) : (W).setField (.ref "store" i) "data" (.ref "map" r) w = setData r w := by rfl
theorem W_rangeOf (r : Nat) (w : SW) : (W).rangeOf (.ref "map" r) w = mapRange enum r w := by rfl
theorem W_len (r : Nat) (h : Heap) (w : SW) :
    (W).call "len" [.ref "map" r] h w = (mapLen r w).map fun p => ([.int p.1], h, p.2) := by rfl
theorem W_delete (r : Nat) (k : String) (h : Heap) (w : SW) :
    (W).call "delete" [.ref "map" r, .str k] h w = (mapDel r k w).map fun w' => ([], h, w') := by rfl
theorem W_append (r : Nat) (k : String) (h : Heap) (w : SW) :
    (W).call "append" [.ref "strs" r, .str k] h w = (strsAppend r k w).map fun w' => ([.ref "strs" r], h, w') := by rfl
theorem W_make_map0 (h : Heap) (w : SW) :
    (W).call "make:map[string]any" [] h w = some ([(allocMap w).1], h, (allocMap w).2) := by rfl
theorem W_make_map1 (n : Int) (h : Heap) (w : SW) :
    (W).call "make:map[string]any" [.int n] h w = some ([(allocMap w).1], h, (allocMap w).2) := by rfl
theorem W_make_strs (n : Int) (h : Heap) (w : SW) :
    (W).call "make:[]string" [.int 0, .int n] h w = some ([(allocStrs w).1], h, (allocStrs w).2) := by rfl
theorem W_lit (r : Nat) (h : Heap) (w : SW) :
    (W).call "lit:SharedStore:data," [.ref "map" r] h w = (newStore r w).map fun w' => ([storeRef], h, w') := by rfl

theorem guard_field_data (i : Nat) (w : SW) (v : GV) (h : (W).field (.ref "store" i) "data" w = some v) :
    w.held.isSome = true ∧ v = .ref "map" w.st.data := by
  rw [W_data] at h
  exact ⟨(of_if_some h).1, (of_if_some h).2.symm⟩
theorem guard_mapIndex (k : String) (w : SW) (x : GV × Bool) (h : (W).mapIndex (.ref "map" w.st.data) (.str k) w = some x) :
    w.held.isSome = true := by
  rw [W_mapIndex] at h
  simpa [SW.readOk] using (of_guarded h).1
theorem guard_rangeOf (w : SW) (x : List (GV × GV)) (h : (W).rangeOf (.ref "map" w.st.data) w = some x) :
    w.held.isSome = true := by
  rw [W_rangeOf] at h
  simpa [SW.readOk] using (of_guarded h).1
theorem guard_len (hp : Heap) (w : SW) (x) (h : (W).call "len" [.ref "map" w.st.data] hp w = some x) :
    w.held.isSome = true ∧ x.2.2.tr = w.tr ++ [.read] := by
  rw [W_len] at h
  obtain ⟨_, hy, rfl⟩ := Option.map_eq_some_iff.mp h
  obtain ⟨hc, rfl⟩ := of_guarded hy
  exact ⟨by simpa [SW.readOk] using hc, by simp [SW.touch]⟩
theorem guard_setIndex (k : String) (v : GV) (w w' : SW) (h : (W).setIndex (.ref "map" w.st.data) (.str k) v w = some w') :
    w.held = some .W ∧ w'.tr = w.tr ++ [.write] := by
  rw [W_setIndex] at h
  obtain ⟨hc, rfl⟩ := of_guarded h
  exact ⟨by simpa [SW.writeOk] using hc, by simp [SW.touch]⟩
theorem guard_delete (k : String) (hp : Heap) (w : SW) (x) (h : (W).call "delete" [.ref "map" w.st.data, .str k] hp w = some x) :
    w.held = some .W ∧ x.2.2.tr = w.tr ++ [.write] := by
  rw [W_delete] at h
  obtain ⟨_, hy, rfl⟩ := Option.map_eq_some_iff.mp h
  obtain ⟨hc, rfl⟩ := of_guarded hy
  exact ⟨by simpa [SW.writeOk] using hc, by simp [SW.touch]⟩
theorem guard_setField (i r : Nat) (w w' : SW) (h : (W).setField (.ref "store" i) "data" (.ref "map" r) w = some w') :
    w.held = some .W ∧ w'.tr = w.tr ++ [.write] := by
  rw [W_setField] at h
  obtain ⟨hc, rfl⟩ := of_guarded h
  exact ⟨by simpa using hc, rfl⟩
end world

theorem mu_RLock (w : SW) : muCall "RLock" w = acquire .R w := by rfl
theorem mu_Lock (w : SW) : muCall "Lock" w = acquire .W w := by rfl
theorem mu_dRUnlock (w : SW) : muCall "defer:RUnlock" w = some { w with tr := w.tr ++ [.deferUnlock .R] } := by rfl
theorem mu_dUnlock (w : SW) : muCall "defer:Unlock" w = some { w with tr := w.tr ++ [.deferUnlock .W] } := by rfl
theorem make_map_name : "make:" ++ "map[string]any" = "make:map[string]any" := by decide
theorem make_strs_name : "make:" ++ "[]string" = "make:[]string" := by decide

macro "storesimp" " [" ts:Lean.Parser.Tactic.simpLemma,* "]" : tactic =>
  `(tactic| gosimp [runStore, callFunc, expr_sel, stmt_expr_mcall_nil, stmt_expr_call, stmt_defer, expr_make, expr_addr_lit, expr_lit_SharedStore,
      stmt_range, loopPairs_nil, loopPairs_cons,
      W_mu, W_data, W_mcall, W_mapIndex, W_setIndex, W_setField, W_rangeOf, W_len, W_delete, W_append, W_make_map0, W_make_map1,
      W_make_strs, W_lit, mu_RLock, mu_Lock, mu_dRUnlock, mu_dUnlock, make_map_name, make_strs_name,
      storeRef, muRef, mapRef, strsRef, acquire, release, pendingDefers, runDefers, $ts,*])

theorem write_maps_length (s : Store.St) (r : Nat) (m : KV) : (s.write r m).maps.length = s.maps.length := by
  simp [St.write]
theorem deref_write_self (s : Store.St) (r : Nat) (m : KV) (h : r < s.maps.length) : (s.write r m).deref r = m := by
  simp [St.write, St.deref, h]
theorem write_data (s : Store.St) (r : Nat) (m : KV) : (s.write r m).data = s.data := rfl
theorem cur_write_data (s : Store.St) (m : KV) (h : s.data < s.maps.length) : (s.write s.data m).cur = m := by
  simp [St.cur, write_data, deref_write_self _ _ _ h]
theorem write_write (s : Store.St) (r : Nat) (m m' : KV) : (s.write r m).write r m' = s.write r m' := by
  simp [St.write]
theorem set_getD_self {α} (l : List α) (i : Nat) (d : α) : l.set i (l[i]?.getD d) = l := by
  apply List.ext_getElem?
  intro j
  by_cases h : i = j
  · subst h
    by_cases h2 : i < l.length
    · simp [h2]
    · have h3 : l.length ≤ i := Nat.le_of_not_lt h2
      simp [h3]
  · simp [List.getElem?_set_ne h]
theorem write_deref_self (s : Store.St) (r : Nat) : s.write r (s.deref r) = s := by
  cases s; simp [St.write, St.deref, set_getD_self]

/-- `m[k₁] = v₁; …; m[kₙ] = vₙ` in this order -/
def putAll (m : KV) (l : KV) : KV := l.foldl (fun m p => put m p.1 p.2) m

theorem putAll_eq_mergeInto (m l : KV) : putAll m l = mergeInto m l.reverse := by
  induction l generalizing m with
  | nil => rfl
  | cons p t ih =>
    obtain ⟨k, v⟩ := p
    have hm : ∀ (a b : KV) (d : KV), mergeInto d (a ++ b) = mergeInto (mergeInto d b) a := by
      intro a b d
      induction a with
      | nil => rfl
      | cons q a iha => obtain ⟨k', v'⟩ := q; simp [mergeInto, iha]
    simp only [putAll, List.foldl_cons, List.reverse_cons] at ih ⊢
    rw [ih, hm]; rfl

/-- the pairs `rangeOf` hands to the loop -/
def encPairs (l : KV) : List (GV × GV) := l.map fun p => (GV.str p.1, GV.ofVal p.2)

theorem encPairs_encodes (l : KV) : Encodes (fun p kv => kv = (GV.str p.1, GV.ofVal p.2)) l (encPairs l) := Encodes.map _ l

theorem runStore_mono (enum : KV → KV) {f g : Nat} (hfg : f ≤ g) {fn args s r}
    (h : runStore enum f fn args s = some r) : runStore enum g fn args s = some r := by
  unfold runStore at h ⊢
  cases hc : callFunc (storeWorld enum) f fn args [] { st := s } with
  | none => simp [hc] at h
  | some x => rw [mono_callFunc _ hfg hc]; rw [hc] at h; exact h

theorem mapRange_eq (enum : KV → KV) (r : Nat) (w : SW) :
    mapRange enum r w =
      if r < w.st.maps.length then (if w.readOk r then some (encPairs (enum (w.st.deref r))) else none) else none := rfl

/- The loops: the invariant of `loopPairs_inv` is the state of the method after the assignments for the pairs visited so far
   (`putAll`, `keysOf`); its constant (2, 3, 5) is the depth above which the loop body is not stuck. -/

/-- `GetAll()` for EVERY enumeration order: a new map object, filled in the order `enum`; its reference is returned -/
theorem SharedStore_GetAll_general_of_le (enum : KV → KV) (s : Store.St) (hwf : WF s) (fuel : Nat) (hf : (enum s.cur).length + 10 ≤ fuel) :
    runStore enum fuel SharedStore_GetAll [storeRef] s =
      some ([.ref "map" s.maps.length], { s with maps := s.maps ++ [mergeInto [] (enum s.cur).reverse] },
        [.lock .R, .deferUnlock .R, .read, .unlock .R]) := by
  obtain ⟨f, rfl⟩ : ∃ f, fuel = (enum s.cur).length + f + 10 := ⟨fuel - ((enum s.cur).length + 10), by omega⟩
  have hd : s.data < s.maps.length := hwf
  have hne : s.maps.length ≠ s.data := Nat.ne_of_gt hd
  obtain ⟨_, hl, rfl⟩ := loopPairs_inv (storeWorld enum) "k" "v" B[(.assign E[(.index (.var "copy") (.var "k"))] E[(.var "v")])] 2 _
    (fun kv e => ("v", kv.2) :: ("k", kv.1) :: e) (fun _ _ => rfl)
    (fun done st' => st' = ⟨[("copy", .ref "map" s.maps.length), ("s", .ref "store" 0)], [],
      ⟨{ s with maps := s.maps ++ [putAll [] done] }, some .R, [.lock .R, .deferUnlock .R, .read]⟩⟩)
    (by
      rintro g done ⟨k, v⟩ _ _ rfl rfl
      storesimp [mapSet, SW.writeOk, SW.touch, St.write, St.deref, hne, toVal_ofVal, popSt, Env.popTo, putAll])
    (encPairs_encodes (enum s.cur)) (fuel := (enum s.cur).length + f + 5) (by omega) [] _ rfl
  simp only [putAll_eq_mergeInto, List.nil_append, List.reverse_nil, mergeInto, St.cur] at hl
  have hder : ({ s with maps := s.maps ++ [[]] } : Store.St).deref s.data = s.deref s.data := by
    simp [St.deref, List.getElem?_append_left hd]
  storesimp [SharedStore_GetAll, mapLen, mapRange_eq, allocMap, SW.readOk, SW.touch, hd, Nat.lt_succ_of_lt hd, hne, St.cur, hder, hl]

theorem pendingDefers_append (a b : List LockEv) : pendingDefers (a ++ b) = pendingDefers a ++ pendingDefers b := by
  induction a with
  | nil => rfl
  | cons e t ih => cases e <;> simp [pendingDefers, ih]
theorem pendingDefers_writes (n : Nat) : pendingDefers (List.replicate n .write) = [] := by
  induction n with
  | zero => rfl
  | succ n ih => simp [List.replicate_succ, pendingDefers, ih]

/-- `Merge(m)` for a live map object `m` (ANY: a caller-held copy, a literal, even `s.data` itself) and EVERY enumeration order:
    one write per enumerated entry, all inside the `W` section -/
theorem SharedStore_Merge_general_of_le (enum : KV → KV) (s : Store.St) (r : Nat) (hwf : WF s) (hr : r < s.maps.length)
    (fuel : Nat) (hf : (enum (s.deref r)).length + 9 ≤ fuel) :
    runStore enum fuel SharedStore_Merge [storeRef, .ref "map" r] s =
      some ([], s.write s.data (mergeInto s.cur (enum (s.deref r)).reverse),
        [.lock .W, .deferUnlock .W] ++ List.replicate (enum (s.deref r)).length .write ++ [.unlock .W]) := by
  obtain ⟨f, rfl⟩ : ∃ f, fuel = (enum (s.deref r)).length + f + 9 := ⟨fuel - ((enum (s.deref r)).length + 9), by omega⟩
  have hd : s.data < s.maps.length := hwf
  obtain ⟨_, hl, rfl⟩ := loopPairs_inv (storeWorld enum) "k" "v" B[(.assign E[(.index (.sel (.var "s") "data") (.var "k"))] E[(.var "v")])] 3 _
    (fun kv e => ("v", kv.2) :: ("k", kv.1) :: e) (fun _ _ => rfl)
    (fun done st' => st' = ⟨[("data", .ref "map" r), ("s", .ref "store" 0)], [],
      ⟨s.write s.data (putAll s.cur done), some .W, [.lock .W, .deferUnlock .W] ++ List.replicate done.length .write⟩⟩)
    (by
      rintro g done ⟨k, v⟩ _ _ rfl rfl
      storesimp [mapSet, SW.writeOk, SW.touch, hd, toVal_ofVal, write_maps_length, write_write, write_data, deref_write_self, popSt, Env.popTo, putAll,
        List.replicate_succ', List.append_assoc])
    (encPairs_encodes (enum (s.deref r))) (fuel := (enum (s.deref r)).length + f + 4) (by omega) []
    ⟨[("data", .ref "map" r), ("s", .ref "store" 0)], [], ⟨s, some .W, [.lock .W, .deferUnlock .W]⟩⟩
    (by simp [putAll, St.cur, write_deref_self])
  rw [List.nil_append, putAll_eq_mergeInto] at hl
  storesimp [SharedStore_Merge, mapRange_eq, SW.readOk, hd, hr, hl, pendingDefers_append, pendingDefers_writes]

/-- `Keys()` for EVERY enumeration order: a new slice object holding the keys in the order `enum`; its reference is returned -/
theorem SharedStore_Keys_general_of_le (enum : KV → KV) (s : Store.St) (hwf : WF s) (fuel : Nat) (hf : (enum s.cur).length + 11 ≤ fuel) :
    runStore enum fuel SharedStore_Keys [storeRef] s =
      some ([.ref "strs" s.slices.length], { s with slices := s.slices ++ [keysOf (enum s.cur)] },
        [.lock .R, .deferUnlock .R, .read, .unlock .R]) := by
  obtain ⟨f, rfl⟩ : ∃ f, fuel = (enum s.cur).length + f + 11 := ⟨fuel - ((enum s.cur).length + 11), by omega⟩
  have hd : s.data < s.maps.length := hwf
  obtain ⟨_, hl, rfl⟩ := loopPairs_inv (storeWorld enum) "k" "_" B[(.assign E[(.var "keys")] E[(.call "append" E[(.var "keys"), (.var "k")])])] 5 _
    (fun kv e => ("k", kv.1) :: e) (fun _ _ => rfl)
    (fun done st' => st' = ⟨[("keys", .ref "strs" s.slices.length), ("s", .ref "store" 0)], [],
      ⟨{ s with slices := s.slices ++ [keysOf done] }, some .R, [.lock .R, .deferUnlock .R, .read]⟩⟩)
    (by
      rintro g done ⟨k, v⟩ _ _ rfl rfl
      storesimp [strsAppend, St.derefSlice, popSt, Env.popTo, keysOf])
    (encPairs_encodes (enum s.cur)) (fuel := (enum s.cur).length + f + 6) (by omega) [] _ rfl
  simp only [List.nil_append, keysOf, List.map_nil, St.cur] at hl
  have hder : ({ s with slices := s.slices ++ [[]] } : Store.St).deref s.data = s.deref s.data := rfl
  storesimp [SharedStore_Keys, mapLen, mapRange_eq, allocStrs, SW.readOk, SW.touch, hd, St.cur, hder, keysOf, hl]

theorem SharedStore_Get_refines_of_le (enum : KV → KV) (s : Store.St) (k : Key) (hwf : WF s) (fuel : Nat) (hf : 8 ≤ fuel) :
    runStore enum fuel SharedStore_Get [storeRef, .str k] s =
      some (encResp (step s (.get k)).1 (step s (.get k)).2, withHandles (step s (.get k)).1 s,
        [.lock .R, .deferUnlock .R, .unlock .R]) := by
  obtain ⟨f, rfl⟩ := Nat.exists_eq_add_of_le' hf
  have hd : s.data < s.maps.length := hwf
  storesimp [SharedStore_Get, mapGet, SW.readOk, encResp, step, withHandles, St.cur, hd]

theorem SharedStore_Has_refines_of_le (enum : KV → KV) (s : Store.St) (k : Key) (hwf : WF s) (fuel : Nat) (hf : 7 ≤ fuel) :
    runStore enum fuel SharedStore_Has [storeRef, .str k] s =
      some (encResp (step s (.has k)).1 (step s (.has k)).2, withHandles (step s (.has k)).1 s,
        [.lock .R, .deferUnlock .R, .unlock .R]) := by
  obtain ⟨f, rfl⟩ := Nat.exists_eq_add_of_le' hf
  have hd : s.data < s.maps.length := hwf
  storesimp [SharedStore_Has, mapGet, SW.readOk, encResp, step, withHandles, St.cur, hd]

theorem SharedStore_Len_refines_of_le (enum : KV → KV) (s : Store.St) (hwf : WF s) (fuel : Nat) (hf : 9 ≤ fuel) :
    runStore enum fuel SharedStore_Len [storeRef] s =
      some (encResp (step s .len).1 (step s .len).2, withHandles (step s .len).1 s,
        [.lock .R, .deferUnlock .R, .read, .unlock .R]) := by
  obtain ⟨f, rfl⟩ := Nat.exists_eq_add_of_le' hf
  have hd : s.data < s.maps.length := hwf
  storesimp [SharedStore_Len, mapLen, SW.readOk, SW.touch, encResp, step, withHandles, St.cur, hd]

theorem SharedStore_Set_refines_of_le (enum : KV → KV) (s : Store.St) (k : Key) (g : GV) (hwf : WF s) (fuel : Nat) (hf : 6 ≤ fuel) :
    runStore enum fuel SharedStore_Set [storeRef, .str k, g] s =
      some (encResp (step s (.set k g.toVal)).1 (step s (.set k g.toVal)).2, withHandles (step s (.set k g.toVal)).1 s,
        [.lock .W, .deferUnlock .W, .write, .unlock .W]) := by
  obtain ⟨f, rfl⟩ := Nat.exists_eq_add_of_le' hf
  have hd : s.data < s.maps.length := hwf
  storesimp [SharedStore_Set, mapSet, SW.writeOk, SW.touch, encResp, step, withHandles, St.cur, St.write, hd]

/-- `Set(key, value)` with the payload `v` of the model as argument -/
theorem SharedStore_Set_refines_of_le_val (enum : KV → KV) (s : Store.St) (k : Key) (v : Val) (hwf : WF s) (fuel : Nat) (hf : 6 ≤ fuel) :
    runStore enum fuel SharedStore_Set [storeRef, .str k, GV.ofVal v] s =
      some (encResp (step s (.set k v)).1 (step s (.set k v)).2, withHandles (step s (.set k v)).1 s,
        [.lock .W, .deferUnlock .W, .write, .unlock .W]) := by
  have h := SharedStore_Set_refines_of_le enum s k (GV.ofVal v) hwf fuel hf
  rwa [toVal_ofVal] at h

theorem SharedStore_Delete_refines_of_le (enum : KV → KV) (s : Store.St) (k : Key) (hwf : WF s) (fuel : Nat) (hf : 8 ≤ fuel) :
    runStore enum fuel SharedStore_Delete [storeRef, .str k] s =
      some (encResp (step s (.delete k)).1 (step s (.delete k)).2, withHandles (step s (.delete k)).1 s,
        [.lock .W, .deferUnlock .W, .write, .unlock .W]) := by
  obtain ⟨f, rfl⟩ := Nat.exists_eq_add_of_le' hf
  have hd : s.data < s.maps.length := hwf
  storesimp [SharedStore_Delete, mapDel, SW.writeOk, SW.touch, encResp, step, withHandles, St.cur, St.write, hd]

theorem SharedStore_Clear_refines_of_le (enum : KV → KV) (s : Store.St) (fuel : Nat) (hf : 6 ≤ fuel) :
    runStore enum fuel SharedStore_Clear [storeRef] s =
      some (encResp (step s .clear).1 (step s .clear).2, withHandles (step s .clear).1 s,
        [.lock .W, .deferUnlock .W, .write, .unlock .W]) := by
  obtain ⟨f, rfl⟩ := Nat.exists_eq_add_of_le' hf
  storesimp [SharedStore_Clear, allocMap, setData, encResp, step, withHandles]

theorem SharedStore_Merge_nil_refines_of_le (enum : KV → KV) (s : Store.St) (fuel : Nat) (hf : 4 ≤ fuel) :
    runStore enum fuel SharedStore_Merge [storeRef, .nil] s =
      some (encResp (step s .mergeNil).1 (step s .mergeNil).2, withHandles (step s .mergeNil).1 s, []) := by
  obtain ⟨f, rfl⟩ := Nat.exists_eq_add_of_le' hf
  storesimp [SharedStore_Merge, encResp, step, withHandles]

theorem SharedStore_GetAll_refines_of_le (enum : KV → KV) (s : Store.St) (hwf : WF s) (hen : (enum s.cur).reverse = s.cur)
    (fuel : Nat) (hf : s.cur.length + 10 ≤ fuel) :
    runStore enum fuel SharedStore_GetAll [storeRef] s =
      some (encResp (step s .getAll).1 (step s .getAll).2, withHandles (step s .getAll).1 s,
        [.lock .R, .deferUnlock .R, .read, .unlock .R]) := by
  have hlen : (enum s.cur).length = s.cur.length := by simpa using congrArg List.length hen
  rw [SharedStore_GetAll_general_of_le enum s hwf fuel (hlen ▸ hf), hen]
  simp [encResp, step, withHandles]

theorem SharedStore_Keys_refines_of_le (enum : KV → KV) (s : Store.St) (hwf : WF s) (hen : enum s.cur = s.cur)
    (fuel : Nat) (hf : s.cur.length + 11 ≤ fuel) :
    runStore enum fuel SharedStore_Keys [storeRef] s =
      some (encResp (step s .keys).1 (step s .keys).2, withHandles (step s .keys).1 s,
        [.lock .R, .deferUnlock .R, .read, .unlock .R]) := by
  rw [SharedStore_Keys_general_of_le enum s hwf fuel (hen.symm ▸ hf), hen]
  simp [encResp, step, withHandles]

theorem SharedStore_Merge_refines_of_le (enum : KV → KV) (s : Store.St) (j r : Nat) (hwf : WF s) (hj : s.snaps[j]? = some r)
    (hr : r < s.maps.length) (hen : (enum (s.deref r)).reverse = s.deref r) (fuel : Nat) (hf : (s.deref r).length + 9 ≤ fuel) :
    runStore enum fuel SharedStore_Merge [storeRef, .ref "map" r] s =
      some (encResp (step s (.mergeSnap j)).1 (step s (.mergeSnap j)).2, withHandles (step s (.mergeSnap j)).1 s,
        [.lock .W, .deferUnlock .W] ++ List.replicate (s.deref r).length .write ++ [.unlock .W]) := by
  have hlen : (enum (s.deref r)).length = (s.deref r).length := by simpa using congrArg List.length hen
  rw [SharedStore_Merge_general_of_le enum s r hwf hr fuel (hlen ▸ hf), hen, hlen]
  simp [encResp, step, withHandles, hj, St.write]

/-- the heap before `NewSharedStore()` -/
def emptyHeap : Store.St := { maps := [], slices := [], data := 0, snaps := [], ksnaps := [] }

/-- `NewSharedStore()` on the empty heap yields the model's initial state -/
theorem NewSharedStore_refines_of_le (enum : KV → KV) (fuel : Nat) (hf : 8 ≤ fuel) :
    runStore enum fuel NewSharedStore [] emptyHeap = some ([storeRef], St.init, []) := by
  obtain ⟨f, rfl⟩ := Nat.exists_eq_add_of_le' hf
  storesimp [NewSharedStore, allocMap, newStore, litValues, litKeys, emptyHeap, St.init]

/- at the recursion depth of the executable test (`F = 40`; the loops: as long as the map fits) -/

theorem SharedStore_Get_refines (enum : KV → KV) (s : Store.St) (k : Key) (hwf : WF s) :
    runStore enum F SharedStore_Get [storeRef, .str k] s =
      some (encResp (step s (.get k)).1 (step s (.get k)).2, withHandles (step s (.get k)).1 s,
        [.lock .R, .deferUnlock .R, .unlock .R]) := SharedStore_Get_refines_of_le enum s k hwf F (by decide)
theorem SharedStore_Has_refines (enum : KV → KV) (s : Store.St) (k : Key) (hwf : WF s) :
    runStore enum F SharedStore_Has [storeRef, .str k] s =
      some (encResp (step s (.has k)).1 (step s (.has k)).2, withHandles (step s (.has k)).1 s,
        [.lock .R, .deferUnlock .R, .unlock .R]) := SharedStore_Has_refines_of_le enum s k hwf F (by decide)
theorem SharedStore_Len_refines (enum : KV → KV) (s : Store.St) (hwf : WF s) :
    runStore enum F SharedStore_Len [storeRef] s =
      some (encResp (step s .len).1 (step s .len).2, withHandles (step s .len).1 s,
        [.lock .R, .deferUnlock .R, .read, .unlock .R]) := SharedStore_Len_refines_of_le enum s hwf F (by decide)
theorem SharedStore_Set_refines (enum : KV → KV) (s : Store.St) (k : Key) (v : Val) (hwf : WF s) :
    runStore enum F SharedStore_Set [storeRef, .str k, GV.ofVal v] s =
      some (encResp (step s (.set k v)).1 (step s (.set k v)).2, withHandles (step s (.set k v)).1 s,
        [.lock .W, .deferUnlock .W, .write, .unlock .W]) := SharedStore_Set_refines_of_le_val enum s k v hwf F (by decide)
theorem SharedStore_Delete_refines (enum : KV → KV) (s : Store.St) (k : Key) (hwf : WF s) :
    runStore enum F SharedStore_Delete [storeRef, .str k] s =
      some (encResp (step s (.delete k)).1 (step s (.delete k)).2, withHandles (step s (.delete k)).1 s,
        [.lock .W, .deferUnlock .W, .write, .unlock .W]) := SharedStore_Delete_refines_of_le enum s k hwf F (by decide)
theorem SharedStore_Clear_refines (enum : KV → KV) (s : Store.St) :
    runStore enum F SharedStore_Clear [storeRef] s =
      some (encResp (step s .clear).1 (step s .clear).2, withHandles (step s .clear).1 s,
        [.lock .W, .deferUnlock .W, .write, .unlock .W]) := SharedStore_Clear_refines_of_le enum s F (by decide)
theorem SharedStore_Merge_nil_refines (enum : KV → KV) (s : Store.St) :
    runStore enum F SharedStore_Merge [storeRef, .nil] s =
      some (encResp (step s .mergeNil).1 (step s .mergeNil).2, withHandles (step s .mergeNil).1 s, []) :=
  SharedStore_Merge_nil_refines_of_le enum s F (by decide)
theorem SharedStore_GetAll_refines (s : Store.St) (hwf : WF s) (hfit : s.cur.length + 10 ≤ F) :
    runStore List.reverse F SharedStore_GetAll [storeRef] s =
      some (encResp (step s .getAll).1 (step s .getAll).2, withHandles (step s .getAll).1 s,
        [.lock .R, .deferUnlock .R, .read, .unlock .R]) :=
  SharedStore_GetAll_refines_of_le List.reverse s hwf (List.reverse_reverse _) F hfit
theorem SharedStore_Keys_refines (s : Store.St) (hwf : WF s) (hfit : s.cur.length + 11 ≤ F) :
    runStore id F SharedStore_Keys [storeRef] s =
      some (encResp (step s .keys).1 (step s .keys).2, withHandles (step s .keys).1 s,
        [.lock .R, .deferUnlock .R, .read, .unlock .R]) :=
  SharedStore_Keys_refines_of_le id s hwf rfl F hfit
theorem SharedStore_Merge_refines (s : Store.St) (j r : Nat) (hwf : WF s) (hj : s.snaps[j]? = some r) (hr : r < s.maps.length)
    (hfit : (s.deref r).length + 9 ≤ F) :
    runStore List.reverse F SharedStore_Merge [storeRef, .ref "map" r] s =
      some (encResp (step s (.mergeSnap j)).1 (step s (.mergeSnap j)).2, withHandles (step s (.mergeSnap j)).1 s,
        [.lock .W, .deferUnlock .W] ++ List.replicate (s.deref r).length .write ++ [.unlock .W]) :=
  SharedStore_Merge_refines_of_le List.reverse s j r hwf hj hr (List.reverse_reverse _) F hfit
theorem NewSharedStore_refines (enum : KV → KV) : runStore enum F NewSharedStore [] emptyHeap = some ([storeRef], St.init, []) :=
  NewSharedStore_refines_of_le enum F (by decide)

/-- the reference `GetAll` returns is the handle the model registers, and it denotes the map the model answers with -/
theorem getAll_handle (s : Store.St) :
    (step s .getAll).1.snaps = s.snaps ++ [s.maps.length] ∧
    encResp (step s .getAll).1 (step s .getAll).2 = [.ref "map" s.maps.length] ∧
    (step s .getAll).2 = .map ((step s .getAll).1.deref s.maps.length) := by
  simp [step, encResp, St.deref, getD_append_len]

theorem keys_handle (s : Store.St) :
    (step s .keys).1.ksnaps = s.ksnaps ++ [s.slices.length] ∧
    encResp (step s .keys).1 (step s .keys).2 = [.ref "strs" s.slices.length] ∧
    (step s .keys).2 = .keys ((step s .keys).1.derefSlice s.slices.length) := by
  simp [step, encResp, St.derefSlice, getD_append_len]

/-- a method that registers no handle: `withHandles` is the identity -/
theorem withHandles_self (a s : Store.St) (h1 : a.snaps = s.snaps) (h2 : a.ksnaps = s.ksnaps) : withHandles a s = a := by
  cases a; simp_all [withHandles]

/-- a run that is not stuck and whose trace passes the check -/
def Disciplined (res : Option (List GV × Store.St × List LockEv)) : Prop :=
  ∃ vs st tr, res = some (vs, st, tr) ∧ disciplined tr = true

theorem disc_writes (n : Nat) (t : List LockEv) :
    discAux (some .W) (List.replicate n .write ++ t) = discAux (some .W) t := by
  induction n with
  | zero => rfl
  | succ n ih => simp [List.replicate_succ, discAux, ih]

theorem disciplined_merge (n : Nat) :
    disciplined ([.lock .W, .deferUnlock .W] ++ List.replicate n .write ++ [.unlock .W]) = true := by
  simp [disciplined, discAux, disc_writes]

theorem SharedStore_Get_disciplined (enum : KV → KV) (s : Store.St) (k : Key) (hwf : WF s) (fuel : Nat) (hf : 8 ≤ fuel) :
    Disciplined (runStore enum fuel SharedStore_Get [storeRef, .str k] s) :=
  ⟨_, _, _, SharedStore_Get_refines_of_le enum s k hwf fuel hf, rfl⟩
theorem SharedStore_Has_disciplined (enum : KV → KV) (s : Store.St) (k : Key) (hwf : WF s) (fuel : Nat) (hf : 7 ≤ fuel) :
    Disciplined (runStore enum fuel SharedStore_Has [storeRef, .str k] s) :=
  ⟨_, _, _, SharedStore_Has_refines_of_le enum s k hwf fuel hf, rfl⟩
theorem SharedStore_Len_disciplined (enum : KV → KV) (s : Store.St) (hwf : WF s) (fuel : Nat) (hf : 9 ≤ fuel) :
    Disciplined (runStore enum fuel SharedStore_Len [storeRef] s) :=
  ⟨_, _, _, SharedStore_Len_refines_of_le enum s hwf fuel hf, rfl⟩
theorem SharedStore_Set_disciplined (enum : KV → KV) (s : Store.St) (k : Key) (g : GV) (hwf : WF s) (fuel : Nat) (hf : 6 ≤ fuel) :
    Disciplined (runStore enum fuel SharedStore_Set [storeRef, .str k, g] s) :=
  ⟨_, _, _, SharedStore_Set_refines_of_le enum s k g hwf fuel hf, rfl⟩
theorem SharedStore_Delete_disciplined (enum : KV → KV) (s : Store.St) (k : Key) (hwf : WF s) (fuel : Nat) (hf : 8 ≤ fuel) :
    Disciplined (runStore enum fuel SharedStore_Delete [storeRef, .str k] s) :=
  ⟨_, _, _, SharedStore_Delete_refines_of_le enum s k hwf fuel hf, rfl⟩
theorem SharedStore_Clear_disciplined (enum : KV → KV) (s : Store.St) (fuel : Nat) (hf : 6 ≤ fuel) :
    Disciplined (runStore enum fuel SharedStore_Clear [storeRef] s) :=
  ⟨_, _, _, SharedStore_Clear_refines_of_le enum s fuel hf, rfl⟩
theorem SharedStore_Merge_nil_disciplined (enum : KV → KV) (s : Store.St) (fuel : Nat) (hf : 4 ≤ fuel) :
    Disciplined (runStore enum fuel SharedStore_Merge [storeRef, .nil] s) :=
  ⟨_, _, _, SharedStore_Merge_nil_refines_of_le enum s fuel hf, rfl⟩
/-- every enumeration order -/
theorem SharedStore_GetAll_disciplined (enum : KV → KV) (s : Store.St) (hwf : WF s) (fuel : Nat) (hf : (enum s.cur).length + 10 ≤ fuel) :
    Disciplined (runStore enum fuel SharedStore_GetAll [storeRef] s) :=
  ⟨_, _, _, SharedStore_GetAll_general_of_le enum s hwf fuel hf, rfl⟩
theorem SharedStore_Keys_disciplined (enum : KV → KV) (s : Store.St) (hwf : WF s) (fuel : Nat) (hf : (enum s.cur).length + 11 ≤ fuel) :
    Disciplined (runStore enum fuel SharedStore_Keys [storeRef] s) :=
  ⟨_, _, _, SharedStore_Keys_general_of_le enum s hwf fuel hf, rfl⟩
/-- every enumeration order, every live map object as argument (also `s.data` itself) -/
theorem SharedStore_Merge_disciplined (enum : KV → KV) (s : Store.St) (r : Nat) (hwf : WF s) (hr : r < s.maps.length)
    (fuel : Nat) (hf : (enum (s.deref r)).length + 9 ≤ fuel) :
    Disciplined (runStore enum fuel SharedStore_Merge [storeRef, .ref "map" r] s) :=
  ⟨_, _, _, SharedStore_Merge_general_of_le enum s r hwf hr fuel hf, disciplined_merge _⟩

/-- the guards bite: `Get`'s body WITHOUT `s.mu.RLock(); defer s.mu.RUnlock()` is stuck, in every state, at every fuel -/
def getNoLock : Func := { name := "SharedStore.Get", recv := "s", params := ["key"], body := B[
  (.define ["val", "ok"] E[(.index (.sel (.var "s") "data") (.var "key"))]),
  (.ret E[(.var "val"), (.var "ok")])] }

theorem getNoLock_stuck (enum : KV → KV) (s : Store.St) (k : Key) (fuel : Nat) :
    runStore enum fuel getNoLock [storeRef, .str k] s = none := by
  cases h : runStore enum fuel getNoLock [storeRef, .str k] s with
  | none => rfl
  | some r =>
    have h1 := runStore_mono enum (Nat.le_add_left fuel 6) h
    have h2 : runStore enum (6 + fuel) getNoLock [storeRef, .str k] s = none := by
      rw [show 6 + fuel = fuel + 6 from by omega]
      storesimp [getNoLock]
    rw [h2] at h1; cases h1

/-- … and so is `Set`'s body under the READ lock -/
def setRLock : Func := { name := "SharedStore.Set", recv := "s", params := ["key", "value"], body := B[
  (.expr (.mcall (.sel (.var "s") "mu") "RLock" E[])),
  (.deferS (.mcall (.sel (.var "s") "mu") "RUnlock" E[])),
  (.assign E[(.index (.sel (.var "s") "data") (.var "key"))] E[(.var "value")])] }

theorem setRLock_stuck (enum : KV → KV) (s : Store.St) (k : Key) (g : GV) (fuel : Nat) :
    runStore enum fuel setRLock [storeRef, .str k, g] s = none := by
  cases h : runStore enum fuel setRLock [storeRef, .str k, g] s with
  | none => rfl
  | some r =>
    have h1 := runStore_mono enum (Nat.le_add_left fuel 6) h
    have h2 : runStore enum (6 + fuel) setRLock [storeRef, .str k, g] s = none := by
      rw [show 6 + fuel = fuel + 6 from by omega]
      storesimp [setRLock, mapSet, SW.writeOk]
    rw [h2] at h1; cases h1

theorem WF_init : WF St.init := by decide
theorem WF_of_iso {s : Store.St} (h : Iso s) : WF s := h.data_lt
theorem WF_step {s : Store.St} (h : WF s) (op : Op) : WF (step s op).1 := by
  unfold WF at *
  cases op <;> simp only [step] <;> (try split) <;> simp [St.write, h] <;> omega
theorem WF_exec {s : Store.St} (h : WF s) (ops : List Op) : WF (exec s ops) := by
  induction ops generalizing s with
  | nil => exact h
  | cons op t ih => exact ih (WF_step h op)
theorem handle_live {s : Store.St} (h : Iso s) {j r : Nat} (hj : s.snaps[j]? = some r) : r < s.maps.length :=
  h.snaps_lt r (handle_mem hj)

example : ∃ s : Store.St, WF s ∧ s.cur ≠ [] ∧ s.snaps ≠ [] :=
  ⟨exec St.init [.set "a" (.tok 1), .getAll], WF_exec WF_init _, by decide, by decide⟩

/-- same content as Go maps -/
def MapEq (a b : KV) : Prop := ∀ k, lookup k a = lookup k b

theorem mem_of_lookup {k : Key} {v : Val} : ∀ {l : KV}, lookup k l = some v → (k, v) ∈ l
  | [], h => by simp at h
  | (a, b) :: t, h => by
    rw [lookup_cons] at h
    by_cases hk : a = k
    · simp [hk] at h; subst h; subst hk; exact List.mem_cons_self
    · simp [hk] at h; exact List.mem_cons_of_mem _ (mem_of_lookup h)

theorem lookup_of_mem {k : Key} {v : Val} : ∀ {l : KV}, NodupKeys l → (k, v) ∈ l → lookup k l = some v
  | [], _, h => by simp at h
  | (a, b) :: t, hn, h => by
    simp only [NodupKeys, keysOf_cons, List.nodup_cons] at hn
    rw [lookup_cons]
    rcases List.mem_cons.1 h with h | h
    · cases h; simp
    · have hk : k ∈ keysOf t := List.mem_map.2 ⟨(k, v), h, rfl⟩
      have hne : a ≠ k := fun e => hn.1 (e ▸ hk)
      simp [hne, lookup_of_mem hn.2 h]

theorem nodupKeys_perm {a b : KV} (hp : a.Perm b) (hn : NodupKeys b) : NodupKeys a := by
  unfold NodupKeys keysOf at *
  exact ((hp.map (fun p : Key × Val => p.1)).nodup_iff).2 hn

theorem mapEq_of_perm {a b : KV} (hp : a.Perm b) (hn : NodupKeys b) : MapEq a b := by
  intro k
  have hna := nodupKeys_perm hp hn
  cases h : lookup k b with
  | some v => exact lookup_of_mem hna (hp.mem_iff.2 (mem_of_lookup h))
  | none =>
    cases h' : lookup k a with
    | none => rfl
    | some v => rw [lookup_of_mem hn (hp.mem_iff.1 (mem_of_lookup h'))] at h; cases h

theorem nodup_of_nodupKeys {a : KV} (h : NodupKeys a) : a.Nodup := by
  induction a with
  | nil => exact List.nodup_nil
  | cons p t ih =>
    simp only [NodupKeys, keysOf_cons, List.nodup_cons] at h ⊢
    exact ⟨fun hm => h.1 (List.mem_map.2 ⟨p, hm, rfl⟩), ih h.2⟩

theorem perm_of_mapEq {a b : KV} (ha : NodupKeys a) (hb : NodupKeys b) (h : MapEq a b) : a.Perm b := by
  refine (List.perm_ext_iff_of_nodup (nodup_of_nodupKeys ha) (nodup_of_nodupKeys hb)).2 ?_
  rintro ⟨k, v⟩
  constructor
  · intro hm; exact mem_of_lookup (h k ▸ lookup_of_mem ha hm)
  · intro hm; exact mem_of_lookup ((h k).symm ▸ lookup_of_mem hb hm)

theorem mapEq_mergeInto {d x y : KV} (h : MapEq x y) : MapEq (mergeInto d x) (mergeInto d y) := by
  intro k; rw [lookup_mergeInto, lookup_mergeInto, h k]

/-- `GetAll()` under ANY permuting enumeration order: the returned reference is the handle the model registers, the heap is the
    model's except that the new object `c` is a permutation of (hence the same Go map as) the model's copy -/
theorem SharedStore_GetAll_anyorder_of_le (enum : KV → KV) (s : Store.St) (hwf : WF s) (hn : NodupKeys s.cur)
    (hp : (enum s.cur).Perm s.cur) (fuel : Nat) (hf : s.cur.length + 10 ≤ fuel) :
    ∃ c, runStore enum fuel SharedStore_GetAll [storeRef] s =
        some (encResp (step s .getAll).1 (step s .getAll).2, { s with maps := s.maps ++ [c] },
          [.lock .R, .deferUnlock .R, .read, .unlock .R]) ∧
      withHandles (step s .getAll).1 s = { s with maps := s.maps ++ [mergeInto [] s.cur] } ∧
      c.Perm (mergeInto [] s.cur) ∧ NodupKeys c ∧ MapEq c (mergeInto [] s.cur) := by
  have hp' : (enum s.cur).reverse.Perm s.cur := (List.reverse_perm _).trans hp
  have hn' := nodupKeys_perm hp' hn
  refine ⟨mergeInto [] (enum s.cur).reverse, ?_, rfl, ?_, nodupKeys_mergeInto _ nodupKeys_nil, mapEq_mergeInto (mapEq_of_perm hp' hn)⟩
  · rw [SharedStore_GetAll_general_of_le enum s hwf fuel (by rw [hp.length_eq]; exact hf)]
    simp [encResp, step]
  · rw [mergeInto_nil_self hn', mergeInto_nil_self hn]; exact hp'

/-- `Keys()` under ANY permuting enumeration order: the keys of the store, in some order -/
theorem SharedStore_Keys_anyorder_of_le (enum : KV → KV) (s : Store.St) (hwf : WF s) (hp : (enum s.cur).Perm s.cur)
    (fuel : Nat) (hf : s.cur.length + 11 ≤ fuel) :
    ∃ ks, runStore enum fuel SharedStore_Keys [storeRef] s =
        some (encResp (step s .keys).1 (step s .keys).2, { s with slices := s.slices ++ [ks] },
          [.lock .R, .deferUnlock .R, .read, .unlock .R]) ∧
      withHandles (step s .keys).1 s = { s with slices := s.slices ++ [keysOf s.cur] } ∧
      ks.Perm (keysOf s.cur) := by
  refine ⟨keysOf (enum s.cur), ?_, rfl, hp.map _⟩
  rw [SharedStore_Keys_general_of_le enum s hwf fuel (by rw [hp.length_eq]; exact hf)]
  simp [encResp, step]

/-- `Merge(m)` under ANY permuting enumeration order, for any live map object `m = .ref "map" r` listing no key twice: the store's
    map ends up with the content the model computes (`s.write s.data (mergeInto s.cur (s.deref r))` — `step s (.mergeSnap j)` when
    `r` is handle `j`), one traced write per entry -/
theorem SharedStore_Merge_anyorder_of_le (enum : KV → KV) (s : Store.St) (r : Nat) (hwf : WF s) (hr : r < s.maps.length)
    (hn : NodupKeys (s.deref r)) (hp : (enum (s.deref r)).Perm (s.deref r)) (fuel : Nat) (hf : (s.deref r).length + 9 ≤ fuel) :
    ∃ m, runStore enum fuel SharedStore_Merge [storeRef, .ref "map" r] s =
        some ([], s.write s.data m, [.lock .W, .deferUnlock .W] ++ List.replicate (s.deref r).length .write ++ [.unlock .W]) ∧
      MapEq m (mergeInto s.cur (s.deref r)) ∧
      (NodupKeys s.cur → NodupKeys m ∧ m.Perm (mergeInto s.cur (s.deref r))) := by
  have hp' : (enum (s.deref r)).reverse.Perm (s.deref r) := (List.reverse_perm _).trans hp
  have hme : MapEq (mergeInto s.cur (enum (s.deref r)).reverse) (mergeInto s.cur (s.deref r)) := mapEq_mergeInto (mapEq_of_perm hp' hn)
  refine ⟨mergeInto s.cur (enum (s.deref r)).reverse, ?_, hme, fun hc => ?_⟩
  · rw [SharedStore_Merge_general_of_le enum s r hwf hr fuel (by rw [hp.length_eq]; exact hf), hp.length_eq]
  · exact ⟨nodupKeys_mergeInto _ hc, perm_of_mapEq (nodupKeys_mergeInto _ hc) (nodupKeys_mergeInto _ hc) hme⟩

theorem mergeSnap_state (s : Store.St) (j r : Nat) (hj : s.snaps[j]? = some r) :
    step s (.mergeSnap j) = (s.write s.data (mergeInto s.cur (s.deref r)), .unit) := by
  simp [step, hj]

/-- `m := map[string]any{…}; Merge(m)` (the model's `mergeLit l`) is: the CALLER allocates the literal and keeps it as a handle,
    then `Merge` of that object — so `SharedStore_Merge_refines_of_le` covers it, in the state after the allocation -/
theorem mergeLit_as_mergeSnap (s : Store.St) (l : KV) :
    step s (.mergeLit l) =
      step { s with maps := s.maps ++ [mergeInto [] l], snaps := s.snaps ++ [s.maps.length] } (.mergeSnap s.snaps.length) := by
  simp [step]

end Flyt.Refine.Store
