import FlytModel.Refine.SourceBase
import FlytModel.Props.C05
/-!
# C05 (cancellation stops runs and flows and is reported as such) stated about the interpreted source

`Props/C05.lean` is about `runNode env fuel root …` for a non-batch root, and about `flowLoop`. Carried over per layer: `Run` on a flow
(`runFlowNodeIR`, one theorem per headline theorem), `Run` on a leaf (`runLeafIR`; the done-context theorem and the trace clauses at
once, `C05Facts`), `Flow.Exec` (`flowExecIR`, `done_ctx_no_further_node`). Batch nodes as root are outside C05 (DESIGN B6; their
behaviour under cancellation is C11).

Hypotheses of the model theorems about the run's own trace (`evs = pre ++ c :: post`, `hbatch`, `hok`, `hdiff`) sit inside the
conclusions. `out ≠ .fuel` becomes `hne` (the model's fuel suffices); on a context that is already done the model theorem proves it and
it is not asked for. The run state `st'` of the flow corollaries is the world's ghost copy of the model's state (context + visit
counters), threaded through the nested calls; for a leaf it is `stateAfter st id evs ctx'`.

Derived from the source per layer: `Run`'s four `ctx.Err()` checks (before prep, after prep, at the top of each attempt, in the
`select` of the retry wait) and `Flow.Exec`'s check before each node. That a nested call stops in turn comes through the world
(`runNode` / `flowLoop` there), as for C04.
-/
set_option autoImplicit false
namespace Flyt.Refine.Source
open Flyt Flyt.GoIR Flyt.Refine Flyt.Proofs

/-- **C05 (i).** The interpreted `Run` on a flow whose context is already done invokes no user callback, leaves the run state untouched
    and returns the context's own error. Mirrors `Props.C05.done_ctx_no_callbacks` (flow root). No hypothesis on the model's fuel. -/
theorem C05_done_ctx_no_callbacks_for_interpreted_source (env : Env) (fid : NodeId) (start : Option NodeId) (ops : List ConnOp)
    (mfuel : Nat) (sid : StoreId) (st : RunSt) (harena : env.arena fid = .flow start ops) (k : CtxKind) (hdone : st.ctx = .done k)
    (fuel : Nat) (hf : flowNodeFuel ≤ fuel) :
    runFlowNodeIR fuel Flyt.Expected.IR.Run env fid start ops mfuel sid st = some ([], st, .err (.ctx k)) := by
  have hm := Props.C05.done_ctx_no_callbacks env mfuel fid sid st k hdone (by intro cfg h; rw [harena] at h; cases h)
  rw [Run_refines_runNode_flow_of_le env fid start ops mfuel sid st harena (by rw [hm]; simp) fuel hf, hm]

/-- **C05 (i)** for the interpreted `Run` on a plain / function-style node of the arena (leaf root of `done_ctx_no_callbacks`). -/
theorem C05_done_ctx_no_callbacks_for_interpreted_Run_on_leaf (env : Env) (id : NodeId) (sid : StoreId) (st : RunSt) (cfg : LeafCfg)
    (k : CtxKind) (hdone : st.ctx = .done k) (fuel : Nat) (hf : runFuel cfg ≤ fuel) :
    runLeafIR fuel Flyt.Expected.IR.Run env.kind id (st.visits id) sid cfg (env.leafBeh id (st.visits id)) st.ctx
      = some ([], .done k, .err (.ctx k)) := by
  rw [Run_refines_runLeaf_of_le env.kind id (st.visits id) sid cfg (env.leafBeh id (st.visits id)) st.ctx fuel hf, hdone]
  rfl

/-- **C05 (i)** for the interpreted `Flow.Exec` entered on a done context: no node is started, the context's error is returned.
    Mirrors `Props.C05.done_ctx_no_further_node` (at the flow's start node, table `buildTable ops`). -/
theorem C05_done_ctx_no_further_node_for_interpreted_source (env : Env) (fid s : NodeId) (ops : List ConnOp) (mfuel : Nat)
    (sid : StoreId) (st : RunSt) (k : CtxKind) (hdone : st.ctx = .done k) (fuel : Nat) (hf : mfuel + 1 + 40 ≤ fuel) :
    flowExecIR fuel Flyt.Expected.IR.Flow_Exec env fid (some s) ops (mfuel + 1) sid st = some ([], st, .err (.ctx k)) := by
  have hm := Props.C05.done_ctx_no_further_node env mfuel (buildTable ops) s sid st k hdone
  rw [FlowExec_refines_flowLoop_ge env fid s ops (mfuel + 1) sid st fuel hf (by rw [hm]; simp), hm]

/-- **C05 (ii).** Whatever follows a cancelling event `c` in the trace of the interpreted `Run` on a flow belongs to the same visit of
    the same node as `c` and is that visit's fallback or post callback (or a further event of that batch node: C11).
    Mirrors `Props.C05.after_cancel_only_same_visit`. -/
theorem C05_after_cancel_only_same_visit_for_interpreted_source (env : Env) (fid : NodeId) (start : Option NodeId) (ops : List ConnOp)
    (mfuel : Nat) (sid : StoreId) (st : RunSt) (harena : env.arena fid = .flow start ops)
    (hne : (runNode env (mfuel + 1) fid sid st).2.2 ≠ .fuel) (fuel : Nat) (hf : flowNodeFuel ≤ fuel) :
    ∃ evs st' out, runFlowNodeIR fuel Flyt.Expected.IR.Run env fid start ops mfuel sid st = some (evs, st', out) ∧
      ∀ (pre post : List Ev) (c : Ev), evs = pre ++ c :: post → cancelsAt env c = true →
        ∀ e ∈ post, Spec.evKey e = Spec.evKey c ∧ (Spec.isFbEv e || Spec.isPostEv e || Spec.isBatchEv e) = true :=
  transfer (Run_refines_runNode_flow_of_le env fid start ops mfuel sid st harena hne fuel hf)
    (fun _ _ _ hsplit hc => Props.C05.after_cancel_only_same_visit env (mfuel + 1) fid sid st rfl hne hsplit hc)

/-- **C05 (ii).** After a cancelling event no prep and no exec attempt is started and no other node is touched.
    Mirrors `Props.C05.after_cancel_no_exec_no_other_node`. -/
theorem C05_after_cancel_no_exec_no_other_node_for_interpreted_source (env : Env) (fid : NodeId) (start : Option NodeId)
    (ops : List ConnOp) (mfuel : Nat) (sid : StoreId) (st : RunSt) (harena : env.arena fid = .flow start ops)
    (hne : (runNode env (mfuel + 1) fid sid st).2.2 ≠ .fuel) (fuel : Nat) (hf : flowNodeFuel ≤ fuel) :
    ∃ evs st' out, runFlowNodeIR fuel Flyt.Expected.IR.Run env fid start ops mfuel sid st = some (evs, st', out) ∧
      ∀ (pre post : List Ev) (c : Ev), evs = pre ++ c :: post → cancelsAt env c = true →
        ∀ e ∈ post, Spec.isExecEv e = false ∧ Spec.isPrepEv e = false ∧ (Spec.evKey e).1 = (Spec.evKey c).1 :=
  transfer (Run_refines_runNode_flow_of_le env fid start ops mfuel sid st harena hne fuel hf)
    (fun _ _ _ hsplit hc => Props.C05.after_cancel_no_exec_no_other_node env (mfuel + 1) fid sid st rfl hne hsplit hc)

/-- **C05 (iii).** Whenever the interpreted `Run` on a flow reports a context error `k`, the context is done with exactly that `k` at the
    end of the run; started on a live context, `k` is the run's own kind and some callback on the path (or an asynchronous cancel during
    a wait) did cancel it; started on a done context it is that context's error. Mirrors `Props.C05.ctx_error_matches_ctx`. -/
theorem C05_ctx_error_matches_ctx_for_interpreted_source (env : Env) (fid : NodeId) (start : Option NodeId) (ops : List ConnOp)
    (mfuel : Nat) (sid : StoreId) (st : RunSt) (harena : env.arena fid = .flow start ops)
    (hne : (runNode env (mfuel + 1) fid sid st).2.2 ≠ .fuel) (fuel : Nat) (hf : flowNodeFuel ≤ fuel) :
    ∃ evs st' out, runFlowNodeIR fuel Flyt.Expected.IR.Run env fid start ops mfuel sid st = some (evs, st', out) ∧
      ∀ k, out = .err (.ctx k) →
        st'.ctx = .done k ∧ (st.ctx = .live → k = env.kind ∧ ∃ e ∈ evs, cancelsAt env e = true) ∧
        (∀ k0, st.ctx = .done k0 → k = k0) :=
  transfer (Run_refines_runNode_flow_of_le env fid start ops mfuel sid st harena hne fuel hf)
    (fun _ hk => Props.C05.ctx_error_matches_ctx env (mfuel + 1) fid sid st (Prod.ext rfl (Prod.ext rfl hk)))

/-- **C05 (iii).** Without any cancellation a live context stays live and no context error is reported; once a callback has cancelled,
    the context is done at the end of the run. Mirrors `Props.C05.ctx_after_run`. -/
theorem C05_ctx_after_run_for_interpreted_source (env : Env) (fid : NodeId) (start : Option NodeId) (ops : List ConnOp)
    (mfuel : Nat) (sid : StoreId) (st : RunSt) (harena : env.arena fid = .flow start ops)
    (hne : (runNode env (mfuel + 1) fid sid st).2.2 ≠ .fuel) (hlive : st.ctx = .live) (fuel : Nat) (hf : flowNodeFuel ≤ fuel) :
    ∃ evs st' out, runFlowNodeIR fuel Flyt.Expected.IR.Run env fid start ops mfuel sid st = some (evs, st', out) ∧
      ((∀ e ∈ evs, cancelsAt env e = false) → st'.ctx = .live ∧ ∀ k, out ≠ .err (.ctx k)) ∧
      ((∃ e ∈ evs, cancelsAt env e = true) → st'.ctx = .done env.kind) :=
  transfer (Run_refines_runNode_flow_of_le env fid start ops mfuel sid st harena hne fuel hf)
    (Props.C05.ctx_after_run env (mfuel + 1) fid sid st rfl hne hlive)

/-- **C05: a run that reports success was not cut short.** If the interpreted `Run` on a flow, started on a live context and with no
    cancelling batch event, returns an action — or merely ends with its context still live — then it is, event for event, visit counter
    for visit counter, and in its outcome, the interpreted `Run` of the same flow in the scenario with every cancellation removed
    (`clearEnv env`; any sufficient model fuel `mf'` and depth `fuel'`). Mirrors `Props.C05.ok_run_was_not_cut_short`, both runs
    interpreted. -/
theorem C05_ok_run_was_not_cut_short_for_interpreted_source (env : Env) (fid : NodeId) (start : Option NodeId) (ops : List ConnOp)
    (mfuel : Nat) (sid : StoreId) (st : RunSt) (harena : env.arena fid = .flow start ops)
    (hne : (runNode env (mfuel + 1) fid sid st).2.2 ≠ .fuel) (hlive : st.ctx = .live) (fuel : Nat) (hf : flowNodeFuel ≤ fuel) :
    ∃ evs st' out, runFlowNodeIR fuel Flyt.Expected.IR.Run env fid start ops mfuel sid st = some (evs, st', out) ∧
      ((∀ e ∈ evs, Spec.isBatchEv e = true → cancelsAt env e = false) → ((∃ a, out = .ok a) ∨ st'.ctx = .live) →
        ∃ mf0, ∀ mf', mf0 ≤ mf' → ∀ fuel', flowNodeFuel ≤ fuel' →
          runFlowNodeIR fuel' Flyt.Expected.IR.Run (clearEnv env) fid start ops mf' sid st = some (evs, relive st', out)) := by
  rcases hr : runNode env (mfuel + 1) fid sid st with ⟨evs, st', out⟩
  have hne' : out ≠ .fuel := by rw [hr] at hne; exact hne
  refine ⟨evs, st', out, by rw [Run_refines_runNode_flow_of_le env fid start ops mfuel sid st harena hne fuel hf, hr], ?_⟩
  intro hbatch hok
  obtain ⟨f, hfm⟩ := Props.C05.ok_run_was_not_cut_short env (mfuel + 1) fid sid st hr hne' hlive hbatch hok
  refine ⟨f, fun mf' hmf fuel' hf' => ?_⟩
  have hm := hfm (mf' + 1) (by omega)
  rw [Run_refines_runNode_flow_of_le (clearEnv env) fid start ops mf' sid st harena (by rw [hm]; exact hne') fuel' hf', hm]

/-- **C05: a run that is cut short does not report success.** If the interpreted `Run` on a flow under cancellation (no cancelling batch
    event) differs in any callback event or in its outcome from the interpreted `Run` of the same scenario without cancellation, its
    outcome is not an action. Mirrors `Props.C05.cut_short_never_ok`, both runs interpreted (`hne₀`: the model's fuel `mfuel₀ + 1`
    suffices for the reference run too). -/
theorem C05_cut_short_never_ok_for_interpreted_source (env : Env) (fid : NodeId) (start : Option NodeId) (ops : List ConnOp)
    (mfuel mfuel₀ : Nat) (sid : StoreId) (st : RunSt) (harena : env.arena fid = .flow start ops)
    (hne : (runNode env (mfuel + 1) fid sid st).2.2 ≠ .fuel) (hne₀ : (runNode (clearEnv env) (mfuel₀ + 1) fid sid st).2.2 ≠ .fuel)
    (hlive : st.ctx = .live) (fuel : Nat) (hf : flowNodeFuel ≤ fuel) (fuel₀ : Nat) (hf₀ : flowNodeFuel ≤ fuel₀) :
    ∃ evs st' out evs₀ st₀ out₀,
      runFlowNodeIR fuel Flyt.Expected.IR.Run env fid start ops mfuel sid st = some (evs, st', out) ∧
      runFlowNodeIR fuel₀ Flyt.Expected.IR.Run (clearEnv env) fid start ops mfuel₀ sid st = some (evs₀, st₀, out₀) ∧
      ((∀ e ∈ evs, Spec.isBatchEv e = true → cancelsAt env e = false) → (evs ≠ evs₀ ∨ out ≠ out₀) → ∀ a, out ≠ .ok a) :=
  ⟨_, _, _, _, _, _, Run_refines_runNode_flow_of_le env fid start ops mfuel sid st harena hne fuel hf,
    Run_refines_runNode_flow_of_le (clearEnv env) fid start ops mfuel₀ sid st harena hne₀ fuel₀ hf₀,
    fun hbatch hdiff => Props.C05.cut_short_never_ok env (mfuel + 1) (mfuel₀ + 1) fid sid st rfl hne rfl hne₀ hlive hbatch hdiff⟩

/-- the trace clauses of `Props/C05.lean` about one run from state `st` with trace `evs`, final state `st'` and outcome `out` -/
structure C05Facts (env : Env) (st : RunSt) (evs : List Ev) (st' : RunSt) (out : Outcome) : Prop where
  /-- `Props.C05.after_cancel_only_same_visit` -/
  after_cancel_only_same_visit : ∀ (pre post : List Ev) (c : Ev), evs = pre ++ c :: post → cancelsAt env c = true →
    ∀ e ∈ post, Spec.evKey e = Spec.evKey c ∧ (Spec.isFbEv e || Spec.isPostEv e || Spec.isBatchEv e) = true
  /-- `Props.C05.after_cancel_no_exec_no_other_node` -/
  after_cancel_no_exec_no_other_node : ∀ (pre post : List Ev) (c : Ev), evs = pre ++ c :: post → cancelsAt env c = true →
    ∀ e ∈ post, Spec.isExecEv e = false ∧ Spec.isPrepEv e = false ∧ (Spec.evKey e).1 = (Spec.evKey c).1
  /-- `Props.C05.ctx_error_matches_ctx` -/
  ctx_error_matches_ctx : ∀ k, out = .err (.ctx k) →
    st'.ctx = .done k ∧ (st.ctx = .live → k = env.kind ∧ ∃ e ∈ evs, cancelsAt env e = true) ∧ (∀ k0, st.ctx = .done k0 → k = k0)
  /-- `Props.C05.ctx_after_run` -/
  ctx_after_run : st.ctx = .live →
    ((∀ e ∈ evs, cancelsAt env e = false) → st'.ctx = .live ∧ ∀ k, out ≠ .err (.ctx k)) ∧
    ((∃ e ∈ evs, cancelsAt env e = true) → st'.ctx = .done env.kind)

theorem c05Facts_of_runNode (env : Env) (fuel : Nat) (root : NodeId) (sid : StoreId) (st : RunSt)
    (hfuel : (runNode env fuel root sid st).2.2 ≠ .fuel) :
    C05Facts env st (runNode env fuel root sid st).1 (runNode env fuel root sid st).2.1 (runNode env fuel root sid st).2.2 where
  after_cancel_only_same_visit _ _ _ hsplit hc := Props.C05.after_cancel_only_same_visit env fuel root sid st rfl hfuel hsplit hc
  after_cancel_no_exec_no_other_node _ _ _ hsplit hc :=
    Props.C05.after_cancel_no_exec_no_other_node env fuel root sid st rfl hfuel hsplit hc
  ctx_error_matches_ctx _ hk := Props.C05.ctx_error_matches_ctx env fuel root sid st (Prod.ext rfl (Prod.ext rfl hk))
  ctx_after_run hlive := Props.C05.ctx_after_run env fuel root sid st rfl hfuel hlive

/-- **C05 for the interpreted `Run` on a plain / function-style node of the arena** (`Props/C05.lean` at a leaf root): after a
    cancelling callback (or an interrupted retry wait) only this visit's fallback / post follow, no further exec attempt; a context
    error reported is the context's; the context afterwards is live iff nothing cancelled. -/
theorem C05_for_interpreted_Run_on_leaf (env : Env) (id : NodeId) (sid : StoreId) (st : RunSt) (cfg : LeafCfg)
    (harena : env.arena id = .leaf cfg) (fuel : Nat) (hf : runFuel cfg ≤ fuel) :
    ∃ evs ctx' out,
      runLeafIR fuel Flyt.Expected.IR.Run env.kind id (st.visits id) sid cfg (env.leafBeh id (st.visits id)) st.ctx
        = some (evs, ctx', out) ∧ C05Facts env st evs (stateAfter st id evs ctx') out :=
  arena_leaf_transfer env 0 id sid st cfg harena fuel hf (fun evs st' out => C05Facts env st evs st' out)
    (c05Facts_of_runNode env 1 id sid st (runNode_leaf_ne_fuel env 0 id sid st cfg harena))

-- non-vacuity: the cancellation scenarios of `Proofs/ExampleEnv.lean` (`Ex.envCancel`: node 4, inside the nested flow 2, cancels the
-- context in post); `43 = flowNodeFuel`
example : ∃ evs st', runFlowNodeIR 43 Flyt.Expected.IR.Run Ex.envCancel 0 (some 1)
      [⟨1, "a", some 2⟩, ⟨2, "y", some 1⟩, ⟨2, "y", some 3⟩, ⟨3, "again", some 1⟩, ⟨3, "again", none⟩, ⟨3, "loop", some 3⟩]
      9 7 Ex.st0 = some (evs, st', .err (.ctx .canceled)) ∧ evs.length = 6 ∧
      evs.getLast? = some (.post 4 0 7 (.tok 1) (.tok 2)) ∧ cancelsAt Ex.envCancel (.post 4 0 7 (.tok 1) (.tok 2)) = true := by
  have hne : (runNode Ex.envCancel (9 + 1) 0 7 Ex.st0).2.2 ≠ .fuel := by decide
  refine ⟨(runNode Ex.envCancel (9 + 1) 0 7 Ex.st0).1, (runNode Ex.envCancel (9 + 1) 0 7 Ex.st0).2.1, ?_, by decide, by decide, by decide⟩
  rw [Run_refines_runNode_flow_of_le Ex.envCancel 0 _ _ 9 7 Ex.st0 rfl hne 43 (by decide)]
  exact congrArg some (Prod.ext rfl (Prod.ext rfl (by decide)))

example : runFlowNodeIR 43 Flyt.Expected.IR.Run Ex.env1 0 (some 1)
      [⟨1, "a", some 2⟩, ⟨2, "y", some 1⟩, ⟨2, "y", some 3⟩, ⟨3, "again", some 1⟩, ⟨3, "again", none⟩, ⟨3, "loop", some 3⟩]
      9 7 Ex.stDone = some ([], Ex.stDone, .err (.ctx .deadline)) :=
  C05_done_ctx_no_callbacks_for_interpreted_source Ex.env1 0 _ _ 9 7 Ex.stDone rfl .deadline rfl 43 (by decide)

/-!
Not carried over:
* `ok_run_was_not_cut_short` / `cut_short_never_ok` at a leaf root — they hold (instantiate the model theorems and
  `Run_refines_runLeaf_of_le` on `clearLeaf` of the script) but are not stated;
* the trace clauses for `flowLoop` — `Props/C05.lean` states them for `runNode` only;
* `spec_c05` — bridge to the driver's executable predicate `Spec.c05`.
-/

end Flyt.Refine.Source
