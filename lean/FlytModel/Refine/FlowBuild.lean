import FlytModel.GoIR.FlowBuildWorld
import FlytModel.Expected.IR
import FlytModel.Refine.RunNode
/-!
# Refinement: the translated Go source of the flow CONSTRUCTION API and of the flow's adapter methods
(`Flyt.Expected.IR.NewFlow`, `Flow_Connect`, `Flow_Prep`, `Flow_Post`, `Flow_Run`), run by the definitional interpreter of
`GoIR/Interp.lean` in `flowBuildWorld` (`GoIR/FlowBuildWorld.lean`), computes what the hand-written model says (`Model/Flow.lean`)

`NewFlow(start)` followed by one `Connect` per element of `ops` leaves an object whose table view is `buildTable ops` — the table that
`FlowExec_refines_flowLoop`, `Run_refines_runNode_flow` and the C03 theorems assume for `NodeDef.flow start ops`. `connect` is literally
what `Connect` does to the view, the order of the association lists included (both levels use `assocSet`: overwrite in place, else
append). The fuel bounds (`newFlowFuel`, …) are the LEAST depths at which the runs are not stuck.

`Connect` needs `Obj.WF`: no two rows of the outer map share an inner map (else a write through one row would show in another, and the
view would not follow `connect`), and no row holds a dangling handle. Go guarantees both (an inner map is created by `make` inside
`Connect` and stored under one key; `f.transitions` is unexported); here `NewFlow` establishes it and `Connect` preserves it, so the
sequence theorem has no hypothesis.

World calls: `NewBaseNode()` inside the literal yields the default `Config.newBaseNode` (`maxRetries: 1, wait: 0`, flyt.go:492-503; its
own refinement, in another world: `Refine/Ctors.lean`). `Run(ctx, f, shared)` inside `Flow.Run` is `runNode env · fid`; that reading is a
theorem (`Run_refines_runNode_flow`).
-/
namespace Flyt.Refine.FlowBuild
open Flyt Flyt.GoIR Flyt.GoIR.FlowBuildW Flyt.Expected.IR Flyt.Refine
set_option linter.unusedSimpArgs false

section steps
variable {Ω : Type} (W : World Ω)
theorem expr_amp_lit (f : Nat) (ty : String) (elts : Exprs) (st : St Ω) :
    evalExpr W (f + 1) (.un "&" (.lit ty elts)) st = evalExpr W f (.lit ty elts) st := rfl
theorem expr_lit_Flow (f : Nat) (elts : Exprs) (st : St Ω) :
    evalExpr W (f + 1) (.lit "Flow" elts) st =
      match evalArgs W f (litValues elts) st with
      | some (vs, st1) =>
        (match W.call ("lit:" ++ "Flow" ++ ":" ++ litKeys elts) vs st1.heap st1.w with
         | some (rs, h, w) => some (rs, { st1 with heap := h, w := w })
         | none => none)
      | none => none := rfl
theorem expr_make (f : Nat) (ty : String) (rest : Exprs) (st : St Ω) (h : ty ≠ "[]Result") :
    evalExpr W (f + 1) (.call "make" (.cons (.var ty) rest)) st =
      match evalArgs W f rest st with
      | some (vs, st1) =>
        (match W.call ("make:" ++ ty) vs st1.heap st1.w with
         | some (rs, h, w) => some (rs, { st1 with heap := h, w := w })
         | none => none)
      | none => none := by
  have h0 : evalExpr W (f + 1) (.call "make" (.cons (.var ty) rest)) st = (if ty == "[]Result" then _ else _) := rfl
  rw [h0, beq_eq_false_iff_ne.mpr h]; rfl
theorem expr_index (f : Nat) (a i : Expr) (st : St Ω) :
    evalExpr W (f + 1) (.index a i) st =
      match evalExpr W f a st with
      | some ([.slice ad off n], st1) =>
        (match evalExpr W f i st1 with
         | some ([.int k], st2) =>
           if 0 ≤ k ∧ k.toNat < n then (heapGet st2.heap ad (off + k.toNat)).map fun r => ([.result r], st2) else none
         | _ => none)
      | some ([mv], st1) =>
        (match evalExpr W f i st1 with
         | some ([kv], st2) => (W.mapIndex mv kv st2.w).map fun (v, _) => ([v], st2)
         | _ => none)
      | _ => none := rfl
end steps

theorem NewFlow_litValues :
    litValues E[(.bin ":" (.var "BaseNode") (.call "NewBaseNode" E[])), (.bin ":" (.var "start") (.var "start")), (.bin ":" (.var "transitions") (.call "make" E[(.var "map[Node]map[Action]Node")]))]
      = E[(.call "NewBaseNode" E[]), (.var "start"), (.call "make" E[(.var "map[Node]map[Action]Node")])] := rfl
theorem NewFlow_litKeys :
    litKeys E[(.bin ":" (.var "BaseNode") (.call "NewBaseNode" E[])), (.bin ":" (.var "start") (.var "start")), (.bin ":" (.var "transitions") (.call "make" E[(.var "map[Node]map[Action]Node")]))]
      = "BaseNode,start,transitions," := by decide

/- The projections are proved by `by rfl`, not by the term `rfl`: a lemma whose proof is the term `rfl` is applied by `simp` as a
   definitional step that leaves no proof term, and the kernel then evaluates the world's match on the call name again at every use. -/
section world
variable (env : Flyt.Env) (fid : NodeId)
local notation "W" => flowBuildWorld env fid
theorem W_NewBaseNode (h : Heap) (w : FBW) : (W).call "NewBaseNode" [] h w = some ([baseH], h, w) := by rfl
theorem W_make_outer (h : Heap) (w : FBW) : (W).call "make:map[Node]map[Action]Node" [] h w = some ([.ref "newtrans" 0], h, w) := by rfl
theorem W_make_inner (h : Heap) (w : FBW) : (W).call "make:map[Action]Node" [] h w =
    some ([innerH w.obj.heap.length], h, { w with obj := { w.obj with heap := w.obj.heap ++ [[]] } }) := by rfl
theorem W_lit (i j : Nat) (s : GV) (h : Heap) (w : FBW) :
    (W).call "lit:Flow:BaseNode,start,transitions," [.ref "basenode" i, s, .ref "newtrans" j] h w =
      (tgtOf s).map fun s' => ([flowH], h, { w with obj := { base := some Config.newBaseNode, start := s', outer := [], heap := w.obj.heap } }) := by rfl
theorem W_Run (c : GV) (i sid : Nat) (h : Heap) (w : FBW) :
    (W).call "Run" [c, .ref "flow" i, .ref "store" sid] h w =
      (runRets (runNode env w.run.mfuel fid sid w.run.st).2.2).map fun rs =>
        (rs, h, { w with run := { evs := w.run.evs ++ (runNode env w.run.mfuel fid sid w.run.st).1, st := (runNode env w.run.mfuel fid sid w.run.st).2.1, mfuel := w.run.mfuel } }) := by rfl
theorem W_assert (x : GV) (w : FBW) : (W).assert x "Action" w =
    match x with
    | .str a => some (.str a, true)
    | _ => some (.str "", false) := by rfl
theorem W_start (i : Nat) (w : FBW) : (W).field (.ref "flow" i) "start" w = some (tgtGV w.obj.start) := by rfl
theorem W_transitions (i : Nat) (w : FBW) : (W).field (.ref "flow" i) "transitions" w = some transH := by rfl
theorem W_idx_trans (i n : Nat) (w : FBW) : (W).mapIndex (.ref "trans" i) (.node n) w =
    match assocGet w.obj.outer n with
    | some k => some (innerH k, true)
    | none => some (.nil, false) := by rfl
theorem W_idx_inner (k : Nat) (a : String) (w : FBW) : (W).mapIndex (.ref "inner" k) (.str a) w =
    match w.obj.heap[k]? with
    | some cell =>
      (match assocGet cell a with
       | some d => some (tgtGV d, true)
       | none => some (.nil, false))
    | none => none := by rfl
theorem W_set_trans (i n k : Nat) (w : FBW) : (W).setIndex (.ref "trans" i) (.node n) (.ref "inner" k) w =
    some { w with obj := { w.obj with outer := assocSet w.obj.outer n k } } := by rfl
theorem W_set_inner (k : Nat) (a : String) (v : GV) (w : FBW) : (W).setIndex (.ref "inner" k) (.str a) v w =
    match tgtOf v with
    | some d =>
      if k < w.obj.heap.length then
        some { w with obj := { w.obj with heap := w.obj.heap.set k (assocSet (innerOf w.obj.heap k) a d) } }
      else none
    | none => none := by rfl
theorem W_global : (W).global "DefaultAction" = some (.str defaultAction) := by rfl
end world

theorem make_outer_name : "make:" ++ "map[Node]map[Action]Node" = "make:map[Node]map[Action]Node" := by decide
theorem make_inner_name : "make:" ++ "map[Action]Node" = "make:map[Action]Node" := by decide

macro "fbsimp" " [" ts:Lean.Parser.Tactic.simpLemma,* "]" : tactic =>
  `(tactic| gosimp [FlowBuildW.run, flowRunIR, callFunc, expr_sel, expr_amp_lit, expr_lit_Flow, expr_make, make_outer_name, make_inner_name, expr_index, NewFlow_litValues, NewFlow_litKeys,
      W_NewBaseNode, W_make_outer, W_make_inner, W_lit, W_Run, W_start, W_transitions, W_idx_trans, W_set_trans, W_set_inner, W_global,
      flowH, transH, innerH, baseH, ctxH, storeH, connectArgs, $ts,*])

theorem tgtOf_tgtGV (d : Option NodeId) : tgtOf (tgtGV d) = some d := by cases d <;> rfl

theorem Flow_Post_core_action (f : Nat) (recv ctx sh pv : GV) (a : Action) (o : Obj) :
    run (f + 7) Flow_Post [recv, ctx, sh, pv, .str a] o = some ([.str a, .nil], o) := by
  fbsimp [Flow_Post, W_assert]

theorem assert_Action_other (env : Flyt.Env) (fid : NodeId) (x : GV) (hx : ∀ a, x ≠ .str a) (w : FBW) :
    (flowBuildWorld env fid).assert x "Action" w = some (.str "", false) := by
  cases x <;> first | rfl | exact absurd rfl (hx _)

theorem Flow_Post_core_other (f : Nat) (recv ctx sh pv x : GV) (hx : ∀ a, x ≠ .str a) (o : Obj) :
    run (f + 7) Flow_Post [recv, ctx, sh, pv, x] o = some ([.str defaultAction, .nil], o) := by
  have ha := assert_Action_other noEnv 0 x hx
  fbsimp [Flow_Post, ha]

theorem assocGet_assocSet_self {κ α : Type} [DecidableEq κ] (l : List (κ × α)) (k : κ) (v : α) :
    assocGet (assocSet l k v) k = some v := by
  fun_induction assocGet l k <;> simp_all [assocSet, assocGet]

theorem mem_of_assocGet {κ α : Type} [DecidableEq κ] {l : List (κ × α)} {k : κ} {v : α} (h : assocGet l k = some v) : (k, v) ∈ l := by
  fun_induction assocGet l k <;> simp_all

def connectObj (o : Obj) (op : ConnOp) : Obj :=
  match assocGet o.outer op.src with
  | some k => { o with heap := o.heap.set k (assocSet (innerOf o.heap k) op.action op.dst) }
  | none =>
    { o with outer := assocSet o.outer op.src o.heap.length,
             heap := (o.heap ++ [[]]).set o.heap.length (assocSet (innerOf (o.heap ++ [[]]) o.heap.length) op.action op.dst) }

theorem assocGet_map {κ α β : Type} [DecidableEq κ] (g : α → β) (l : List (κ × α)) (n : κ) :
    assocGet (l.map fun p => (p.1, g p.2)) n = (assocGet l n).map g := by
  fun_induction assocGet l n <;> simp_all [assocGet]

theorem assocSet_map {κ α β : Type} [DecidableEq κ] (g : α → β) (l : List (κ × α)) (k : κ) (v : α) :
    (assocSet l k v).map (fun p => (p.1, g p.2)) = assocSet (l.map fun p => (p.1, g p.2)) k (g v) := by
  fun_induction assocSet l k v <;> simp_all [assocSet]

theorem assocSet_assocSet {κ α : Type} [DecidableEq κ] (l : List (κ × α)) (k : κ) (v v' : α) :
    assocSet (assocSet l k v) k v' = assocSet l k v' := by
  fun_induction assocSet l k v <;> simp_all [assocSet]

theorem assocSet_of_absent {κ α : Type} [DecidableEq κ] {l : List (κ × α)} {k : κ} (h : assocGet l k = none) (v : α) :
    assocSet l k v = l ++ [(k, v)] := by
  fun_induction assocGet l k <;> simp_all [assocSet]

theorem innerOf_set_self {hp : List Inner} {k : Nat} (h : k < hp.length) (v : Inner) : innerOf (hp.set k v) k = v := by
  simp [innerOf, h]
theorem innerOf_set_ne {hp : List Inner} {k j : Nat} (h : k ≠ j) (v : Inner) : innerOf (hp.set k v) j = innerOf hp j := by
  simp [innerOf, List.getElem?_set_ne h]
theorem innerOf_append_left {hp : List Inner} {j : Nat} (h : j < hp.length) (x : List Inner) : innerOf (hp ++ x) j = innerOf hp j := by
  simp [innerOf, List.getElem?_append_left h]
theorem innerOf_fresh (hp : List Inner) : innerOf (hp ++ [[]]) hp.length = [] := by
  simp [innerOf]

/-- writing through the handle `k` of `src`'s inner map changes exactly `src`'s row of the view — because no other row shares `k` -/
theorem view_set {l : List (NodeId × Nat)} {src : NodeId} {k : Nat} {hp : List Inner} (v : Inner)
    (hg : assocGet l src = some k) (hpw : l.Pairwise (fun p q => p.2 ≠ q.2)) (hk : k < hp.length) :
    (l.map fun p => (p.1, innerOf (hp.set k v) p.2)) = assocSet (l.map fun p => (p.1, innerOf hp p.2)) src v := by
  induction l with
  | nil => simp [assocGet] at hg
  | cons p t ih =>
    obtain ⟨n', k'⟩ := p
    rw [List.pairwise_cons] at hpw
    obtain ⟨hhead, htail⟩ := hpw
    by_cases hn : n' = src
    · simp [assocGet, hn] at hg
      subst hg
      simp only [List.map_cons, assocSet, hn, if_true, innerOf_set_self hk]
      congr 1
      apply List.map_congr_left
      intro q hq
      rw [innerOf_set_ne (hhead q hq)]
    · simp [assocGet, hn] at hg
      have hne : k ≠ k' := fun e => hhead (src, k) (mem_of_assocGet hg) (by simp [e])
      simp only [List.map_cons, assocSet, hn, if_false, innerOf_set_ne hne, ih hg htail]

theorem pairwise_assocSet_fresh {o : Obj} (hwf : o.WF) {src : NodeId} (hg : assocGet o.outer src = none) :
    (assocSet o.outer src o.heap.length).Pairwise (fun p q => p.2 ≠ q.2) := by
  rw [assocSet_of_absent hg, List.pairwise_append]
  refine ⟨hwf.1, by simp, ?_⟩
  intro p hp q hq
  simp only [List.mem_singleton] at hq
  subst hq
  exact Nat.ne_of_lt (hwf.2 p hp)

theorem view_connectObj (o : Obj) (hwf : o.WF) (op : ConnOp) : view (connectObj o op) = connect (view o) op := by
  obtain ⟨hpw, hd⟩ := hwf
  obtain ⟨src, a, d⟩ := op
  unfold connect connectObj view
  simp only [assocGet_map]
  cases hg : assocGet o.outer src with
  | some k =>
    simp only [Option.map_some, Option.getD_some]
    exact view_set _ hg hpw (hd _ (mem_of_assocGet hg))
  | none =>
    simp only [Option.map_none, Option.getD_none]
    have hg' : assocGet (assocSet o.outer src o.heap.length) src = some o.heap.length := assocGet_assocSet_self ..
    rw [view_set _ hg' (pairwise_assocSet_fresh ⟨hpw, hd⟩ hg) (by simp), assocSet_map, innerOf_fresh, assocSet_assocSet]
    congr 1
    apply List.map_congr_left
    intro q hq
    rw [innerOf_append_left (hd q hq)]

theorem WF_connectObj (o : Obj) (hwf : o.WF) (op : ConnOp) : (connectObj o op).WF := by
  obtain ⟨hpw, hd⟩ := hwf
  obtain ⟨src, a, d⟩ := op
  unfold connectObj
  cases hg : assocGet o.outer src with
  | some k => exact ⟨hpw, by simpa using hd⟩
  | none =>
    refine ⟨?_, ?_⟩
    · exact pairwise_assocSet_fresh ⟨hpw, hd⟩ hg
    · intro p hp
      have hp' : p ∈ assocSet o.outer src o.heap.length := hp
      rw [assocSet_of_absent hg, List.mem_append] at hp'
      simp only [List.length_set, List.length_append, List.length_singleton]
      rcases hp' with h | h
      · exact Nat.lt_succ_of_lt (hd p h)
      · simp only [List.mem_singleton] at h; subst h; exact Nat.lt_succ_self _

theorem connectObj_base (o : Obj) (op : ConnOp) : (connectObj o op).base = o.base := by
  unfold connectObj; split <;> rfl
theorem connectObj_start (o : Obj) (op : ConnOp) : (connectObj o op).start = o.start := by
  unfold connectObj; split <;> rfl

theorem foldl_connectObj (ops : List ConnOp) : ∀ o : Obj, o.WF →
    view (ops.foldl connectObj o) = ops.foldl connect (view o) ∧ (ops.foldl connectObj o).start = o.start ∧
      (ops.foldl connectObj o).base = o.base ∧ (ops.foldl connectObj o).WF := by
  induction ops with
  | nil => exact fun o h => ⟨rfl, rfl, rfl, h⟩
  | cons op t ih =>
    intro o h
    obtain ⟨hv, hs, hb, hw⟩ := ih _ (WF_connectObj o h op)
    rw [view_connectObj o h op] at hv
    exact ⟨hv, hs.trans (connectObj_start o op), hb.trans (connectObj_base o op), hw⟩

/-- the object `NewFlow(start)` makes (on top of whatever inner maps existed before: unreachable garbage) -/
def newObj (start : Option NodeId) (o : Obj) : Obj := { base := some Config.newBaseNode, start := start, outer := [], heap := o.heap }

theorem WF_newObj (start : Option NodeId) (o : Obj) : (newObj start o).WF := ⟨List.Pairwise.nil, by simp [newObj]⟩
theorem view_newObj (start : Option NodeId) (o : Obj) : view (newObj start o) = buildTable [] := rfl

def newFlowFuel : Nat := 10
def connectFuel : Nat := 6
def prepFuel : Nat := 5
def postFuel : Nat := 7
def runFuel : Nat := 7

/-- `NewFlow(start)`: the flow object holding `start` (nil is `none`), the default `BaseNode` and an empty `transitions` map, whatever
    the state before; its view is `buildTable []` and it is well-formed -/
theorem NewFlow_refines_of_le (fuel : Nat) (h : newFlowFuel ≤ fuel) (start : Option NodeId) (o : Obj) :
    run fuel NewFlow [tgtGV start] o = some ([flowH], newObj start o)
      ∧ (newObj start o).start = start ∧ (newObj start o).base = some Config.newBaseNode
      ∧ view (newObj start o) = buildTable [] ∧ buildTable [] = [] ∧ (newObj start o).WF := by
  obtain ⟨f, rfl⟩ := Nat.exists_eq_add_of_le' h
  exact ⟨by fbsimp [NewFlow, newFlowFuel, newObj, tgtOf_tgtGV], rfl, rfl, rfl, rfl, WF_newObj start o⟩

/-- `f.Connect(from, action, to)` on a well-formed flow returns `f`; the view of the new state is the model's `connect` applied to the
    old view; `start` and the `BaseNode` are untouched; the state stays well-formed -/
theorem Flow_Connect_refines_of_le (fuel : Nat) (h : connectFuel ≤ fuel) (o : Obj) (hwf : o.WF) (op : ConnOp) :
    run fuel Flow_Connect [flowH, .node op.src, .str op.action, tgtGV op.dst] o = some ([flowH], connectObj o op)
      ∧ view (connectObj o op) = connect (view o) op
      ∧ (connectObj o op).start = o.start ∧ (connectObj o op).base = o.base ∧ (connectObj o op).WF := by
  obtain ⟨f, rfl⟩ := Nat.exists_eq_add_of_le' h
  refine ⟨?_, view_connectObj o hwf op, connectObj_start o op, connectObj_base o op, WF_connectObj o hwf op⟩
  obtain ⟨src, a, d⟩ := op
  cases hg : assocGet o.outer src with
  | none => fbsimp [Flow_Connect, connectFuel, connectObj, hg, tgtOf_tgtGV, assocGet_assocSet_self]
  | some k => fbsimp [Flow_Connect, connectFuel, connectObj, hg, hwf.2 (src, k) (mem_of_assocGet hg), tgtOf_tgtGV]

theorem runConnects_refines (fuel : Nat) (h : connectFuel ≤ fuel) (ops : List ConnOp) :
    ∀ (o : Obj), o.WF → runConnects fuel Flow_Connect ops flowH o = some (flowH, ops.foldl connectObj o) := by
  induction ops with
  | nil => intro o _; rfl
  | cons op t ih =>
    intro o hwf
    have h1 := (Flow_Connect_refines_of_le fuel h o hwf op).1
    simp only [runConnects, connectArgs, h1, List.foldl_cons]
    exact ih _ (WF_connectObj o hwf op)

/-- `NewFlow(start)` followed by one `Connect` per operation, each on the flow the previous call returned, builds a flow with `start`,
    the default `BaseNode` and the table `buildTable ops` of the model's `NodeDef.flow start ops` -/
theorem Flow_Connect_sequence_refines (fuel : Nat) (h : newFlowFuel ≤ fuel) (start : Option NodeId) (ops : List ConnOp) (o : Obj) :
    ∃ o', (match run fuel NewFlow [tgtGV start] o with
           | some ([recv], o1) => runConnects fuel Flow_Connect ops recv o1
           | _ => none) = some (flowH, o')
      ∧ view o' = buildTable ops ∧ o'.start = start ∧ o'.base = some Config.newBaseNode ∧ o'.WF := by
  have hc : connectFuel ≤ fuel := Nat.le_trans (by decide) h
  obtain ⟨hv, hs, hb, hw⟩ := foldl_connectObj ops _ (WF_newObj start o)
  refine ⟨ops.foldl connectObj (newObj start o), ?_, hv, hs, hb, hw⟩
  rw [(NewFlow_refines_of_le fuel h start o).1]
  exact runConnects_refines fuel hc ops _ (WF_newObj start o)

theorem buildFlowIR_refines (fuel : Nat) (h : newFlowFuel ≤ fuel) (start : Option NodeId) (ops : List ConnOp) :
    ∃ o', buildFlowIR fuel NewFlow Flow_Connect start ops = some (flowH, o')
      ∧ view o' = buildTable ops ∧ o'.start = start ∧ o'.base = some Config.newBaseNode ∧ o'.WF :=
  Flow_Connect_sequence_refines fuel h start ops blank

/-- reading the flow through the world — `f.transitions[n]`, then `[a]` on the inner map that yields — is the model's `tableLookup` on
    the view; of `Obj.WF` only "no dangling handle" is needed, sharing is irrelevant for reads -/
theorem lookup_refines (o : Obj) (hd : ∀ p ∈ o.outer, p.2 < o.heap.length) (n : NodeId) (a : Action) :
    lookupW o n a = some (tableLookup (view o) n a) := by
  unfold lookupW tableLookup view
  simp only [assocGet_map, transH, W_idx_trans]
  cases hg : assocGet o.outer n with
  | none => rfl
  | some k =>
    have hk : k < o.heap.length := hd _ (mem_of_assocGet hg)
    have hcell : o.heap[k]? = some (innerOf o.heap k) := by simp [innerOf, hk]
    simp only [innerH, Option.map_some, W_idx_inner, hcell]
    cases hi : assocGet (innerOf o.heap k) a with
    | none => rfl
    | some d => simp [tgtOf_tgtGV]

/-- the flow a `Connect` sequence built answers every lookup like `buildTable ops` -/
theorem lookup_built (fuel : Nat) (h : newFlowFuel ≤ fuel) (start : Option NodeId) (ops : List ConnOp) (n : NodeId) (a : Action) :
    (buildFlowIR fuel NewFlow Flow_Connect start ops).bind (fun r => lookupW r.2 n a) = some (tableLookup (buildTable ops) n a) := by
  obtain ⟨o', hb, hv, _, _, hwf⟩ := buildFlowIR_refines fuel h start ops
  rw [hb, Option.bind_some, lookup_refines o' hwf.2, hv]

/-- `Flow.Prep` hands `shared` through: `(shared, nil)`, whatever `shared`, the receiver and the context are -/
theorem Flow_Prep_refines_of_le (fuel : Nat) (h : prepFuel ≤ fuel) (recv ctx shared : GV) (o : Obj) :
    run fuel Flow_Prep [recv, ctx, shared] o = some ([shared, .nil], o) := by
  obtain ⟨f, rfl⟩ := Nat.exists_eq_add_of_le' h
  fbsimp [Flow_Prep, prepFuel]

/-- the action `Flow.Post` returns for an `execResult` -/
def postAction : GV → Action
  | .str a => a
  | _ => defaultAction

theorem postAction_other {x : GV} (hx : ∀ a, x ≠ .str a) : postAction x = defaultAction := by
  cases x <;> first | rfl | exact absurd rfl (hx _)

/-- `Flow.Post`: the `Action` inside `execResult` (what `Flow.Exec` returns is `lastAction` boxed in an `any`: `.str a`), else
    `DefaultAction`; never an error -/
theorem Flow_Post_refines_of_le (fuel : Nat) (h : postFuel ≤ fuel) (recv ctx shared prepResult execResult : GV) (o : Obj) :
    run fuel Flow_Post [recv, ctx, shared, prepResult, execResult] o = some ([.str (postAction execResult), .nil], o) := by
  obtain ⟨f, rfl⟩ := Nat.exists_eq_add_of_le' h
  by_cases hx : ∃ a, execResult = .str a
  · obtain ⟨a, rfl⟩ := hx
    exact Flow_Post_core_action f recv ctx shared prepResult a o
  · have hx' : ∀ a, execResult ≠ .str a := fun a e => hx ⟨a, e⟩
    rw [postAction_other hx']
    exact Flow_Post_core_other f recv ctx shared prepResult execResult hx' o

/-- the entries `Prep` / `Post` of `flowNodeWorld` (the world of `Run_refines_runNode_flow`) are exactly these two results -/
theorem flowNodeWorld_Prep_agrees (env : Flyt.Env) (start : Option NodeId) (tbl : Table) (i : Nat) (c sh : GV) (h : Heap) (w : FlowW) :
    (flowNodeWorld env start tbl).mcall (.node i) "Prep" [c, sh] h w = some ([sh, .nil], h, w) := rfl
theorem flowNodeWorld_Post_agrees (env : Flyt.Env) (start : Option NodeId) (tbl : Table) (i : Nat) (c sh pv x : GV) (h : Heap) (w : FlowW) :
    (flowNodeWorld env start tbl).mcall (.node i) "Post" [c, sh, pv, x] h w = some ([.str (postAction x), .nil], h, w) := by
  cases x <;> rfl
/-- with `Run`'s normalisation on top: the `.ok (norm a)` of the model's `runNode` flow branch -/
theorem norm_postAction (a : Action) : norm (postAction (.str a)) = norm a := rfl

theorem runRets_of_ne_fuel {out : Outcome} (h : out ≠ .fuel) : ∃ a, runRets out = some [.str a, errGV out] := by
  cases out with
  | fuel => exact absurd rfl h
  | ok a => exact ⟨a, rfl⟩
  | err e => exact ⟨"", rfl⟩
  | both a e => exact ⟨a, rfl⟩

/-- `Flow.Run(ctx, shared)` returns the error of `Run(ctx, f, shared)` — nil on success, the action dropped; events and run state are
    those of the model's `runNode` on the flow node -/
theorem Flow_Run_refines_of_le (fuel : Nat) (h : runFuel ≤ fuel) (env : Flyt.Env) (fid : NodeId) (mfuel : Nat) (sid : StoreId)
    (st : RunSt) (o : Obj) (hne : (runNode env mfuel fid sid st).2.2 ≠ .fuel) :
    flowRunIR fuel Flow_Run env fid mfuel sid st o =
      some ((runNode env mfuel fid sid st).1, (runNode env mfuel fid sid st).2.1, [errGV (runNode env mfuel fid sid st).2.2]) := by
  obtain ⟨f, rfl⟩ := Nat.exists_eq_add_of_le' h
  obtain ⟨a, ha⟩ := runRets_of_ne_fuel hne
  fbsimp [Flow_Run, ha, runFuel]

/-- the world call `Run` is what the interpreted source of `Run` computes on the flow node (`Run_refines_runNode_flow`): `Flow.Run` is
    the error of the interpreted `Run`, when the arena holds the flow as `NodeDef.flow start ops` -/
theorem Flow_Run_eq_interpreted_Run (fuel : Nat) (h : runFuel ≤ fuel) (env : Flyt.Env) (fid : NodeId) (start : Option NodeId)
    (ops : List ConnOp) (mfuel : Nat) (sid : StoreId) (st : RunSt) (o : Obj) (harena : env.arena fid = .flow start ops)
    (hne : (runNode env (mfuel + 1) fid sid st).2.2 ≠ .fuel) :
    flowRunIR fuel Flow_Run env fid (mfuel + 1) sid st o =
      (runFlowNodeIR flowNodeFuel Flyt.Expected.IR.Run env fid start ops mfuel sid st).map fun r => (r.1, r.2.1, [errGV r.2.2]) := by
  rw [Flow_Run_refines_of_le fuel h env fid (mfuel + 1) sid st o hne, Run_refines_runNode_flow env fid start ops mfuel sid st harena hne]
  rfl

theorem errGV_ok (a : Action) : errGV (.ok a) = .nil := rfl
theorem errGV_err (e : ErrRoot) : errGV (.err e) = .err e := rfl

-- the depth of the executable test (`GoIR/FlowBuildTest.lean`)
def F : Nat := 30
theorem NewFlow_refines (start : Option NodeId) (o : Obj) : run F NewFlow [tgtGV start] o = some ([flowH], newObj start o) :=
  (NewFlow_refines_of_le F (by decide) start o).1
theorem Flow_Connect_refines (o : Obj) (hwf : o.WF) (op : ConnOp) :
    run F Flow_Connect (connectArgs flowH op) o = some ([flowH], connectObj o op) ∧ view (connectObj o op) = connect (view o) op :=
  ⟨(Flow_Connect_refines_of_le F (by decide) o hwf op).1, view_connectObj o hwf op⟩
theorem Flow_Prep_refines (recv ctx shared : GV) (o : Obj) : run F Flow_Prep [recv, ctx, shared] o = some ([shared, .nil], o) :=
  Flow_Prep_refines_of_le F (by decide) recv ctx shared o
theorem Flow_Post_refines (recv ctx shared pv x : GV) (o : Obj) :
    run F Flow_Post [recv, ctx, shared, pv, x] o = some ([.str (postAction x), .nil], o) :=
  Flow_Post_refines_of_le F (by decide) recv ctx shared pv x o

end Flyt.Refine.FlowBuild
