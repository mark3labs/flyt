import FlytModel.GoIR.CtorWorld
import FlytModel.Expected.IR
import FlytModel.Refine.Run
import FlytModel.Refine.Range
/-!
# Refinement of the constructors `NewBaseNode` (flyt.go:492), `NewNode` (flyt.go:1191), `NewBatchNode` (batch.go:60) and of
`customNodeOption.apply` (flyt.go:1237): their translated source (`Flyt.Expected.IR`), run in `ctorWorld` (`GoIR/CtorWorld.lean`),
builds the node that the configuration model (`Model/Config.lean`) says (property C19) — for every argument list, every initial
content `n0` of the memory the constructor initialises, every recursion depth from a bound linear in the length of the list.

An argument list is a `List Arg`: option VALUES by dynamic type (`NodeOption`, raw `func(*BaseNode)`, `CustomNodeOption`, junk), each
tagged with the model `Step` it performs. The callee of `opt(n)` is the value the loop variable holds (`World.callVar`).

The loops `for _, opt := range x { … }` go by the rule of `Refine/Range.lean` over a list of (value, position) pairs; the sorting loops
keep the contents of the option slices as invariant (`Holds`).
-/
namespace Flyt.Refine.Ctors
open Flyt Flyt.GoIR Flyt.Config Flyt.GoIR.CtorW Flyt.Expected.IR Flyt.Refine
set_option linter.unusedSimpArgs false

section steps
variable {Ω : Type} (W : World Ω)
theorem expr_sel (f : Nat) (a : Expr) (fl : String) (st : St Ω) :
    evalExpr W (f + 1) (.sel a fl) st =
      match evalExpr W f a st with
      | some ([x], st1) => (W.field x fl st1.w).map fun v => ([v], st1)
      | _ => none := rfl
theorem expr_conv (f : Nat) (ty : String) (a : Expr) (st : St Ω) :
    evalExpr W (f + 1) (.conv ty a) st =
      match evalExpr W f a st with
      | some ([x], st1) =>
        (match W.call ("conv:" ++ ty) [x] st1.heap st1.w with
         | some (rs, h, w) => some (rs, { st1 with heap := h, w := w })
         | none => none)
      | _ => none := rfl
theorem expr_amp_lit (f : Nat) (ty : String) (elts : Exprs) (st : St Ω) :
    evalExpr W (f + 1) (.un "&" (.lit ty elts)) st = evalExpr W f (.lit ty elts) st := rfl
theorem expr_lit (f : Nat) (ty : String) (elts : Exprs) (st : St Ω) (h1 : ty ≠ "[]Result") (h2 : ty ≠ "Result") :
    evalExpr W (f + 1) (.lit ty elts) st =
      match evalArgs W f (litValues elts) st with
      | some (vs, st1) =>
        (match W.call ("lit:" ++ ty ++ ":" ++ litKeys elts) vs st1.heap st1.w with
         | some (rs, h, w) => some (rs, { st1 with heap := h, w := w })
         | none => none)
      | none => none := by
  have h0 : evalExpr W (f + 1) (.lit ty elts) st = (if ty == "[]Result" then _ else if ty == "Result" then _ else _) := rfl
  rw [h0, beq_eq_false_iff_ne.mpr h1, beq_eq_false_iff_ne.mpr h2]; rfl
theorem stmt_typeSwitch (f : Nat) (bind : String) (x : Expr) (cases : Cases) (st : St Ω) :
    execStmt W (f + 1) (.typeSwitch bind x cases) st =
      match evalExpr W f x st with
      | some ([v], st1) => switchCases W f bind v cases st1
      | _ => none := rfl
theorem switch_nil (f : Nat) (bind : String) (v : GV) (st : St Ω) :
    switchCases W (f + 1) bind v .nil st = some (.next, st) := rfl
theorem switch_case (f : Nat) (bind : String) (v : GV) (l ty : String) (body : Block) (rest : Cases) (st : St Ω) :
    switchCases W (f + 1) bind v (.cons (.lit l (.cons (.var ty) .nil)) body rest) st =
      (match W.assert v ty st.w with
       | some (v', true) =>
         (execBlock W f body { st with env := st.env.push bind v' }).map fun (c, st2) => (c, popSt st2 st.env.length)
       | some (_, false) => switchCases W f bind v rest st
       | none => none) := rfl
theorem switch_default (f : Nat) (bind : String) (v : GV) (d : String) (body : Block) (st : St Ω) :
    switchCases W (f + 1) bind v (.cons (.var d) body .nil) st =
      (execBlock W f body { st with env := st.env.push bind v }).map fun (c, st2) => (c, popSt st2 st.env.length) := rfl
theorem stmt_expr_call (f : Nat) (fn : String) (args : Exprs) (st : St Ω) :
    execStmt W (f + 1) (.expr (.call fn args)) st = (evalExpr W f (.call fn args) st).map fun (_, st1) => (.next, st1) := rfl
theorem stmt_expr_mcall_var (f : Nat) (r : Expr) (m x : String) (st : St Ω) :
    execStmt W (f + 1) (.expr (.mcall r m (.cons (.var x) .nil))) st =
      (evalExpr W f (.mcall r m (.cons (.var x) .nil)) st).map fun (_, st1) => (.next, st1) := rfl
theorem stmt_range (f : Nat) (k v : String) (x : Expr) (body : Block) (st : St Ω) :
    execStmt W (f + 1) (.rangeS k v x body) st =
      match evalExpr W f x st with
      | some ([.slice ad off n], st1) => loopRange W f k v ad off n 0 body st1
      | some ([.anys l], st1) => loopAnys W f k v l 0 body st1
      | some ([.nil], st1) => some (.next, st1)
      | some ([m], st1) =>
        (match W.rangeOf m st1.w with
         | some kvs => loopPairs W f k v kvs body st1
         | none => none)
      | _ => none := rfl
theorem loopPairs_nil (f : Nat) (k v : String) (body : Block) (st : St Ω) :
    loopPairs W (f + 1) k v [] body st = some (.next, st) := rfl
theorem loopPairs_cons (f : Nat) (k v : String) (kx vx : GV) (rest : List (GV × GV)) (body : Block) (st : St Ω) :
    loopPairs W (f + 1) k v ((kx, vx) :: rest) body st =
      (match execBlock W f body { st with env := (st.env.push k kx).push v vx } with
       | some (.brk, st2) => some (.next, popSt st2 st.env.length)
       | some (.ret vs, st2) => some (.ret vs, popSt st2 st.env.length)
       | some (_, st2) => loopPairs W f k v rest body (popSt st2 st.env.length)
       | none => none) := rfl
end steps

local notation "W" => ctorWorld

theorem W_lit_BaseNode (a b : Int) (h : Heap) (w : KW) :
    (W).call "lit:BaseNode:maxRetries,wait," [.int a, .int b] h w =
      some ([baseH], h, { w with node := { w.node with base := { maxRetries := a, wait := b, batchConcurrency := 0, batchErrorHandling := .unset } } }) := rfl
theorem W_NewBaseNode (h : Heap) (w : KW) :
    (W).call "NewBaseNode" [] h w = some ([baseH], h, { w with node := { w.node with base := newBaseNode } }) := rfl
theorem W_lit_CustomNode (i : Nat) (h : Heap) (w : KW) :
    (W).call "lit:CustomNode:BaseNode," [.ref "base" i] h w =
      some ([nodeH], h, { w with node := { base := w.node.base, prepFunc := none, execFunc := none, postFunc := none,
                                            execFallbackFunc := none, batchPrepFunc := none, batchPostFunc := none } }) := rfl
theorem W_lit_NodeBuilder (i : Nat) (h : Heap) (w : KW) :
    (W).call "lit:NodeBuilder:CustomNode," [.ref "node" i] h w = some ([builderH], h, w) := rfl
theorem W_lit_BatchNode (i : Nat) (h : Heap) (w : KW) :
    (W).call "lit:BatchNode:CustomNode," [.ref "node" i] h w =
      some ([batchNodeH], h, { w with node := { w.node with batchPrepFunc := none, batchPostFunc := none } }) := rfl
theorem W_lit_BatchNodeBuilder (i : Nat) (h : Heap) (w : KW) :
    (W).call "lit:BatchNodeBuilder:BatchNode," [.ref "batchnode" i] h w = some ([batchBuilderH], h, w) := rfl
theorem W_append (s : GV) (i : Nat) (h : Heap) (w : KW) :
    (W).call "append" [s, .ref "arg" i] h w = (appendSlice w s i).map fun r => ([r.1], h, r.2) := rfl
theorem W_conv (i : Nat) (h : Heap) (w : KW) :
    (W).call "conv:NodeOption" [.ref "arg" i] h w =
      (match w.args[i]? with
       | some (.rawFunc _) => some ([argH i], h, w)
       | some (.nodeOpt _) => some ([argH i], h, w)
       | _ => none) := rfl
theorem W_callVar (fn : String) (i j : Nat) (h : Heap) (w : KW) :
    (W).callVar fn (.ref "arg" i) [.ref "base" j] h w = (callOpt w i).map fun w' => ([], h, w') := rfl
theorem W_apply (i j : Nat) (h : Heap) (w : KW) :
    (W).mcall (.ref "arg" i) "apply" [.ref "node" j] h w = (applyOpt w i).map fun w' => ([], h, w') := rfl
theorem W_f (i j : Nat) (h : Heap) (w : KW) :
    (W).mcall (.ref "arg" i) "f" [.ref "node" j] h w = (applyOpt w i).map fun w' => ([], h, w') := rfl
theorem W_assert (i : Nat) (ty : String) (w : KW) :
    (W).assert (.ref "arg" i) ty w = (w.args[i]?).bind fun a => assertArg a i ty := rfl
theorem W_BaseNode (i : Nat) (w : KW) : (W).field (.ref "node" i) "BaseNode" w = some baseH := rfl
theorem W_rangeOf (j : Nat) (w : KW) : (W).rangeOf (.ref "slice" j) w = (w.slices[j]?).map (pairsFrom 0) := rfl
theorem W_zeroN : (W).global "zero:[]NodeOption" = some .nil := rfl
theorem W_zeroC : (W).global "zero:[]CustomNodeOption" = some .nil := rfl

macro "ctorsimp" " [" ts:Lean.Parser.Tactic.simpLemma,* "]" : tactic =>
  `(tactic| gosimp [callFunc, expr_sel, expr_conv, expr_amp_lit, expr_lit, stmt_typeSwitch, switch_nil, switch_case, switch_default,
      stmt_expr_call, stmt_expr_mcall_var, litValues, litKeys,
      W_lit_BaseNode, W_NewBaseNode, W_lit_CustomNode, W_lit_NodeBuilder, W_lit_BatchNode, W_lit_BatchNodeBuilder, W_append, W_conv,
      W_callVar, W_apply, W_f, W_assert, W_BaseNode, W_zeroN, W_zeroC, assertArg,
      baseH, nodeH, builderH, batchNodeH, batchBuilderH, optsH, argH, $ts,*])

/-- `o.apply(n)` (flyt.go:1237) for the `CustomNodeOption` at argument position `i`, which performs step `s`: the node becomes
    `applyCustomOption s node`; nothing is returned, nothing else changes. -/
theorem customNodeOption_apply_refines_of_le {fuel : Nat} (hf : 5 ≤ fuel) (i : Nat) (s : Step) (h : Heap) (w : KW)
    (hi : w.args[i]? = some (.custom s)) :
    callFunc ctorWorld fuel customNodeOption_apply [argH i, nodeH] h w = some ([], h, { w with node := applyCustomOption s w.node }) := by
  obtain ⟨f, rfl⟩ := Nat.exists_eq_add_of_le' hf
  ctorsimp [customNodeOption_apply, applyOpt, hi]

abbrev idxs (l : List (Arg × Nat)) : List Nat := l.map Prod.snd

theorem range_var (f : Nat) (x : String) (body : Block) (env : GoIR.Env) (h : Heap) (w : KW) (s : GV) (il : List Nat)
    (he : env.get x = some s) (hc : content w s = some il) :
    execStmt W (f + 2) (.rangeS "_" "opt" (.var x) body) ⟨env, h, w⟩ =
      loopPairs W (f + 1) "_" "opt" (pairsFrom 0 il) body ⟨env, h, w⟩ := by
  unfold content at hc
  split at hc
  · cases hc; simp [stmt_range, expr_var, he, pairsFrom, loopPairs_nil]
  · simp [stmt_range, expr_var, he, W_rangeOf, hc]
  · simp at hc

theorem encodes_pairsFrom (P : Arg × Nat → Prop) : ∀ (l : List (Arg × Nat)) (k : Nat), (∀ p ∈ l, P p) →
    Encodes (fun p kv => kv.2 = argH p.2 ∧ P p) l (pairsFrom k (idxs l))
  | [], _, _ => .nil
  | p :: l, k, h => .cons ⟨rfl, h p (by simp)⟩ (encodes_pairsFrom P l (k + 1) fun q hq => h q (by simp [hq]))

/-- Loop rule for `for _, opt := range x { body }`, where `x` holds the option values `l` (each with its position in the argument
    list). `I done s w` is an invariant of the world `w` and of the part `s` of the environment that the body changes, indexed by
    the elements visited so far; `P` is what the body may assume of an element. -/
theorem range_inv {σ : Type} (env : σ → GoIR.Env) {K : Nat} (hK : ∀ s, (env s).length = K) (body : Block) (C : Nat)
    (I : List (Arg × Nat) → σ → KW → Prop) (P : Arg × Nat → Prop)
    (hbody : ∀ (g : Nat) (done : List (Arg × Nat)) (p : Arg × Nat) (s : σ) (h : Heap) (w : KW), P p → I done s w → ∃ s' w',
      execBlock W (g + C + 1) body ⟨("opt", argH p.2) :: env s, h, w⟩ = some (.next, ⟨("opt", argH p.2) :: env s', h, w'⟩) ∧
        I (done ++ [p]) s' w')
    (x : String) (v : GV) (l : List (Arg × Nat)) (hP : ∀ p ∈ l, P p) {fuel : Nat} (hf : l.length + C + 3 ≤ fuel)
    (s : σ) (h : Heap) (w : KW) (hx : (env s).get x = some v) (hv : content w v = some (idxs l)) (h0 : I [] s w) :
    ∃ s' w', execStmt W fuel (.rangeS "_" "opt" (.var x) body) ⟨env s, h, w⟩ = some (.next, ⟨env s', h, w'⟩) ∧ I l s' w' := by
  obtain ⟨f, rfl⟩ := Nat.exists_eq_add_of_le' hf
  rw [show f + (l.length + C + 3) = (f + l.length + C + 1) + 2 by omega, range_var _ x body _ h w v _ hx hv]
  obtain ⟨_, hr, s', w', rfl, hI⟩ := loopPairs_inv W "_" "opt" body C _ (fun kv e => ("opt", kv.2) :: e) (fun _ _ => rfl)
    (fun done st => ∃ s' w', st = ⟨env s', h, w'⟩ ∧ I done s' w')
    (by
      rintro g done p ⟨_, _⟩ _ ⟨rfl, hp⟩ ⟨s, w, rfl, hI⟩
      obtain ⟨s1, w1, hb, h1⟩ := hbody g done p s h w hp hI
      exact ⟨_, hb, s1, w1, by simp [popSt, Env.popTo, hK], h1⟩)
    (encodes_pairsFrom P l 0 hP) (fuel := f + l.length + C + 1 + 1) (by omega) [] _ ⟨s, w, rfl, h0⟩
  exact ⟨s', w', hr, by simpa using hI⟩

/-- the same loop when the body changes nothing but the node, element by element: a fold -/
theorem range_node (body : Block) (C : Nat) (step : Arg → Node → Node) (ok : Arg → Bool) (env : GoIR.Env)
    (hbody : ∀ (g i : Nat) (a : Arg) (h : Heap) (w : KW), ok a = true → w.args[i]? = some a →
      execBlock W (g + C + 1) body ⟨("opt", argH i) :: env, h, w⟩ =
        some (.next, ⟨("opt", argH i) :: env, h, { w with node := step a w.node }⟩))
    (x : String) (v : GV) (l : List (Arg × Nat)) {fuel : Nat} (hf : l.length + C + 3 ≤ fuel) (h : Heap) (w : KW)
    (hl : ∀ p ∈ l, w.args[p.2]? = some p.1 ∧ ok p.1 = true) (hx : env.get x = some v) (hv : content w v = some (idxs l)) :
    execStmt W fuel (.rangeS "_" "opt" (.var x) body) ⟨env, h, w⟩ =
      some (.next, ⟨env, h, { w with node := l.foldl (fun n p => step p.1 n) w.node }⟩) := by
  obtain ⟨_, _, hr, rfl⟩ := range_inv (σ := Unit) (fun _ => env) (fun _ => rfl) body C
    (fun done _ w' => w' = { w with node := done.foldl (fun n p => step p.1 n) w.node })
    (fun p => w.args[p.2]? = some p.1 ∧ ok p.1 = true)
    (by rintro g done ⟨a, i⟩ _ h _ ⟨hi, hok⟩ rfl; exact ⟨(), _, hbody g i a h _ hok hi, by simp⟩)
    x v l hl hf () h w hx hv rfl
  exact hr

def stepBase (a : Arg) (n : Node) : Node :=
  match a.baseStep? with
  | some s => { n with base := applyNodeOption s.setting n.base }
  | none => n
def stepCustom (a : Arg) (n : Node) : Node :=
  match a.customStep? with
  | some s => applyCustomOption s n
  | none => n

theorem call_step (e : Expr) (g i : Nat) (a : Arg) (env : GoIR.Env) (h : Heap) (w : KW)
    (he : evalExpr W (g + 2) e ⟨("opt", argH i) :: env, h, w⟩ = some ([baseH], ⟨("opt", argH i) :: env, h, w⟩))
    (ha : a.isBase = true) (hi : w.args[i]? = some a) :
    execBlock W (g + 6) B[(.expr (.call "opt" E[e]))] ⟨("opt", argH i) :: env, h, w⟩ =
      some (.next, ⟨("opt", argH i) :: env, h, { w with node := stepBase a w.node }⟩) := by
  have hc : callOpt w i = some { w with node := stepBase a w.node } := by
    cases a <;> simp [Arg.isBase] at ha <;> simp [callOpt, hi, stepBase, Arg.baseStep?]
  simp [block_cons, block_nil, stmt_expr_call, expr_call, args_one, he, Env.get, W_callVar, argH, baseH, hc] at he ⊢

abbrev envN (cv bv : GV) : GoIR.Env := [("baseOpts", bv), ("customOpts", cv), ("node", nodeH), ("opts", optsH)]
abbrev envB (bv : GV) : GoIR.Env := [("baseOpts", bv), ("customNode", nodeH), ("opts", optsH)]

/-- body of the first loop of `NewNode` -/
def sortN : Block := B[
    (.typeSwitch "o" (.var "opt") (Cases.ofList [
      ((.lit "types" E[(.var "CustomNodeOption")]), B[
        (.assign E[(.var "customOpts")] E[(.call "append" E[(.var "customOpts"), (.var "o")])])]),
      ((.lit "types" E[(.var "NodeOption")]), B[
        (.assign E[(.var "baseOpts")] E[(.call "append" E[(.var "baseOpts"), (.var "o")])])]),
      ((.lit "types" E[(.var "func(*BaseNode)")]), B[
        (.assign E[(.var "baseOpts")] E[(.call "append" E[(.var "baseOpts"), (.conv "NodeOption" (.var "o"))])])]),
      ((.var "default"), B[])]))]
/-- body of the first loop of `NewBatchNode` -/
def sortB : Block := B[
    (.typeSwitch "o" (.var "opt") (Cases.ofList [
      ((.lit "types" E[(.var "NodeOption")]), B[
        (.assign E[(.var "baseOpts")] E[(.call "append" E[(.var "baseOpts"), (.var "o")])])]),
      ((.lit "types" E[(.var "func(*BaseNode)")]), B[
        (.assign E[(.var "baseOpts")] E[(.call "append" E[(.var "baseOpts"), (.conv "NodeOption" (.var "o"))])])])]))]

/-- the slice `s` holds the positions of those of the elements `done` that satisfy `ok` -/
def Holds (ok : Arg → Bool) (done : List (Arg × Nat)) (w : KW) (s : GV) : Prop :=
  content w s = some (idxs (done.filter (ok ·.1)))

theorem Holds.append {ok done w s} (hs : Holds ok done w s) {a : Arg} (i : Nat) (ha : ok a = true) :
    ∃ l, content w s = some l ∧
      Holds ok (done ++ [(a, i)]) { w with slices := w.slices ++ [l ++ [i]] } (.ref "slice" w.slices.length) :=
  ⟨_, hs, by simp [Holds, content, List.filter_append, ha]⟩

theorem Holds.skip {ok done w s} (hs : Holds ok done w s) {a : Arg} (i : Nat) (ha : ok a = false) :
    Holds ok (done ++ [(a, i)]) w s := by
  simpa [Holds, List.filter_append, ha] using hs

theorem Holds.grow {ok done w s} (hs : Holds ok done w s) (x : List Nat) : Holds ok done { w with slices := w.slices ++ [x] } s := by
  unfold Holds content at hs ⊢
  split at hs
  · exact hs
  · rw [List.getElem?_append_left (List.getElem?_eq_some_iff.mp hs).1]; exact hs
  · exact hs

/-- the cases `NodeOption` and `func(*BaseNode)`, which both sorting switches have, in front of the cases `tail` -/
abbrev baseCases (tail : Cases) : Cases :=
  .cons (.lit "types" E[(.var "NodeOption")]) B[
      (.assign E[(.var "baseOpts")] E[(.call "append" E[(.var "baseOpts"), (.var "o")])])]
    (.cons (.lit "types" E[(.var "func(*BaseNode)")]) B[
      (.assign E[(.var "baseOpts")] E[(.call "append" E[(.var "baseOpts"), (.conv "NodeOption" (.var "o"))])])] tail)

theorem baseCases_hit (tail : Cases) (g i : Nat) (a : Arg) (ha : a.isBase = true) (bv : GV) (rest : GoIR.Env)
    (hr : rest.get "append" = none) (h : Heap) (w : KW) (hi : w.args[i]? = some a) (l : List Nat) (hl : content w bv = some l) :
    switchCases W (g + 9) "o" (.ref "arg" i) (baseCases tail) ⟨("opt", .ref "arg" i) :: ("baseOpts", bv) :: rest, h, w⟩ =
      some (.next, ⟨("opt", .ref "arg" i) :: ("baseOpts", .ref "slice" w.slices.length) :: rest, h,
        { w with slices := w.slices ++ [l ++ [i]] }⟩) := by
  cases a <;> simp [Arg.isBase] at ha <;> ctorsimp [baseCases, hi, hl, hr, appendSlice]

theorem baseCases_miss (tail : Cases) (g i : Nat) (a : Arg) (ha : a.isBase = false) (env : GoIR.Env) (h : Heap) (w : KW)
    (hi : w.args[i]? = some a) :
    switchCases W (g + 2) "o" (.ref "arg" i) (baseCases tail) ⟨env, h, w⟩ = switchCases W g "o" (.ref "arg" i) tail ⟨env, h, w⟩ := by
  cases a <;> simp [Arg.isBase] at ha <;> simp [baseCases, switch_case, W_assert, assertArg, hi]

/-- invariant of the first loop of `NewNode`: node and arguments as at the start, the custom options visited so far in
    `customOpts` (`s.1`), the base options in `baseOpts` (`s.2`) -/
def SortedN (n : Node) (args : List Arg) (done : List (Arg × Nat)) (s : GV × GV) (w : KW) : Prop :=
  w.node = n ∧ w.args = args ∧ Holds Arg.isCustom done w s.1 ∧ Holds Arg.isBase done w s.2

theorem sortN_step (n : Node) (args : List Arg) (g : Nat) (done : List (Arg × Nat)) (p : Arg × Nat) (s : GV × GV) (h : Heap)
    (w : KW) (hp : args[p.2]? = some p.1) (hI : SortedN n args done s w) : ∃ s' w',
    execBlock W (g + 12) sortN ⟨("opt", argH p.2) :: envN s.1 s.2, h, w⟩ =
      some (.next, ⟨("opt", argH p.2) :: envN s'.1 s'.2, h, w'⟩) ∧ SortedN n args (done ++ [p]) s' w' := by
  obtain ⟨a, i⟩ := p; obtain ⟨cv, bv⟩ := s; obtain ⟨hn, ha, hc, hb⟩ := hI
  rw [← ha] at hp
  cases hC : a.isCustom with
  | true =>
    obtain ⟨l, hl, hc'⟩ := hc.append i hC
    exact ⟨(.ref "slice" w.slices.length, bv), { w with slices := w.slices ++ [l ++ [i]] },
      by ctorsimp [sortN, envN, hp, hC, hl, appendSlice], hn, ha, hc', (hb.grow _).skip i (by cases a <;> first | rfl | cases hC)⟩
  | false =>
    cases hB : a.isBase with
    | true =>
      obtain ⟨l, hl, hb'⟩ := hb.append i hB
      exact ⟨(cv, .ref "slice" w.slices.length), { w with slices := w.slices ++ [l ++ [i]] },
        by ctorsimp [sortN, envN, hp, hC, baseCases_hit _ _ i a hB bv [("customOpts", cv), ("node", .ref "node" 0), ("opts", .ref "slice" 0)] rfl h w hp l hl],
        hn, ha, (hc.grow _).skip i hC, hb'⟩
    | false =>
      exact ⟨(cv, bv), w, by ctorsimp [sortN, envN, hp, hC, baseCases_miss _ _ i a hB _ h w hp], hn, ha, hc.skip i hC, hb.skip i hB⟩

/-- the same for the first loop of `NewBatchNode`, which collects the base options only -/
def SortedB (n : Node) (args : List Arg) (done : List (Arg × Nat)) (bv : GV) (w : KW) : Prop :=
  w.node = n ∧ w.args = args ∧ Holds Arg.isBase done w bv

theorem sortB_step (n : Node) (args : List Arg) (g : Nat) (done : List (Arg × Nat)) (p : Arg × Nat) (bv : GV) (h : Heap)
    (w : KW) (hp : args[p.2]? = some p.1) (hI : SortedB n args done bv w) : ∃ bv' w',
    execBlock W (g + 12) sortB ⟨("opt", argH p.2) :: envB bv, h, w⟩ = some (.next, ⟨("opt", argH p.2) :: envB bv', h, w'⟩) ∧
      SortedB n args (done ++ [p]) bv' w' := by
  obtain ⟨a, i⟩ := p; obtain ⟨hn, ha, hb⟩ := hI
  rw [← ha] at hp
  cases hB : a.isBase with
  | true =>
    obtain ⟨l, hl, hb'⟩ := hb.append i hB
    exact ⟨.ref "slice" w.slices.length, { w with slices := w.slices ++ [l ++ [i]] },
      by ctorsimp [sortB, envB, baseCases_hit _ _ i a hB bv [("customNode", .ref "node" 0), ("opts", .ref "slice" 0)] rfl h w hp l hl], hn, ha, hb'⟩
  | false => exact ⟨bv, w, by ctorsimp [sortB, envB, baseCases_miss _ _ i a hB _ h w hp], hn, ha, hb.skip i hB⟩

/-- `opt(nv.BaseNode)` -/
def callB (nv : String) : Block := B[(.expr (.call "opt" E[(.sel (.var nv) "BaseNode")]))]
/-- `opt(n)` -/
def callN : Block := B[(.expr (.call "opt" E[(.var "n")]))]
/-- `opt.apply(node)` -/
def applyB : Block := B[(.expr (.mcall (.var "opt") "apply" E[(.var "node")]))]

theorem applyB_step (g i : Nat) (a : Arg) (env : GoIR.Env) (h : Heap) (w : KW) (he : env.get "node" = some nodeH)
    (ha : a.isCustom = true) (hi : w.args[i]? = some a) :
    execBlock W (g + 6) applyB ⟨("opt", argH i) :: env, h, w⟩ =
      some (.next, ⟨("opt", argH i) :: env, h, { w with node := stepCustom a w.node }⟩) := by
  cases a <;> simp [Arg.isCustom] at ha
  ctorsimp [applyB, he, hi, applyOpt, stepCustom, Arg.customStep?]

def nbS1 : Stmt :=
  (.define ["n"] E[(.un "&" (.lit "BaseNode" E[(.bin ":" (.var "maxRetries") (.int 1)), (.bin ":" (.var "wait") (.int 0))]))])
def nnS1 (x : String) : Stmt :=
  (.define [x] E[(.un "&" (.lit "CustomNode" E[(.bin ":" (.var "BaseNode") (.call "NewBaseNode" E[]))]))])
def nnRet : Stmt := (.ret E[(.un "&" (.lit "NodeBuilder" E[(.bin ":" (.var "CustomNode") (.var "node"))]))])
def nbRet : Stmt :=
  (.ret E[(.un "&" (.lit "BatchNodeBuilder" E[(.bin ":" (.var "BatchNode") (.un "&" (.lit "BatchNode" E[(.bin ":" (.var "CustomNode") (.var "customNode"))])))]))])

theorem nbS1_spec (g : Nat) (env : GoIR.Env) (h : Heap) (w : KW) :
    execStmt W (g + 6) nbS1 ⟨env, h, w⟩ =
      some (.next, ⟨("n", baseH) :: env, h, { w with node := { w.node with base := newBaseNode } }⟩) := by
  rfl
theorem nnS1_spec (x : String) (hx : (x == "_") = false) (g : Nat) (env : GoIR.Env) (h : Heap) (w : KW)
    (he : env.get "NewBaseNode" = none) :
    execStmt W (g + 6) (nnS1 x) ⟨env, h, w⟩ = some (.next, ⟨(x, nodeH) :: env, h, { w with node := emptyNode }⟩) := by
  ctorsimp [nnS1, emptyNode, hx, he]
theorem declare_spec (x ty : String) (hx : (x == "_") = false) (hty : ty = "[]NodeOption" ∨ ty = "[]CustomNodeOption")
    (g : Nat) (env : GoIR.Env) (h : Heap) (w : KW) :
    execStmt W (g + 1) (.declare x ty) ⟨env, h, w⟩ = some (.next, ⟨(x, .nil) :: env, h, w⟩) := by
  rcases hty with rfl | rfl <;> ctorsimp [hx]
theorem nnRet_spec (g : Nat) (env : GoIR.Env) (h : Heap) (w : KW) (he : env.get "node" = some nodeH) :
    execStmt W (g + 6) nnRet ⟨env, h, w⟩ = some (.ret [builderH], ⟨env, h, w⟩) := by
  ctorsimp [nnRet, he]
theorem nbRet_spec (g : Nat) (env : GoIR.Env) (h : Heap) (w : KW) (he : env.get "customNode" = some nodeH) :
    execStmt W (g + 9) nbRet ⟨env, h, w⟩ = some (.ret [batchBuilderH],
      ⟨env, h, { w with node := { w.node with batchPrepFunc := none, batchPostFunc := none } }⟩) := by
  ctorsimp [nbRet, he]

theorem zipIdx_lookup (args : List Arg) : ∀ p ∈ args.zipIdx, args[p.2]? = some p.1 :=
  fun _ hp => List.mem_zipIdx_iff_getElem?.mp hp
theorem opts_content (nd : Node) (args : List Arg) :
    content ⟨nd, args, [List.range args.length]⟩ optsH = some (idxs args.zipIdx) := by
  rw [idxs, List.zipIdx_map_snd, ← List.range_eq_range']; rfl

def sel (ok : Arg → Bool) (args : List Arg) : List (Arg × Nat) := args.zipIdx.filter (ok ·.1)

theorem sel_length_le (ok : Arg → Bool) (args : List Arg) : (sel ok args).length ≤ args.length :=
  Nat.le_trans (List.length_filter_le _ _) (by simp [List.length_zipIdx])

theorem mem_sel {ok : Arg → Bool} {args : List Arg} {w : KW} (hw : w.args = args) :
    ∀ p ∈ sel ok args, w.args[p.2]? = some p.1 ∧ ok p.1 = true :=
  fun p hp => ⟨hw ▸ zipIdx_lookup args p (List.mem_filter.mp hp).1, (List.mem_filter.mp hp).2⟩

theorem foldl_sel (ok : Arg → Bool) (step : Arg → Node → Node) (hid : ∀ a n, ok a = false → step a n = n)
    (args : List Arg) (n : Node) :
    (sel ok args).foldl (fun n p => step p.1 n) n = args.foldl (fun n a => step a n) n := by
  conv => rhs; rw [← List.zipIdx_map_fst 0 args, List.foldl_map]
  rw [sel, List.foldl_filter]
  congr; funext n p
  cases h : ok p.1 <;> simp [hid, h]

theorem foldl_base_node (l : List Step) : ∀ n : Node,
    l.foldl (fun n s => { n with base := applyNodeOption s.setting n.base }) n =
      { n with base := l.foldl (fun b s => applyNodeOption s.setting b) n.base } := by
  induction l with
  | nil => intro n; rfl
  | cons s l ih => intro n; simp only [List.foldl_cons]; rw [ih]

theorem foldl_bases (args : List Arg) (n : Node) :
    (sel Arg.isBase args).foldl (fun n p => stepBase p.1 n) n =
      (args.filterMap Arg.baseStep?).foldl (fun n s => { n with base := applyNodeOption s.setting n.base }) n := by
  rw [foldl_sel Arg.isBase stepBase (by intro a n h; cases a <;> first | rfl | cases h), List.foldl_filterMap]
  congr; funext n a; unfold stepBase; cases a.baseStep? <;> rfl
theorem foldl_customs (args : List Arg) (n : Node) :
    (sel Arg.isCustom args).foldl (fun n p => stepCustom p.1 n) n =
      (args.filterMap Arg.customStep?).foldl (fun n s => applyCustomOption s n) n := by
  rw [foldl_sel Arg.isCustom stepCustom (by intro a n h; cases a <;> first | rfl | cases h), List.foldl_filterMap]
  congr; funext n a; unfold stepCustom; cases a.customStep? <;> rfl

theorem callB_range (nv : String) (hnv : ("opt" == nv) = false) (env : GoIR.Env) (he : env.get nv = some nodeH) (bv : GV)
    (hx : env.get "baseOpts" = some bv) (l : List (Arg × Nat)) {fuel : Nat} (hf : l.length + 8 ≤ fuel) (h : Heap) (w : KW)
    (hl : ∀ p ∈ l, w.args[p.2]? = some p.1 ∧ p.1.isBase = true) (hv : content w bv = some (idxs l)) :
    execStmt W fuel (.rangeS "_" "opt" (.var "baseOpts") (callB nv)) ⟨env, h, w⟩ =
      some (.next, ⟨env, h, { w with node := l.foldl (fun n p => stepBase p.1 n) w.node }⟩) :=
  range_node (callB nv) 5 stepBase Arg.isBase env
    (fun g i a h w => call_step _ g i a env h w (by simp [expr_sel, expr_var, Env.get, hnv, he, nodeH, W_BaseNode]))
    "baseOpts" bv l hf h w hl hx hv

theorem run_of_body (F : Func) (hr : F.recv = "") (hp : F.params = ["opts"]) {fuel : Nat} {n0 : Node} {args : List Arg}
    {vs : List GV} {st : St KW} (hE : execBlock W fuel F.body ⟨[("opts", optsH)], [], init n0 args⟩ = some (.ret vs, st)) :
    run fuel F n0 args = some (vs, st.w.node) := by
  unfold run callFunc; simp [hr, hp, Env.pushAll, Env.push, hE]

theorem NewBaseNode_body : NewBaseNode.body =
    .cons nbS1 (.cons (.rangeS "_" "opt" (.var "opts") callN) (.cons (.ret E[(.var "n")]) .nil)) := rfl

/-- `NewBaseNode(opts...)` (flyt.go:492; the parameter is `...NodeOption`, so every argument is a function on `*BaseNode`): returns
    the `*BaseNode` holding the defaults `maxRetries = 1`, `wait = 0` (other fields zero) with the options applied in order; what the
    memory held before (`n0`) does not matter, the rest of the node record is untouched. -/
theorem NewBaseNode_refines_of_le {fuel : Nat} (n0 : Node) (args : List Arg) (hb : ∀ a ∈ args, a.isBase = true)
    (hf : args.length + 12 ≤ fuel) :
    run fuel NewBaseNode n0 args = some ([baseH], { n0 with base := baseOf args }) := by
  obtain ⟨f, rfl⟩ := Nat.exists_eq_add_of_le' hf
  have hz : args.zipIdx = sel Arg.isBase args := (List.filter_eq_self.mpr fun p hp =>
    hb p.1 (by rw [← List.zipIdx_map_fst 0 args]; exact List.mem_map_of_mem hp)).symm
  have s2 := range_node callN 5 stepBase Arg.isBase [("n", baseH), ("opts", optsH)]
    (fun g i a h w => call_step _ g i a _ h w (by simp [expr_var, Env.get]))
    "opts" optsH (sel Arg.isBase args) (fuel := f + args.length + 10) (by have := sel_length_le Arg.isBase args; omega) []
    ⟨{ n0 with base := newBaseNode }, args, [List.range args.length]⟩ (mem_sel rfl) rfl (hz ▸ opts_content _ _)
  have hE : execBlock W (f + args.length + 12) NewBaseNode.body ⟨[("opts", optsH)], [], init n0 args⟩ =
      some (.ret [baseH], ⟨[("n", baseH), ("opts", optsH)], [],
        ⟨(sel Arg.isBase args).foldl (fun n p => stepBase p.1 n) { n0 with base := newBaseNode }, args, [List.range args.length]⟩⟩) := by
    simp only [NewBaseNode_body, block_cons, nbS1_spec, init, s2]; ctorsimp []
  rw [← Nat.add_assoc, run_of_body _ rfl rfl hE]
  simp [foldl_bases, foldl_base_node, baseOf]

theorem NewNode_body : NewNode.body =
    .cons (nnS1 "node") (.cons (.declare "customOpts" "[]CustomNodeOption") (.cons (.declare "baseOpts" "[]NodeOption")
      (.cons (.rangeS "_" "opt" (.var "opts") sortN) (.cons (.rangeS "_" "opt" (.var "baseOpts") (callB "node"))
        (.cons (.rangeS "_" "opt" (.var "customOpts") applyB) (.cons nnRet .nil)))))) := rfl

/-- `NewNode(opts...)` (flyt.go:1191): returns the builder around the node that results from `emptyNode` by ALL base options
    (`NodeOption`s and raw `func(*BaseNode)`s) in argument order, THEN all custom options in argument order; anything else in the
    argument list is ignored. -/
theorem NewNode_refines_of_le {fuel : Nat} (n0 : Node) (args : List Arg) (hf : args.length + 18 ≤ fuel) :
    run fuel NewNode n0 args = some ([builderH], nodeOf args) := by
  obtain ⟨f, rfl⟩ := Nat.exists_eq_add_of_le' hf
  have hB := sel_length_le Arg.isBase args
  have hC := sel_length_le Arg.isCustom args
  obtain ⟨⟨cv, bv⟩, w1, s4, hn, ha, hc, hb⟩ := range_inv (fun s : GV × GV => envN s.1 s.2) (K := 4) (fun _ => rfl) sortN 11
    (SortedN emptyNode args) (fun p => args[p.2]? = some p.1) (sortN_step emptyNode args) "opts" optsH args.zipIdx
    (zipIdx_lookup args) (fuel := f + args.length + 14) (by simp) (.nil, .nil) []
    ⟨emptyNode, args, [List.range args.length]⟩ rfl (opts_content _ _) ⟨rfl, rfl, rfl, rfl⟩
  have s5 := callB_range "node" rfl (envN cv bv) rfl bv rfl (sel Arg.isBase args) (fuel := f + args.length + 13) (by omega) []
    w1 (mem_sel ha) hb
  have s6 := range_node applyB 5 stepCustom Arg.isCustom (envN cv bv) (fun g i a h w => applyB_step g i a _ h w rfl)
    "customOpts" cv (sel Arg.isCustom args) (fuel := f + args.length + 12) (by omega) []
    { w1 with node := (sel Arg.isBase args).foldl (fun n p => stepBase p.1 n) w1.node } (mem_sel ha) rfl hc
  have hE : execBlock W (f + args.length + 18) NewNode.body ⟨[("opts", optsH)], [], init n0 args⟩ =
      some (.ret [builderH], ⟨envN cv bv, [], ⟨(sel Arg.isCustom args).foldl (fun n p => stepCustom p.1 n)
        ((sel Arg.isBase args).foldl (fun n p => stepBase p.1 n) w1.node), w1.args, w1.slices⟩⟩) := by
    simp only [NewNode_body, block_cons, nnS1_spec "node" rfl _ [("opts", optsH)] _ _ rfl,
      declare_spec "customOpts" _ rfl (.inr rfl), declare_spec "baseOpts" _ rfl (.inl rfl), init, s4, s5, s6,
      nnRet_spec _ (envN cv bv) _ _ rfl]
  rw [← Nat.add_assoc, run_of_body _ rfl rfl hE]
  simp only [hn, foldl_bases, foldl_customs, nodeOf]

theorem NewBatchNode_body : NewBatchNode.body =
    .cons (nnS1 "customNode") (.cons (.declare "baseOpts" "[]NodeOption")
      (.cons (.rangeS "_" "opt" (.var "opts") sortB) (.cons (.rangeS "_" "opt" (.var "baseOpts") (callB "customNode"))
        (.cons nbRet .nil)))) := rfl

/-- `NewBatchNode(opts...)` (batch.go:60): returns the batch builder around the node that results from `emptyNode` by the base
    options in argument order; custom options and anything else are ignored. -/
theorem NewBatchNode_refines_of_le {fuel : Nat} (n0 : Node) (args : List Arg) (hf : args.length + 17 ≤ fuel) :
    run fuel NewBatchNode n0 args = some ([batchBuilderH], batchOf args) := by
  obtain ⟨f, rfl⟩ := Nat.exists_eq_add_of_le' hf
  have hB := sel_length_le Arg.isBase args
  obtain ⟨bv, w1, s3, hn, ha, hb⟩ := range_inv envB (fun _ => rfl) sortB 11
    (SortedB emptyNode args) (fun p => args[p.2]? = some p.1) (sortB_step emptyNode args) "opts" optsH args.zipIdx
    (zipIdx_lookup args) (fuel := f + args.length + 14) (by simp) .nil []
    ⟨emptyNode, args, [List.range args.length]⟩ rfl (opts_content _ _) ⟨rfl, rfl, rfl⟩
  have s4 := callB_range "customNode" rfl (envB bv) rfl bv rfl (sel Arg.isBase args) (fuel := f + args.length + 13) (by omega) []
    w1 (mem_sel ha) hb
  have hE : execBlock W (f + args.length + 17) NewBatchNode.body ⟨[("opts", optsH)], [], init n0 args⟩ =
      some (.ret [batchBuilderH], ⟨envB bv, [], { w1 with node :=
        { (sel Arg.isBase args).foldl (fun n p => stepBase p.1 n) w1.node with batchPrepFunc := none, batchPostFunc := none } }⟩) := by
    simp only [NewBatchNode_body, block_cons, nnS1_spec "customNode" rfl _ [("opts", optsH)] _ _ rfl,
      declare_spec "baseOpts" _ rfl (.inl rfl), init, s3, s4, nbRet_spec _ (envB bv) _ _ rfl]
  rw [← Nat.add_assoc, run_of_body _ rfl rfl hE]
  simp only [hn, foldl_bases, foldl_base_node, batchOf]
  rfl

/-- the recursion depth of the executable test (`GoIR/CtorTest.lean`) -/
def F : Nat := 40
theorem NewBaseNode_refines (n0 : Node) (args : List Arg) (hb : ∀ a ∈ args, a.isBase = true) (hlen : args.length ≤ 28) :
    run F NewBaseNode n0 args = some ([baseH], { n0 with base := baseOf args }) :=
  NewBaseNode_refines_of_le n0 args hb (by unfold F; omega)
theorem NewNode_refines (n0 : Node) (args : List Arg) (hlen : args.length ≤ 22) :
    run F NewNode n0 args = some ([builderH], nodeOf args) := NewNode_refines_of_le n0 args (by unfold F; omega)
theorem NewBatchNode_refines (n0 : Node) (args : List Arg) (hlen : args.length ≤ 23) :
    run F NewBatchNode n0 args = some ([batchBuilderH], batchOf args) := NewBatchNode_refines_of_le n0 args (by unfold F; omega)

theorem filterMap_eq_filter {α β : Type} (sel f : α → Option β) (q : β → Bool) (l : List α)
    (h : ∀ a ∈ l, sel a = (f a).filter q) : l.filterMap sel = (l.filterMap f).filter q := by
  rw [List.filter_filterMap]
  induction l with
  | nil => rfl
  | cons a l ih => simp only [List.filterMap_cons, h a (by simp), ih fun b hb => h b (by simp [hb])]
theorem base_eq_filter (args : List Arg) (hwf : ∀ a ∈ args, a.wf = true) :
    args.filterMap Arg.baseStep? = (args.filterMap Arg.step?).filter (fun o => o.setting.isNodeOption) :=
  filterMap_eq_filter _ _ _ args fun a ha => by
    have := hwf a ha; cases a <;> simp_all [Arg.baseStep?, Arg.step?, Arg.wf, Option.filter]
theorem custom_eq_filter (args : List Arg) (hwf : ∀ a ∈ args, a.wf = true) :
    args.filterMap Arg.customStep? = (args.filterMap Arg.step?).filter (fun o => !o.setting.isNodeOption) :=
  filterMap_eq_filter _ _ _ args fun a ha => by
    have := hwf a ha; cases a <;> simp_all [Arg.customStep?, Arg.step?, Arg.wf, Option.filter]

/-- on well-typed argument lists (`Arg.wf`) the explicit folds are the model's own constructor functions of the option word -/
theorem nodeOf_eq_newNode (args : List Arg) (hwf : ∀ a ∈ args, a.wf = true) : nodeOf args = newNode (args.filterMap Arg.step?) := by
  unfold nodeOf newNode; rw [base_eq_filter args hwf, custom_eq_filter args hwf]
theorem batchOf_eq_newBatchNode (args : List Arg) (hwf : ∀ a ∈ args, a.wf = true) :
    batchOf args = newBatchNode (args.filterMap Arg.step?) := by
  unfold batchOf newBatchNode; rw [base_eq_filter args hwf]

theorem ofStep_wf (s : Step) : (Arg.ofStep s).wf = true := by
  unfold Arg.ofStep; cases h : s.setting.isNodeOption <;> simp [Arg.wf, h]
theorem ofStep_step (s : Step) : (Arg.ofStep s).step? = some s := by
  unfold Arg.ofStep; cases h : s.setting.isNodeOption <;> simp [Arg.step?]
theorem filterMap_ofStep (opts : List Step) : (opts.map Arg.ofStep).filterMap Arg.step? = opts := by
  induction opts with
  | nil => rfl
  | cons s l ih => simp [List.filterMap_cons, ofStep_step, ih]
theorem map_ofStep_wf (opts : List Step) : ∀ a ∈ opts.map Arg.ofStep, a.wf = true := by
  intro a ha; obtain ⟨s, _, rfl⟩ := List.mem_map.mp ha; exact ofStep_wf s

/-- `NewNode` called with the option values of a model option word builds the model's `newNode` of that word, so that the
    theorems of `Props/C19.lean` about option words (`build`) speak about the Go constructor -/
theorem NewNode_refines_newNode {fuel : Nat} (n0 : Node) (opts : List Step) (hf : opts.length + 18 ≤ fuel) :
    run fuel NewNode n0 (opts.map Arg.ofStep) = some ([builderH], newNode opts) := by
  rw [NewNode_refines_of_le n0 _ (by simpa using hf), nodeOf_eq_newNode _ (map_ofStep_wf opts), filterMap_ofStep]
/-- … and with any well-typed argument list (raw `func(*BaseNode)` values, junk) -/
theorem NewNode_refines_newNode_of_wf {fuel : Nat} (n0 : Node) (args : List Arg) (hwf : ∀ a ∈ args, a.wf = true)
    (hf : args.length + 18 ≤ fuel) :
    run fuel NewNode n0 args = some ([builderH], newNode (args.filterMap Arg.step?)) := by
  rw [NewNode_refines_of_le n0 _ hf, nodeOf_eq_newNode _ hwf]
theorem NewBatchNode_refines_newBatchNode {fuel : Nat} (n0 : Node) (opts : List Step) (hf : opts.length + 17 ≤ fuel) :
    run fuel NewBatchNode n0 (opts.map Arg.ofStep) = some ([batchBuilderH], newBatchNode opts) := by
  rw [NewBatchNode_refines_of_le n0 _ (by simpa using hf), batchOf_eq_newBatchNode _ (map_ofStep_wf opts), filterMap_ofStep]
theorem NewBatchNode_refines_newBatchNode_of_wf {fuel : Nat} (n0 : Node) (args : List Arg) (hwf : ∀ a ∈ args, a.wf = true)
    (hf : args.length + 17 ≤ fuel) :
    run fuel NewBatchNode n0 args = some ([batchBuilderH], newBatchNode (args.filterMap Arg.step?)) := by
  rw [NewBatchNode_refines_of_le n0 _ hf, batchOf_eq_newBatchNode _ hwf]

/-- `NewBaseNode` is what `NewNode` / `NewBatchNode` do to the `BaseNode` part: for a word of node options,
    `NewBaseNode(opts...)` holds `(newBatchNode opts).base` -/
theorem baseOf_eq_newBatchNode_base (opts : List Step) (hn : ∀ s ∈ opts, s.setting.isNodeOption = true) :
    baseOf (opts.map Arg.ofStep) = (newBatchNode opts).base := by
  have hfil : opts.filter (fun o => o.setting.isNodeOption) = opts := List.filter_eq_self.mpr hn
  have hb : (opts.map Arg.ofStep).filterMap Arg.baseStep? = opts := by
    rw [base_eq_filter _ (map_ofStep_wf opts), filterMap_ofStep, hfil]
  unfold baseOf newBatchNode; rw [hb, hfil, foldl_base_node]; rfl

theorem baseStep_filter (args : List Arg) : (args.filter Arg.isBase).filterMap Arg.baseStep? = args.filterMap Arg.baseStep? := by
  rw [List.filterMap_filter]; congr; funext a; cases a <;> rfl
theorem customStep_filter (args : List Arg) :
    (args.filter Arg.isCustom).filterMap Arg.customStep? = args.filterMap Arg.customStep? := by
  rw [List.filterMap_filter]; congr; funext a; cases a <;> rfl

theorem nodeOf_congr {args₁ args₂ : List Arg} (hb : args₁.filterMap Arg.baseStep? = args₂.filterMap Arg.baseStep?)
    (hc : args₁.filterMap Arg.customStep? = args₂.filterMap Arg.customStep?) : nodeOf args₁ = nodeOf args₂ := by
  unfold nodeOf; rw [hb, hc]

/-- C19: two argument lists with the same subsequence of base options (`NodeOption` / `func(*BaseNode)` values) and the same
    subsequence of custom options make `NewNode` return the same builder around the same node — however the two kinds are
    interleaved, whatever else (junk) the lists contain, whatever the memory held before. -/
theorem NewNode_order_independent_of_interleaving {fuel₁ fuel₂ : Nat} (n₁ n₂ : Node) (args₁ args₂ : List Arg)
    (hb : args₁.filter Arg.isBase = args₂.filter Arg.isBase) (hc : args₁.filter Arg.isCustom = args₂.filter Arg.isCustom)
    (hf₁ : args₁.length + 18 ≤ fuel₁) (hf₂ : args₂.length + 18 ≤ fuel₂) :
    run fuel₁ NewNode n₁ args₁ = run fuel₂ NewNode n₂ args₂ := by
  have h : nodeOf args₁ = nodeOf args₂ :=
    nodeOf_congr (by rw [← baseStep_filter args₁, hb, baseStep_filter]) (by rw [← customStep_filter args₁, hc, customStep_filter])
  rw [NewNode_refines_of_le n₁ args₁ hf₁, NewNode_refines_of_le n₂ args₂ hf₂, h]

/-- in particular: `NewNode(args...)` = `NewNode(base options of args..., custom options of args...)` -/
theorem NewNode_eq_sorted {fuel fuel' : Nat} (n0 n0' : Node) (args : List Arg) (hf : args.length + 18 ≤ fuel)
    (hf' : (args.filter Arg.isBase ++ args.filter Arg.isCustom).length + 18 ≤ fuel') :
    run fuel NewNode n0 args = run fuel' NewNode n0' (args.filter Arg.isBase ++ args.filter Arg.isCustom) := by
  have hbc : (args.filter Arg.isCustom).filter Arg.isBase = [] := by
    rw [List.filter_filter]; exact List.filter_eq_nil_iff.mpr fun a _ => by cases a <;> simp [Arg.isBase, Arg.isCustom]
  have hcb : (args.filter Arg.isBase).filter Arg.isCustom = [] := by
    rw [List.filter_filter]; exact List.filter_eq_nil_iff.mpr fun a _ => by cases a <;> simp [Arg.isBase, Arg.isCustom]
  exact NewNode_order_independent_of_interleaving n0 n0' _ _
    (by rw [List.filter_append, hbc, List.filter_filter]; simp)
    (by rw [List.filter_append, hcb, List.filter_filter]; simp) hf hf'

/-- the model-level form: two option words with the same node-option subword and the same custom-option subword -/
theorem NewNode_order_independent_words {fuel₁ fuel₂ : Nat} (n₁ n₂ : Node) (opts₁ opts₂ : List Step)
    (hb : opts₁.filter (fun o => o.setting.isNodeOption) = opts₂.filter (fun o => o.setting.isNodeOption))
    (hc : opts₁.filter (fun o => !o.setting.isNodeOption) = opts₂.filter (fun o => !o.setting.isNodeOption))
    (hf₁ : opts₁.length + 18 ≤ fuel₁) (hf₂ : opts₂.length + 18 ≤ fuel₂) :
    run fuel₁ NewNode n₁ (opts₁.map Arg.ofStep) = run fuel₂ NewNode n₂ (opts₂.map Arg.ofStep) := by
  rw [NewNode_refines_newNode n₁ opts₁ hf₁, NewNode_refines_newNode n₂ opts₂ hf₂]
  unfold newNode; rw [hb, hc]

end Flyt.Refine.Ctors
