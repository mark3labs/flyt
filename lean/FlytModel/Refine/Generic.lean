import FlytModel.GoIR.GenericWorld
import FlytModel.Refine.Accessors
/-!
# Refinement: the generic accessors `As[T]` / `MustAs[T]` (result.go:378-399)

Their translated source (`Flyt.Expected.IR.As`, `Flyt.Expected.IR.MustAs`), interpreted in `genericWorld t v` (`GoIR/GenericWorld.lean`:
the type parameter `T` is `t`, the Result holds `v`), computes `asT t v` / `mustT t v` of `Model/Value.lean`, for every `t : GoType`,
every `v : GoVal` (the nil interface included, no well-formedness hypothesis) and every depth `fuel ≥ 40`.
`As_source` says what `As` does with the world's primitives: the nil check first, otherwise whatever `x.(T)` (`assertT`) says;
`MustAs_source`, what `MustAs` does with the world call `As[T]` (`asCall`): its value if `ok`, stuck otherwise. `asCall_eq` is the only place where the world's assertion and the model's `asT` meet; it needs `typeOf_zeroOf`, so
that a failed assertion cannot hand back the held value. Statements come raw (interpreter values) and decoded (`…_dec`).
`MustAs`, failing branch `panic(fmt.Sprintf(…, *new(T)))`: `panic` is stuck in this world as in `valueWorld`, and the interpreter is
stuck already on the dereference `*new(T)` (`expr_deref`); the run is `none` at every depth, which is what `Ret.panic` is mapped to.
-/
namespace Flyt.Refine.Generic
open Flyt Flyt.GoIR Flyt.Value Flyt.GoIR.ValueW Flyt.GoIR.GenericW Flyt.Expected.IR Flyt.Refine Flyt.Refine.Acc

/-- the recursion depth of the executable test -/
def F : Nat := 60

section steps
variable {Ω : Type} (W : World Ω)
/-- the interpreter has no pointer dereference -/
theorem expr_deref (f : Nat) (a : Expr) (st : St Ω) : evalExpr W (f + 1) (.un "*" a) st = none := rfl
end steps

section world
variable (t : GoType) (v : GoVal)
local notation "W" => genericWorld t v
theorem G_field (n : Nat) (w : Unit) : (W).field (.ref "r" n) "value" w = some (encV v) := rfl
theorem G_zero : (W).global "zero:T" = some (encZ t) := rfl
theorem G_T : (W).global "T" = some typeH := rfl
theorem G_assert_go (n : Nat) (w : Unit) : (W).assert (.ref "go" n) "T" w = some (assertT t v) := rfl
theorem G_assert_nil (w : Unit) : (W).assert .nil "T" w = some (assertT t .nil) := rfl
theorem G_As (n : Nat) (h : Heap) (w : Unit) : (W).call "As[T]" [.ref "r" n] h w = some (asCall t v, h, w) := rfl
theorem G_new (n : Nat) (h : Heap) (w : Unit) : (W).call "new" [.ref "type:T" n] h w = some ([newH], h, w) := rfl
theorem G_sprintf (l : List GV) (h : Heap) (w : Unit) : (W).call "fmt.Sprintf" l h w = some ([.str ""], h, w) := rfl
theorem G_panic (l : List GV) (h : Heap) (w : Unit) : (W).call "panic" l h w = none := rfl
end world

macro "gensimp" " [" ts:Lean.Parser.Tactic.simpLemma,* "]" : tactic =>
  `(tactic| gosimp [expr_sel, expr_not, expr_deref, stmt_expr_call, runGeneric, callFunc, G_field, G_zero, G_T, G_assert_go,
      G_assert_nil, G_As, G_new, G_sprintf, G_panic, rH, goH, $ts,*])

theorem typeOf_zeroAs (outer : GoType) (u : GoType) :
    zeroAs outer u = .nil ∨ (zeroAs outer u).typeOf? = some outer := by
  induction u with
  | basic b => cases b <;> simp [zeroAs, GoVal.typeOf?]
  | named n u ih => simpa [zeroAs] using ih
  | _ => simp [zeroAs, GoVal.typeOf?]

theorem typeOf_zeroOf (t : GoType) : Value.zeroOf t = .nil ∨ (Value.zeroOf t).typeOf? = some t :=
  typeOf_zeroAs t t

/-- what the source of `As[T]` computes from the world's primitives: the nil check, then the assertion -/
def asSource (t : GoType) (v : GoVal) : List GV :=
  match v with
  | .nil => [encZ t, .bool false]
  | v => [(assertT t v).1, .bool (assertT t v).2]

theorem encG_self (t : GoType) (v : GoVal) : encG t v v = encV v := by simp [encG]

theorem encG_zero (t : GoType) (v : GoVal) (h : Value.zeroOf t = v → v = .nil) : encG t v (Value.zeroOf t) = encZ t := by
  unfold encG
  by_cases hz : Value.zeroOf t = v
  · have hv := h hz
    subst hv
    simp [hz, encZ, encV]
  · simp [hz]

theorem asCall_nil (t : GoType) : asCall t .nil = [encZ t, .bool false] := by
  simp [asCall, asT, GoVal.typeOf?, encG_zero]

theorem asCall_typed (t : GoType) (v : GoVal) (u : GoType) (hu : v.typeOf? = some u) :
    asCall t v = [(assertT t v).1, .bool (assertT t v).2] := by
  have hv : v ≠ .nil := by intro h; subst h; simp [GoVal.typeOf?] at hu
  by_cases h : t = .any ∨ u = t
  · have hc : (t = .any ∧ v ≠ .nil) ∨ v.typeOf? = some t := by
      rcases h with h | h
      · exact .inl ⟨h, hv⟩
      · exact .inr (by rw [hu, h])
    have e1 : assertT t v = (encV v, true) := by unfold assertT; exact if_pos hc
    have e2 : asT t v = (v, true) := by unfold asT; rw [hu]; exact if_pos h
    simp [asCall, e1, e2, encG_self]
  · have hc : ¬ ((t = .any ∧ v ≠ .nil) ∨ v.typeOf? = some t) := by
      rintro (⟨h1, _⟩ | h2)
      · exact h (.inl h1)
      · rw [hu] at h2; exact h (.inr (Option.some.inj h2))
    have hz : Value.zeroOf t = v → v = .nil := by
      intro e
      rcases typeOf_zeroOf t with h0 | h0
      · rw [← e]; exact h0
      · rw [e, hu] at h0; exact absurd (.inr (Option.some.inj h0)) h
    have e1 : assertT t v = (encZ t, false) := by unfold assertT; exact if_neg hc
    have e2 : asT t v = (Value.zeroOf t, false) := by unfold asT; rw [hu]; exact if_neg h
    simp [asCall, e1, e2, encG_zero t v hz]

theorem asSource_ne (t : GoType) {v : GoVal} (hn : v ≠ .nil) : asSource t v = [(assertT t v).1, .bool (assertT t v).2] := by
  cases v <;> first | rfl | exact absurd rfl hn

theorem asCall_eq (t : GoType) (v : GoVal) : asCall t v = asSource t v := by
  by_cases hn : v = .nil
  · subst hn
    exact asCall_nil t
  · obtain ⟨u, hu⟩ : ∃ u, v.typeOf? = some u := by
      cases v <;> first | exact absurd rfl hn | exact ⟨_, rfl⟩
    rw [asSource_ne t hn]
    exact asCall_typed t v u hu

/-- the two values a run can hand back (the held one, the zero value) are read back as themselves -/
theorem decG_encG (t : GoType) (v x : GoVal) (h : x = v ∨ x = Value.zeroOf t) : decG t v (encG t v x) = some x := by
  unfold encG
  by_cases hx : x = v
  · subst hx; cases x <;> simp [encV, goH, decG]
  · have hz : x = Value.zeroOf t := h.resolve_left hx
    simp only [if_neg hx, if_pos hz, encZ]
    rw [← hz]
    cases x <;> simp [zeroH, decG, hz]

theorem asT_fst (t : GoType) (v : GoVal) : (asT t v).1 = v ∨ (asT t v).1 = Value.zeroOf t := by
  unfold asT
  split
  · exact .inr rfl
  · split
    · exact .inl rfl
    · exact .inr rfl

theorem decAs_asCall (t : GoType) (v : GoVal) : decAs t v (asCall t v) = some (asT t v) := by
  simp [asCall, decAs, decG_encG t v _ (asT_fst t v)]

theorem As_source (f : Nat) (t : GoType) (v : GoVal) : runGeneric (f + 40) As t v = some (asSource t v) := by
  by_cases hn : v = .nil
  · subst hn
    gensimp [As, asSource, encV]
  · rw [asSource_ne t hn]
    gensimp [As, encV_ne hn]

theorem As_refines_of_le (t : GoType) (v : GoVal) (fuel : Nat) (h : 40 ≤ fuel) :
    runGeneric fuel As t v = some [encG t v (asT t v).1, .bool (asT t v).2] := by
  obtain ⟨k, rfl⟩ := Nat.exists_eq_add_of_le' h
  exact (As_source k t v).trans (congrArg some (asCall_eq t v).symm)

theorem As_refines (t : GoType) (v : GoVal) :
    runGeneric F As t v = some [encG t v (asT t v).1, .bool (asT t v).2] :=
  As_refines_of_le t v F (by decide)

/-- decoded: the run of `As[T]` IS `asT t v` -/
theorem As_dec_of_le (t : GoType) (v : GoVal) (fuel : Nat) (h : 40 ≤ fuel) : runAs fuel As t v = some (asT t v) := by
  have := As_refines_of_le t v fuel h
  unfold runAs
  rw [this]
  exact decAs_asCall t v

theorem As_dec (t : GoType) (v : GoVal) : runAs F As t v = some (asT t v) := As_dec_of_le t v F (by decide)

theorem MustAs_source (f : Nat) (t : GoType) (v : GoVal) :
    runGeneric (f + 40) MustAs t v = (if (asT t v).2 then some [encG t v (asT t v).1] else none) := by
  cases h : asT t v with
  | mk x ok => cases ok <;> gensimp [MustAs, asCall, h]

theorem MustAs_refines_of_le (t : GoType) (v : GoVal) (fuel : Nat) (h : 40 ≤ fuel) :
    runGeneric fuel MustAs t v = (match mustT t v with | .panic => none | .ok x => some [encG t v x]) := by
  obtain ⟨k, rfl⟩ := Nat.exists_eq_add_of_le' h
  rw [MustAs_source]
  cases h : asT t v with
  | mk x ok => cases ok <;> simp [mustT, h]

theorem MustAs_refines (t : GoType) (v : GoVal) :
    runGeneric F MustAs t v = (match mustT t v with | .panic => none | .ok x => some [encG t v x]) :=
  MustAs_refines_of_le t v F (by decide)

/-- decoded: the run of `MustAs[T]` IS `mustT t v` (the panic: stuck) -/
theorem MustAs_dec_of_le (t : GoType) (v : GoVal) (fuel : Nat) (h : 40 ≤ fuel) :
    runMustAs fuel MustAs t v = (match mustT t v with | .panic => none | .ok x => some x) := by
  have := MustAs_refines_of_le t v fuel h
  unfold runMustAs
  rw [this]
  have hm : mustT t v = if (asT t v).2 then .ok (asT t v).1 else .panic := by
    unfold mustT; cases h2 : (asT t v).2 <;> simp [h2]
  rw [hm]
  cases h2 : (asT t v).2 <;> simp [decMust, decG_encG t v _ (asT_fst t v)]

theorem MustAs_dec (t : GoType) (v : GoVal) :
    runMustAs F MustAs t v = (match mustT t v with | .panic => none | .ok x => some x) :=
  MustAs_dec_of_le t v F (by decide)

/-! ## non-vacuity: `As` on a value of type `T`, on a mismatch (zero array), at `any` on nil and non-nil; `MustAs[string]` on a string
and on a value of a named string type (panics: stuck) -/

example :
    runAs 40 As (.named "MyRec" (.structField (.basic .int) (.structField tString .structEnd)))
        (.struct (.named "MyRec" (.structField (.basic .int) (.structField tString .structEnd)))
          (.cons (.int (.basic .int) 7) (.cons (.str tString "seven") .nil)))
      = some (.struct (.named "MyRec" (.structField (.basic .int) (.structField tString .structEnd)))
          (.cons (.int (.basic .int) 7) (.cons (.str tString "seven") .nil)), true) :=
  As_dec_of_le _ _ 40 (by decide)

example :
    runAs 40 As (.array 2 (.basic .int)) (.int (.basic .int) 5)
      = some (.array (.array 2 (.basic .int)) (.cons (.int (.basic .int) 0) (.cons (.int (.basic .int) 0) .nil)), false) := by
  rw [As_dec_of_le _ _ 40 (by decide)]; decide

example : runAs 40 As .any .nil = some (.nil, false) := by
  rw [As_dec_of_le _ _ 40 (by decide)]; decide
example : runAs 40 As .any (.str tString "x") = some (.str tString "x", true) :=
  As_dec_of_le _ _ 40 (by decide)

example : runMustAs 40 MustAs tString (.str tString "hi") = some (.str tString "hi") :=
  MustAs_dec_of_le _ _ 40 (by decide)
example : runMustAs 40 MustAs tString (.str (.named "S" tString) "hi") = none := by
  rw [MustAs_dec_of_le _ _ 40 (by decide)]; decide

end Flyt.Refine.Generic

#print axioms Flyt.Refine.Generic.As_refines_of_le
#print axioms Flyt.Refine.Generic.MustAs_refines_of_le
#print axioms Flyt.Refine.Generic.As_dec_of_le
#print axioms Flyt.Refine.Generic.MustAs_dec_of_le
