import FlytModel.GoIR.SliceWorld
import FlytModel.Refine.Accessors
import FlytModel.Proofs.Value
/-!
# Refinement: the SLICE accessors — `Result.AsSlice / AsSliceOr / MustSlice` (result.go:211-246), `SharedStore.GetSlice / GetSliceOr`
(flyt.go:311-340), `ToSlice` (flyt.go:1030-1074) — compute the slice accessors of `Model/Value.lean` (property C15)

The translated source (`Flyt.Expected.IR`) is run in `sliceWorld` (`GoIR/SliceWorld.lean`), for every `v : GoVal` with `v.shapeOK`
(every `v.wf` has it), every default, every conversion parameter. Two layers. `…_call_refines_of_le` (any heap; any `Store1` for `ToSlice` / `AsSlice`, the store `⟨held⟩` for `GetSliceOr`): the
interpreted callee returns the values AND leaves the heap of `[]any` objects of the world's composite call (`toSliceCall`,
`asSliceCall`, `getSliceOrCall`); this justifies `ToSlice(x)` / `r.AsSlice()` / `s.GetSliceOr(k, d)` as world calls in the callers.
`…_refines_of_le`: the results read back (`decS`) are the model's (a model `panic` is a stuck run, `none`).

Depth: `ToSlice` needs `(number of elements) + 25` (the copy loops, by induction over the elements); the decision logic of `AsSlice` /
`GetSliceOr` (nil ↦ (nil, false) / default; `[]any` ↦ itself; kind ≠ `reflect.Slice` ↦ (nil, false) / default; otherwise `ToSlice`)
needs 12, whatever the value.

`shapeOK` is needed by `ToSlice`, `AsSlice`, `GetSliceOr` (not by `AsSliceOr`, `MustSlice`, `GetSlice`, which only call); at an
excluded point model and interpreted source differ (`excluded_point`).
-/
namespace Flyt.Refine.Slices
open Flyt Flyt.GoIR Flyt.Value Flyt.GoIR.ValueW Flyt.GoIR.SliceW Flyt.Expected.IR Flyt.Refine Flyt.Refine.Acc
set_option linter.unusedSimpArgs false

theorem dynKind_eq {v : GoVal} (hs : v.shapeOK = true) : dynKind v = v.kind := by
  unfold GoVal.shapeOK at hs
  unfold dynKind
  cases h : v.typeOf? with
  | none => cases v <;> simp [GoVal.typeOf?] at h; rfl
  | some t => simpa [h] using hs

theorem slice_of_typeOf {v : GoVal} (hs : v.shapeOK = true) {t : GoType} (h : v.typeOf? = some t) (ht : t.kind = .slice) :
    ∃ isNil elems, v = .slice t isNil elems := by
  have hk : Kind.slice = v.kind := by simpa [GoVal.shapeOK, h, ht] using hs
  cases v <;> first | cases hk | skip
  cases h
  exact ⟨_, _, rfl⟩

theorem assertS_eq {v : GoVal} (hs : v.shapeOK = true) {t : GoType} (ht : t.kind = .slice) (hd : GV) :
    assertS v t hd = some (if v.typeOf? = some t then (hd, true) else (.nil, false)) := by
  unfold assertS
  by_cases he : v.typeOf? = some t
  · obtain ⟨_, _, rfl⟩ := slice_of_typeOf hs he ht
    rw [if_pos he, if_pos he]
  · rw [if_neg he, if_neg he]

theorem assertAnys_eq_ite {v : GoVal} (hs : v.shapeOK = true) :
    assertAnys v = if v.typeOf? = some tAnys then some (toSlice v) else none := by
  by_cases ht : v.typeOf? = some tAnys
  · obtain ⟨_, _, rfl⟩ := slice_of_typeOf hs ht rfl
    simp [assertAnys, toSlice, GoVal.typeOf?]
  · rw [if_neg ht]
    cases v <;> first | rfl | skip
    exact if_neg fun h => ht (congrArg some h)

theorem toSliceCall_eq {v : GoVal} (hs : v.shapeOK = true) (hn : v ≠ .nil) (hp : AHeap) :
    toSliceCall v hp = if v.typeOf? = some tAnys then (selfH, hp)
      else (anysH hp.length, hp ++ [if dynKind v = .slice then elemsOf v else [v]]) := by
  rw [toSliceCall, assertAnys_eq_ite hs, dynKind_eq hs]
  by_cases ht : v.typeOf? = some tAnys
  · simp only [if_pos ht]
  · simp only [if_neg ht, alloc]
    cases v <;> first | rfl | exact absurd rfl hn | skip
    have h0 : ¬ _ = tAnys := fun h => ht (congrArg some h)
    simp [toSlice_slice, h0, GoVal.kind, elemsOf]

theorem kindCode_eq_23 (k : Kind) : (kindCode k == 23) = (k == .slice) := by cases k <;> rfl

theorem encV_of_ne {v : GoVal} (h : v ≠ .nil) : encV v = goH := by
  cases v <;> first | rfl | exact absurd rfl h

section steps
variable {Ω : Type} (W : World Ω)
theorem expr_make_anys (f : Nat) (rest : Exprs) (st : St Ω) :
    evalExpr W (f + 1) (.call "make" (.cons (.var "[]any") rest)) st =
      match evalArgs W f rest st with
      | some (vs, st1) =>
        (match W.call "make:[]any" vs st1.heap st1.w with
         | some (rs, h, w) => some (rs, { st1 with heap := h, w := w })
         | none => none)
      | none => none := rfl
theorem expr_lit_anys0 (f : Nat) (st : St Ω) :
    evalExpr W (f + 2) (.lit "[]any" .nil) st =
      (match W.call "lit:[]any:" [] st.heap st.w with
       | some (rs, h, w) => some (rs, { st with heap := h, w := w })
       | none => none) := rfl
theorem expr_lit_anys1 (f : Nat) (x : String) (st : St Ω) :
    evalExpr W (f + 2) (.lit "[]any" (.cons (.var x) .nil)) st =
      (match evalExpr W f (.var x) st with
       | some (vs, st1) =>
         (match W.call "lit:[]any:," vs st1.heap st1.w with
          | some (rs, h, w) => some (rs, { st1 with heap := h, w := w })
          | none => none)
       | none => none) := rfl
theorem stmt_range (f : Nat) (k v : String) (x : Expr) (body : Block) (st : St Ω) :
    execStmt W (f + 1) (.rangeS k v x body) st =
      match evalExpr W f x st with
      | some ([.slice ad off n], st1) => loopRange W f k v ad off n 0 body st1
      | some ([.anys l], st1) => loopAnys W f k v l 0 body st1
      | some ([.nil], st1) => some (.next, st1)
      | some ([m], st1) =>
        (match W.rangeOf m st1.w with
         | some kvs => loopPairs W f k v kvs body st1
         | none => none)
      | _ => none := rfl
theorem loopPairs_nil (f : Nat) (k v : String) (body : Block) (st : St Ω) :
    loopPairs W (f + 1) k v [] body st = some (.next, st) := rfl
theorem loopPairs_cons (f : Nat) (k v : String) (kx vx : GV) (rest : List (GV × GV)) (body : Block) (st : St Ω) :
    loopPairs W (f + 1) k v ((kx, vx) :: rest) body st =
      (match execBlock W f body { st with env := (st.env.push k kx).push v vx } with
       | some (.brk, st2) => some (.next, popSt st2 st.env.length)
       | some (.ret vs, st2) => some (.ret vs, popSt st2 st.env.length)
       | some (_, st2) => loopPairs W f k v rest body (popSt st2 st.env.length)
       | none => none) := rfl
end steps

-- the pieces of `ToSlice`'s body (`ToSlice_body`), named so that each is run on its own

def fillBody : Block := B[(.assign E[(.index (.var "result") (.var "i"))] E[(.var "v")])]
def typedBody : Block := B[
  (.define ["result"] E[(.call "make" E[(.var "[]any"), (.call "len" E[(.var "val")])])]),
  (.rangeS "i" "v" (.var "val") fillBody),
  (.ret E[(.var "result")])]
def reflCond : Expr := .bin "<" (.var "i") (.mcall (.var "rv") "Len" E[])
def reflPost : Block := B[(.incr "i")]
def reflFill : Block :=
  B[(.assign E[(.index (.var "result") (.var "i"))] E[(.mcall (.mcall (.var "rv") "Index" E[(.var "i")]) "Interface" E[])])]
def reflThen : Block := B[
  (.define ["result"] E[(.call "make" E[(.var "[]any"), (.mcall (.var "rv") "Len" E[])])]),
  (.forS B[(.define ["i"] E[(.int 0)])] reflCond reflPost reflFill),
  (.ret E[(.var "result")])]
def defaultBody : Block := B[
  (.define ["rv"] E[(.call "reflect.ValueOf" E[(.var "v")])]),
  (.ifS B[] (.bin "==" (.mcall (.var "rv") "Kind" E[]) (.sel (.var "reflect") "Slice")) reflThen B[]),
  (.ret E[(.lit "[]any" E[(.var "v")])])]
def nilCheck : Stmt := .ifS B[] (.bin "==" (.var "v") (.var "nil")) B[(.ret E[(.lit "[]any" E[])])] B[]
def typeCases : Cases :=
  .cons (.lit "types" E[(.var "[]any")]) B[(.ret E[(.var "val")])] (
  .cons (.lit "types" E[(.var "[]string")]) typedBody (
  .cons (.lit "types" E[(.var "[]int")]) typedBody (
  .cons (.lit "types" E[(.var "[]float64")]) typedBody (
  .cons (.lit "types" E[(.var "[]map[string]any")]) typedBody (
  .cons (.var "default") defaultBody .nil)))))

theorem ToSlice_body : ToSlice.body = .cons nilCheck (.cons (.typeSwitch "val" (.var "v") typeCases) .nil) := rfl

theorem fill_set (L : List GoVal) (k m : Nat) (e : GoVal) (he : L[k]? = some e) :
    (L.take k ++ List.replicate (m + 1) GoVal.nil).set k e = L.take (k + 1) ++ List.replicate m GoVal.nil := by
  have hk : k < L.length := by
    rcases List.getElem?_eq_some_iff.1 he with ⟨hlt, _⟩; exact hlt
  have hl : (L.take k).length = k := by simp; omega
  rw [List.set_append_right _ _ (by omega), hl, Nat.sub_self, List.take_add_one, he]
  simp [List.replicate_succ]

theorem heap_get (hp : AHeap) (cell : List GoVal) : (hp ++ [cell])[hp.length]? = some cell := by simp
theorem heap_set (hp : AHeap) (cell cell' : List GoVal) : (hp ++ [cell]).set hp.length cell' = hp ++ [cell'] := by simp

theorem asSliceCall_ne {v : GoVal} (h : v ≠ .nil) (hp : AHeap) :
    asSliceCall v hp =
      match assertAnys v with
      | some _ => ([selfH, .bool true], hp)
      | none =>
        if v.kind != .slice then ([.nil, .bool false], hp)
        else ([(toSliceCall v hp).1, .bool true], (toSliceCall v hp).2) := by
  cases v <;> first | rfl | exact absurd rfl h

theorem getSliceOrCall_ne {v : GoVal} (h : v ≠ .nil) (d : GV) (hp : AHeap) :
    getSliceOrCall (some v) d hp =
      match assertAnys v with
      | some _ => (selfH, hp)
      | none => if v.kind != .slice then (d, hp) else toSliceCall v hp := by
  cases v <;> first | rfl | exact absurd rfl h

section world
variable (c : Conv) (v : GoVal) (st : Store1)
local notation "W" => sliceWorld c v st

theorem SW_field (n : Nat) (hp : AHeap) : (W).field (.ref "r" n) "value" hp = some (encV v) := rfl
theorem SW_reflect : (W).global "reflect" = some reflectH := rfl
theorem SW_Slice (n : Nat) (hp : AHeap) : (W).field (.ref "pkg:reflect" n) "Slice" hp = some (.int 23) := rfl
theorem SW_valueOf (n : Nat) (h : Heap) (hp : AHeap) : (W).call "reflect.ValueOf" [.ref "go" n] h hp = some ([rvH], h, hp) := rfl
theorem SW_Kind (n : Nat) (h : Heap) (hp : AHeap) :
    (W).mcall (.ref "rv" n) "Kind" [] h hp = some ([.int (kindCode (dynKind v))], h, hp) := rfl
theorem SW_ToSlice (n : Nat) (h : Heap) (hp : AHeap) :
    (W).call "ToSlice" [.ref "go" n] h hp = some ([(toSliceCall v hp).1], h, (toSliceCall v hp).2) := rfl
theorem SW_AsSlice (n : Nat) (h : Heap) (hp : AHeap) :
    (W).mcall (.ref "r" n) "AsSlice" [] h hp = some ((asSliceCall v hp).1, h, (asSliceCall v hp).2) := rfl
theorem SW_GetSliceOr (n : Nat) (k d : GV) (h : Heap) (hp : AHeap) :
    (W).mcall (.ref "s" n) "GetSliceOr" [k, d] h hp =
      some ([(getSliceOrCall st.held d hp).1], h, (getSliceOrCall st.held d hp).2) := rfl
theorem SW_Get (n : Nat) (k : GV) (h : Heap) (hp : AHeap) :
    (W).mcall (.ref "s" n) "Get" [k] h hp =
      (match st.held with
       | some x => some ([encV x, .bool true], h, hp)
       | none => some ([.nil, .bool false], h, hp)) := by
  have h0 : (W).mcall (.ref "s" n) "Get" [k] h hp
      = ((valueWorld c v st).mcall (.ref "s" n) "Get" [k] h ()).map fun r => (r.1, r.2.1, hp) := rfl
  rw [h0, W_Get]
  cases st.held <;> rfl
theorem SW_sprintf (a b : GV) (h : Heap) (hp : AHeap) : (W).call "fmt.Sprintf" [a, b] h hp = some ([.str ""], h, hp) := rfl
theorem SW_panic (a : GV) (h : Heap) (hp : AHeap) : (W).call "panic" [a] h hp = none := rfl

theorem SW_valueOf_nil (h : Heap) (hp : AHeap) : (W).call "reflect.ValueOf" [.nil] h hp = some ([rv0H], h, hp) := rfl
theorem SW_make (n : Nat) (h : Heap) (hp : AHeap) :
    (W).call "make:[]any" [.int n] h hp = some ([anysH hp.length], h, hp ++ [List.replicate n .nil]) := by
  have h0 : (W).call "make:[]any" [.int n] h hp =
      if 0 ≤ (n : Int) then some ([anysH hp.length], h, hp ++ [List.replicate (n : Int).toNat .nil]) else none := rfl
  rw [h0]; simp
theorem SW_len (n : Nat) (h : Heap) (hp : AHeap) : (W).call "len" [.ref "sl" n] h hp = some ([.int (elemsOf v).length], h, hp) := rfl
theorem SW_lit0 (h : Heap) (hp : AHeap) : (W).call "lit:[]any:" [] h hp = some ([anysH hp.length], h, hp ++ [[]]) := rfl
theorem SW_lit1 (n : Nat) (h : Heap) (hp : AHeap) :
    (W).call "lit:[]any:," [.ref "go" n] h hp = some ([anysH hp.length], h, hp ++ [[v]]) := rfl
theorem SW_rangeOf (n : Nat) (hp : AHeap) : (W).rangeOf (.ref "sl" n) hp = some (pairsFrom 0 (elemsOf v).length) := rfl
theorem SW_setIndex (a k : Nat) (x : GV) (hp : AHeap) :
    (W).setIndex (.ref "anys" a) (.int k) x hp =
      (match hp[a]?, decE v x with
       | some cell, some e => if k < cell.length then some (hp.set a (cell.set k e)) else none
       | _, _ => none) := by
  have h0 : (W).setIndex (.ref "anys" a) (.int k) x hp =
      (match hp[a]?, decE v x with
       | some cell, some e => if 0 ≤ (k : Int) ∧ (k : Int).toNat < cell.length then some (hp.set a (cell.set (k : Int).toNat e)) else none
       | _, _ => none) := rfl
  rw [h0]; simp
theorem decE_elem (k : Nat) : decE v (.ref "elem" k) = (elemsOf v)[k]? := rfl
theorem SW_Len (n : Nat) (h : Heap) (hp : AHeap) (hk : dynKind v = .slice) :
    (W).mcall (.ref "rv" n) "Len" [] h hp = some ([.int (elemsOf v).length], h, hp) := by
  have h0 : (W).mcall (.ref "rv" n) "Len" [] h hp =
      if dynKind v = .slice then some ([.int (elemsOf v).length], h, hp) else none := rfl
  rw [h0, if_pos hk]
theorem SW_Index (n k : Nat) (h : Heap) (hp : AHeap) (hk : dynKind v = .slice) (hlt : k < (elemsOf v).length) :
    (W).mcall (.ref "rv" n) "Index" [.int k] h hp = some ([.ref "rvelem" k], h, hp) := by
  have h0 : (W).mcall (.ref "rv" n) "Index" [.int k] h hp =
      if dynKind v = .slice ∧ 0 ≤ (k : Int) ∧ (k : Int).toNat < (elemsOf v).length then some ([.ref "rvelem" (k : Int).toNat], h, hp)
      else none := rfl
  rw [h0]; simp [hk, hlt]
theorem SW_Interface (k : Nat) (h : Heap) (hp : AHeap) :
    (W).mcall (.ref "rvelem" k) "Interface" [] h hp = some ([elemH k], h, hp) := rfl
theorem SW_assert_sl (n : Nat) (ty : String) (t : GoType) (hp : AHeap) (ht : sliceTy ty = some t) :
    (W).assert (.ref "go" n) ty hp = assertS v t (if ty == "[]any" then selfH else slH) := by
  show (match sliceTy ty with | some t => _ | none => _) = _
  rw [ht]; rfl

theorem SW_assert_anys (n : Nat) (hp : AHeap) : (W).assert (.ref "go" n) "[]any" hp = assertS v tAnys selfH := rfl
theorem SW_assert_strings (n : Nat) (hp : AHeap) : (W).assert (.ref "go" n) "[]string" hp = assertS v tStrings slH := rfl
theorem SW_assert_ints (n : Nat) (hp : AHeap) : (W).assert (.ref "go" n) "[]int" hp = assertS v tInts slH := rfl
theorem SW_assert_floats (n : Nat) (hp : AHeap) : (W).assert (.ref "go" n) "[]float64" hp = assertS v tFloat64s slH := rfl
theorem SW_assert_maps (n : Nat) (hp : AHeap) : (W).assert (.ref "go" n) "[]map[string]any" hp = assertS v tMapSAs slH := rfl

/- Every run below is `gosimp` (`Refine/Run.lean`) over the program text with these added: the remaining interpreter steps, the
   world's unconditional answers and the handles unfolded. Answers that depend on the value are passed at the call. -/
attribute [local simp] expr_sel expr_not stmt_typeSwitch switch_case switch_default stmt_expr_call callFunc
  expr_make_anys expr_lit_anys0 expr_lit_anys1 stmt_range loopPairs_nil loopPairs_cons
  SW_field SW_reflect SW_Slice SW_valueOf SW_Kind SW_ToSlice SW_AsSlice SW_GetSliceOr SW_Get SW_sprintf SW_panic
  SW_valueOf_nil SW_make SW_len SW_lit0 SW_lit1 SW_rangeOf SW_setIndex decE_elem SW_Interface heap_get heap_set
  kindCode_eq_23 rH goH sH rvH reflectH slH selfH anysH elemH rv0H

/-- the world call `r.AsSlice()` of `AsSliceOr` / `MustSlice` is what the interpreted `AsSlice` does -/
theorem AsSlice_call_refines_of_le (c : Conv) (v : GoVal) (st : Store1) (hs : v.shapeOK = true) (h : Heap) (hp : AHeap)
    (fuel : Nat) (hf : 12 ≤ fuel) :
    callFunc (sliceWorld c v st) fuel Result_AsSlice [rH] h hp = (sliceWorld c v st).mcall rH "AsSlice" [] h hp := by
  obtain ⟨f, rfl⟩ := Nat.exists_eq_add_of_le' hf
  by_cases hn : v = .nil
  · subst hn; rfl
  · have hA := assertS_eq hs (t := tAnys) rfl
    rw [rH, SW_AsSlice, asSliceCall_ne hn, assertAnys_eq_ite hs]
    by_cases ht : v.typeOf? = some tAnys
    · gosimp [Result_AsSlice, encV_of_ne hn, SW_assert_anys, hA, ht]
    · cases hk : (v.kind == .slice)
      · have hk' : ¬ v.kind = .slice := by simpa using hk
        gosimp [Result_AsSlice, encV_of_ne hn, SW_assert_anys, hA, ht, dynKind_eq hs, hk, hk']
      · have hk' : v.kind = .slice := by simpa using hk
        gosimp [Result_AsSlice, encV_of_ne hn, SW_assert_anys, hA, ht, dynKind_eq hs, hk, hk']

/-- the world call `s.GetSliceOr(key, d)` of `GetSlice` is what the interpreted `GetSliceOr` does -/
theorem GetSliceOr_call_refines_of_le (c : Conv) (held : Option GoVal) (hs : (held.getD .nil).shapeOK = true) (k dg : GV)
    (h : Heap) (hp : AHeap) (fuel : Nat) (hf : 12 ≤ fuel) :
    callFunc (sliceWorld c (held.getD .nil) ⟨held⟩) fuel SharedStore_GetSliceOr [sH, k, dg] h hp =
      (sliceWorld c (held.getD .nil) ⟨held⟩).mcall sH "GetSliceOr" [k, dg] h hp := by
  obtain ⟨f, rfl⟩ := Nat.exists_eq_add_of_le' hf
  cases held with
  | none => rfl
  | some v =>
    simp only [Option.getD_some] at hs ⊢
    by_cases hn : v = .nil
    · subst hn; rfl
    · have hA := assertS_eq hs (t := tAnys) rfl
      rw [sH, SW_GetSliceOr, getSliceOrCall_ne hn, assertAnys_eq_ite hs]
      by_cases ht : v.typeOf? = some tAnys
      · gosimp [SharedStore_GetSliceOr, encV_of_ne hn, SW_assert_anys, hA, ht]
      · cases hk : (v.kind == .slice)
        · have hk' : ¬ v.kind = .slice := by simpa using hk
          gosimp [SharedStore_GetSliceOr, encV_of_ne hn, SW_assert_anys, hA, ht, dynKind_eq hs, hk, hk']
        · have hk' : v.kind = .slice := by simpa using hk
          gosimp [SharedStore_GetSliceOr, encV_of_ne hn, SW_assert_anys, hA, ht, dynKind_eq hs, hk, hk']

/-- the locals of a typed case, once `result` exists (object `a` of the heap) -/
def envT (a : Nat) : GoIR.Env := [("result", anysH a), ("val", slH), ("v", goH)]

theorem fill_body (f k : Nat) (e : GoVal) (he : (elemsOf v)[k]? = some e) (h : Heap) (hp : AHeap) (cell : List GoVal)
    (hk : k < cell.length) :
    execBlock W (f + 5) fillBody ⟨("v", elemH k) :: ("i", .int k) :: envT hp.length, h, hp ++ [cell]⟩ =
      some (.next, ⟨("v", elemH k) :: ("i", .int k) :: envT hp.length, h, hp ++ [cell.set k e]⟩) := by
  gosimp [fillBody, envT, he, hk]

theorem fill_loop (f : Nat) (h : Heap) (hp : AHeap) :
    ∀ (m k : Nat), k + m = (elemsOf v).length →
      loopPairs W (m + f + 6) "i" "v" (pairsFrom k m) fillBody
          ⟨envT hp.length, h, hp ++ [(elemsOf v).take k ++ List.replicate m .nil]⟩ =
        some (.next, ⟨envT hp.length, h, hp ++ [elemsOf v]⟩) := by
  intro m
  induction m with
  | zero =>
    intro k hk
    simp only [Nat.add_zero] at hk
    simp [pairsFrom, loopPairs_nil, hk]
  | succ m ih =>
    intro k hk
    have hlt : k < (elemsOf v).length := by omega
    have he : (elemsOf v)[k]? = some (elemsOf v)[k] := List.getElem?_eq_getElem hlt
    rw [show m + 1 + f + 6 = (m + f + 6) + 1 from by omega]
    simp only [pairsFrom, loopPairs_cons]
    simp only [Env.push, show ("i" == "_") = false from by decide, show ("v" == "_") = false from by decide, Bool.false_eq_true, if_false]
    rw [show m + f + 6 = (m + f + 1) + 5 from by omega,
      fill_body c v st (m + f + 1) k _ he h hp _ (by simp; omega)]
    simp only [popSt, Env.popTo, envT, List.length_cons, List.length_nil]
    simp only [show 0 + 1 + 1 + 1 + 1 + 1 - (0 + 1 + 1 + 1) = 2 from rfl, List.drop_succ_cons, List.drop_zero]
    rw [fill_set _ _ _ _ he]
    have ih' := ih (k + 1) (by omega)
    simp only [envT] at ih'
    rw [show m + f + 1 + 5 = m + f + 6 from by omega]
    exact ih'

theorem typed_body (f : Nat) (h : Heap) (hp : AHeap) :
    execBlock W ((elemsOf v).length + f + 12) typedBody ⟨[("val", slH), ("v", goH)], h, hp⟩ =
      some (.ret [anysH hp.length], ⟨envT hp.length, h, hp ++ [elemsOf v]⟩) := by
  have hl := fill_loop c v st (f + 3) h hp (elemsOf v).length 0 (by omega)
  rw [show (elemsOf v).length + (f + 3) + 6 = (elemsOf v).length + f + 9 from by omega] at hl
  simp only [List.take_zero, List.nil_append, envT, fillBody, slH, anysH, goH] at hl
  gosimp [typedBody, envT, fillBody, hl]

/-- the locals of the reflection branch, once `result` exists -/
def envR (a : Nat) : GoIR.Env := [("result", anysH a), ("rv", rvH), ("val", goH), ("v", goH)]

theorem refl_cond (f k a : Nat) (h : Heap) (hp : AHeap) (hk : dynKind v = .slice) :
    evalExpr W (f + 5) reflCond ⟨("i", .int k) :: envR a, h, hp⟩ =
      some ([.bool (decide (k < (elemsOf v).length))], ⟨("i", .int k) :: envR a, h, hp⟩) := by
  gosimp [reflCond, envR, SW_Len c v st _ _ _ hk]

theorem refl_body (f k : Nat) (e : GoVal) (he : (elemsOf v)[k]? = some e) (hlt : k < (elemsOf v).length) (h : Heap) (hp : AHeap)
    (cell : List GoVal) (hc : k < cell.length) (hk : dynKind v = .slice) :
    execBlock W (f + 8) reflFill ⟨("i", .int k) :: envR hp.length, h, hp ++ [cell]⟩ =
      some (.next, ⟨("i", .int k) :: envR hp.length, h, hp ++ [cell.set k e]⟩) := by
  gosimp [reflFill, envR, SW_Index c v st _ k _ _ hk hlt, he, hc]

theorem refl_post (f k : Nat) (h : Heap) (hp : AHeap) (a : Nat) :
    execBlock W (f + 3) reflPost ⟨("i", .int k) :: envR a, h, hp⟩ = some (.next, ⟨("i", .int (k + 1 : Nat)) :: envR a, h, hp⟩) := by
  gosimp [reflPost, envR]

theorem refl_loop (f : Nat) (h : Heap) (hp : AHeap) (hk : dynKind v = .slice) :
    ∀ (m k : Nat), k + m = (elemsOf v).length →
      loopFor W (m + f + 9) reflCond reflPost reflFill
          ⟨("i", .int k) :: envR hp.length, h, hp ++ [(elemsOf v).take k ++ List.replicate m .nil]⟩ =
        some (.next, ⟨("i", .int (elemsOf v).length) :: envR hp.length, h, hp ++ [elemsOf v]⟩) := by
  intro m
  induction m with
  | zero =>
    intro k hkm
    simp only [Nat.add_zero] at hkm
    rw [show 0 + f + 9 = (f + 3 + 5) + 1 from by omega, loopFor_succ, refl_cond c v st _ _ _ _ _ hk]
    simp [hkm]
  | succ m ih =>
    intro k hkm
    have hlt : k < (elemsOf v).length := by omega
    have he : (elemsOf v)[k]? = some (elemsOf v)[k] := List.getElem?_eq_getElem hlt
    rw [show m + 1 + f + 9 = (m + f + 4 + 5) + 1 from by omega, loopFor_succ, refl_cond c v st _ _ _ _ _ hk]
    simp only [hlt, decide_true]
    rw [show m + f + 4 + 5 = (m + f + 1) + 8 from by omega,
      refl_body c v st _ k _ he hlt h hp _ (by simp; omega) hk]
    simp only [popSt, Env.popTo, envR, List.length_cons, List.length_nil, Nat.sub_self, List.drop_zero]
    have hp' := refl_post c v st (m + f + 6) k h (hp ++ [((elemsOf v).take k ++ List.replicate (m + 1) GoVal.nil).set k (elemsOf v)[k]]) hp.length
    simp only [envR] at hp'
    rw [show m + f + 1 + 8 = m + f + 6 + 3 from by omega, hp']
    simp only []
    rw [fill_set _ _ _ _ he]
    have ih' := ih (k + 1) (by omega)
    simp only [envR] at ih'
    rw [show m + f + 6 + 3 = m + f + 9 from by omega]
    exact ih'

theorem default_spec (f : Nat) (h : Heap) (hp : AHeap) :
    execBlock W ((elemsOf v).length + f + 16) defaultBody ⟨[("val", goH), ("v", goH)], h, hp⟩ =
      some (.ret [anysH hp.length],
        ⟨[("rv", rvH), ("val", goH), ("v", goH)], h, hp ++ [if dynKind v = .slice then elemsOf v else [v]]⟩) := by
  by_cases hk : dynKind v = .slice
  · have hl := refl_loop c v st (f + 1) h hp hk (elemsOf v).length 0 (by omega)
    rw [show (elemsOf v).length + (f + 1) + 9 = (elemsOf v).length + f + 10 from by omega] at hl
    simp only [List.take_zero, List.nil_append, envR, reflFill, reflCond, reflPost, rvH, anysH, goH, Int.natCast_zero] at hl
    gosimp [defaultBody, reflThen, reflFill, reflCond, reflPost, envR, hk, kindCode, SW_Len c v st _ _ _ hk, hl]
  · have hk' : (dynKind v == .slice) = false := by simpa using hk
    gosimp [defaultBody, hk, hk']

theorem ToSlice_of_switch (g : Nat) (h : Heap) (hp : AHeap) (r : List GV) (st' : St AHeap)
    (hsw : switchCases W (g + 1) "val" goH typeCases ⟨[("v", goH)], h, hp⟩ = some (.ret r, st')) :
    callFunc W (g + 4) ToSlice [goH] h hp = some (r, st'.heap, st'.w) := by
  simp only [goH] at hsw
  gosimp [ToSlice_body, show ToSlice.recv = "" from rfl, show ToSlice.params = ["v"] from rfl, nilCheck, hsw]

theorem typed_case {c : Conv} {v : GoVal} {st : Store1} (hs : v.shapeOK = true) {l ty : String} {t : GoType} {rest : Cases}
    {h : Heap} {hp : AHeap} (ha : (sliceWorld c v st).assert goH ty hp = assertS v t slH) (ht : t.kind = .slice)
    {g : Nat} (hg : (elemsOf v).length + 12 ≤ g) :
    switchCases (sliceWorld c v st) (g + 1) "val" goH (.cons (.lit l E[(.var ty)]) typedBody rest) ⟨[("v", goH)], h, hp⟩ =
      if v.typeOf? = some t then
        some (.ret [anysH hp.length], ⟨[("v", goH)], h, hp ++ [if dynKind v = .slice then elemsOf v else [v]]⟩)
      else switchCases (sliceWorld c v st) g "val" goH rest ⟨[("v", goH)], h, hp⟩ := by
  obtain ⟨f, rfl⟩ : ∃ f, g = (elemsOf v).length + f + 12 := ⟨g - (elemsOf v).length - 12, by omega⟩
  have hT := typed_body c v st f h hp
  rw [assertS_eq hs ht] at ha
  simp only [envT, goH, slH, anysH] at hT ha
  by_cases he : v.typeOf? = some t
  · have hk : dynKind v = .slice := by rw [dynKind, he]; exact ht
    simp [ha, he, hk, Env.push, hT, popSt, Env.popTo]
  · simp [ha, he]

theorem typeCases_spec (f : Nat) (hs : v.shapeOK = true) (hn : v ≠ .nil) (h : Heap) (hp : AHeap) :
    switchCases W ((elemsOf v).length + f + 22) "val" goH typeCases ⟨[("v", goH)], h, hp⟩ =
      some (.ret [(toSliceCall v hp).1], ⟨[("v", goH)], h, (toSliceCall v hp).2⟩) := by
  have hD := default_spec c v st f h hp
  have hA : (W).assert goH "[]any" hp = _ := SW_assert_anys c v st 0 hp
  simp only [goH, rvH, anysH] at hD
  rw [toSliceCall_eq hs hn, typeCases, switch_case, hA, assertS_eq hs rfl,
    typed_case hs (SW_assert_strings c v st 0 hp) rfl, typed_case hs (SW_assert_ints c v st 0 hp) rfl,
    typed_case hs (SW_assert_floats c v st 0 hp) rfl, typed_case hs (SW_assert_maps c v st 0 hp) rfl, switch_default]
  · by_cases ht : v.typeOf? = some tAnys
    · gosimp [ht]
    · simp [ht, Env.push, hD, popSt, Env.popTo]
  all_goals omega

/-- the world call `ToSlice(x)` of `AsSlice` / `GetSliceOr` is what the interpreted `ToSlice` does on a non-nil value: every case
    of the type switch and the reflection fallback, from every heap -/
theorem ToSlice_call_refines_of_le (c : Conv) (v : GoVal) (st : Store1) (hs : v.shapeOK = true) (hn : v ≠ .nil) (h : Heap) (hp : AHeap)
    (fuel : Nat) (hf : (elemsOf v).length + 25 ≤ fuel) :
    callFunc (sliceWorld c v st) fuel ToSlice [goH] h hp = (sliceWorld c v st).call "ToSlice" [goH] h hp := by
  obtain ⟨k, rfl⟩ : ∃ k, fuel = (elemsOf v).length + k + 25 := ⟨fuel - (elemsOf v).length - 25, by omega⟩
  exact ToSlice_of_switch c v st _ h hp _ _ (typeCases_spec c v st k hs hn h hp)

theorem toSlice_of_assert_none {v : GoVal} (h : assertAnys v = none) : toSlice v = some ((toSlice v).getD []) := by
  cases v <;> try rfl
  case slice t isNil elems =>
    by_cases h0 : t = tAnys
    · simp [assertAnys, h0] at h
    · simp [toSlice, h0]

theorem decS_anys (v : GoVal) (hp : AHeap) (l : List GoVal) : decS v (hp ++ [l]) (anysH hp.length) = some (some l) := by
  simp [decS, anysH]

theorem decS_toSliceCall (v : GoVal) (hp : AHeap) : decS v (toSliceCall v hp).2 (toSliceCall v hp).1 = some (toSlice v) := by
  unfold toSliceCall
  cases h : assertAnys v with
  | some s =>
    have := (assertAnys_eq v s h).2
    simp [decS, selfH, h, this]
  | none =>
    simp only [alloc, decS_anys]
    rw [← toSlice_of_assert_none h]

theorem toSliceCall_heap (v : GoVal) (hp : AHeap) : ∃ x, (toSliceCall v hp).2 = hp ++ x := by
  unfold toSliceCall
  cases assertAnys v with
  | some s => exact ⟨[], by simp⟩
  | none => exact ⟨_, rfl⟩

theorem decS_append {v : GoVal} {hp : AHeap} {g : GV} {s : SliceV} (h : decS v hp g = some s) (x : AHeap) :
    decS v (hp ++ x) g = some s := by
  unfold decS at h ⊢
  split at h
  · exact h
  · exact h
  · rename_i a
    cases ha : hp[a]? with
    | none => simp [ha] at h
    | some l =>
      have hlt : a < hp.length := (List.getElem?_eq_some_iff.1 ha).1
      simp only [ha, Option.map_some] at h
      simp [List.getElem?_append_left hlt, ha, ← h]
  · simp at h

theorem decS_encD (v : GoVal) (d : SliceV) : decS v (encD d).2 (encD d).1 = some d := by
  cases d <;> simp [encD, decS, anysH]

/-- the right-hand sides are the model's `asSlice` in its closed form (`asSlice_closed`) -/
theorem asSliceCall_dec (v : GoVal) (hp : AHeap) :
    ∃ g, (asSliceCall v hp).1 = [g, .bool (decide (v.kind = .slice))] ∧
      decS v (asSliceCall v hp).2 g = some (if v.kind = .slice then toSlice v else none) ∧ ∃ x, (asSliceCall v hp).2 = hp ++ x := by
  by_cases hn : v = .nil
  · subst hn; exact ⟨.nil, rfl, rfl, [], by simp [asSliceCall]⟩
  · rw [asSliceCall_ne hn]
    cases ha : assertAnys v with
    | some s =>
      obtain ⟨hk, ht⟩ := assertAnys_eq v s ha
      exact ⟨selfH, by simp [hk], by simp [decS, selfH, ha, hk, ht], [], by simp⟩
    | none =>
      by_cases hk : v.kind = .slice
      · exact ⟨(toSliceCall v hp).1, by simp [hk], by simp [hk, decS_toSliceCall], by simpa [hk] using toSliceCall_heap v hp⟩
      · exact ⟨.nil, by simp [hk], by simp [hk, decS], [], by simp [hk]⟩

/-- the closed form of the model's `getSliceOr` on the one-key store (`getSliceOr_of_get`) -/
def getClosed (held : Option GoVal) (d : SliceV) : SliceV :=
  match held with
  | none => d
  | some v => if v.kind = .slice then toSlice v else d

theorem getSliceOrCall_dec (held : Option GoVal) (dg : GV) (hp : AHeap) (d : SliceV) (hd : decS (held.getD .nil) hp dg = some d) :
    decS (held.getD .nil) (getSliceOrCall held dg hp).2 (getSliceOrCall held dg hp).1 = some (getClosed held d) := by
  cases held with
  | none => simpa [getSliceOrCall, getClosed] using hd
  | some v =>
    simp only [Option.getD_some, getClosed] at hd ⊢
    by_cases hn : v = .nil
    · subst hn; simpa [getSliceOrCall, GoVal.kind] using hd
    · rw [getSliceOrCall_ne hn]
      cases ha : assertAnys v with
      | some s =>
        obtain ⟨hk, ht⟩ := assertAnys_eq v s ha
        simp [decS, selfH, ha, hk, ht]
      | none =>
        by_cases hk : v.kind = .slice
        · simp [hk, decS_toSliceCall]
        · simpa [hk] using hd

/-- the recursion depth of the executable test (`GoIR/SliceTest.lean`) -/
def F : Nat := 60

/-- **`ToSlice`** — all six branches (`[]any`, `[]string`, `[]int`, `[]float64`, `[]map[string]any`, reflection / single item) -/
theorem ToSlice_refines_of_le (c : Conv) (v : GoVal) (hs : v.shapeOK = true) (fuel : Nat) (h : (elemsOf v).length + 25 ≤ fuel) :
    runToSlice fuel ToSlice c v = some (toSlice v) := by
  unfold runToSlice
  by_cases hn : v = .nil
  · subst hn; obtain ⟨k, rfl⟩ := Nat.exists_eq_add_of_le' h; rfl
  · rw [encV_of_ne hn, ToSlice_call_refines_of_le c v ⟨none⟩ hs hn [] [] fuel h, goH, SW_ToSlice]
    simp [decS_toSliceCall]

theorem ToSlice_refines (c : Conv) (v : GoVal) (hs : v.shapeOK = true) (hl : (elemsOf v).length ≤ 35) :
    runToSlice F ToSlice c v = some (toSlice v) :=
  ToSlice_refines_of_le c v hs F (by unfold F; omega)

/-- **`Result.AsSlice`**: nil ↦ `(nil, false)`; a `[]any` ↦ itself; a value whose kind is not `reflect.Slice` ↦ `(nil, false)`;
    any other slice ↦ `(ToSlice(v), true)` -/
theorem Result_AsSlice_refines_of_le (c : Conv) (v : GoVal) (hs : v.shapeOK = true) (fuel : Nat) (h : 12 ≤ fuel) :
    runAsSlice fuel Result_AsSlice c v = (match asSlice v with | .panic => none | .ok r => some r) := by
  unfold runAsSlice
  rw [AsSlice_call_refines_of_le c v ⟨none⟩ hs [] [] fuel h, rH, SW_AsSlice, asSlice_closed]
  obtain ⟨g, e, hd, _⟩ := asSliceCall_dec v []
  by_cases hk : v.kind = .slice <;> simp [e, hd, hk]

theorem Result_AsSlice_refines (c : Conv) (v : GoVal) (hs : v.shapeOK = true) :
    runAsSlice F Result_AsSlice c v = (match asSlice v with | .panic => none | .ok r => some r) :=
  Result_AsSlice_refines_of_le c v hs F (by decide)

/-- **`Result.AsSliceOr`**, every default (`none` = the nil slice) -/
theorem Result_AsSliceOr_refines_of_le (c : Conv) (v : GoVal) (d : SliceV) (fuel : Nat) (h : 8 ≤ fuel) :
    runResultSl fuel Result_AsSliceOr c v (some d) = (match asSliceOr v d with | .panic => none | .ok s => some s) := by
  obtain ⟨k, rfl⟩ := Nat.exists_eq_add_of_le' h
  obtain ⟨g, e, hd, x, hx⟩ := asSliceCall_dec v (encD d).2
  rw [asSliceOr_closed]
  by_cases hk : v.kind = .slice
  · gosimp [runResultSl, Result_AsSliceOr, e, hk, hd]
  · gosimp [runResultSl, Result_AsSliceOr, e, hk]
    rw [hx]
    exact decS_append (decS_encD v d) x

theorem Result_AsSliceOr_refines (c : Conv) (v : GoVal) (d : SliceV) :
    runResultSl F Result_AsSliceOr c v (some d) = (match asSliceOr v d with | .panic => none | .ok s => some s) :=
  Result_AsSliceOr_refines_of_le c v d F (by decide)

/-- **`Result.MustSlice`** (`panic` is stuck: `none`) -/
theorem Result_MustSlice_refines_of_le (c : Conv) (v : GoVal) (fuel : Nat) (h : 12 ≤ fuel) :
    runResultSl fuel Result_MustSlice c v none = (match mustSlice v with | .panic => none | .ok s => some s) := by
  obtain ⟨k, rfl⟩ := Nat.exists_eq_add_of_le' h
  obtain ⟨g, e, hd, _⟩ := asSliceCall_dec v []
  rw [mustSlice_closed]
  by_cases hk : v.kind = .slice <;> gosimp [runResultSl, Result_MustSlice, e, hk, hd]

theorem Result_MustSlice_refines (c : Conv) (v : GoVal) :
    runResultSl F Result_MustSlice c v none = (match mustSlice v with | .panic => none | .ok s => some s) :=
  Result_MustSlice_refines_of_le c v F (by decide)

theorem getSliceOr_storeOf (held : Option GoVal) (d : SliceV) :
    getSliceOr (storeOf held) "k" d = .ok (getClosed held d) := by
  cases held with
  | none => rfl
  | some v => exact getSliceOr_of_get _ _ v d (lookup_k v)

/-- **`SharedStore.GetSliceOr`**: absent key (`held = none`) and held value, every default -/
theorem SharedStore_GetSliceOr_refines_of_le (c : Conv) (held : Option GoVal) (hs : (held.getD .nil).shapeOK = true) (d : SliceV)
    (fuel : Nat) (h : 12 ≤ fuel) :
    runStoreSl fuel SharedStore_GetSliceOr c held (some d) =
      (match getSliceOr (storeOf held) "k" d with | .panic => none | .ok s => some s) := by
  unfold runStoreSl
  simp only []
  rw [GetSliceOr_call_refines_of_le c held hs (.str "k") (encD d).1 [] (encD d).2 fuel h, sH, SW_GetSliceOr, getSliceOr_storeOf]
  simp [getSliceOrCall_dec held _ _ d (decS_encD _ d)]

theorem SharedStore_GetSliceOr_refines (c : Conv) (held : Option GoVal) (hs : (held.getD .nil).shapeOK = true) (d : SliceV) :
    runStoreSl F SharedStore_GetSliceOr c held (some d) =
      (match getSliceOr (storeOf held) "k" d with | .panic => none | .ok s => some s) :=
  SharedStore_GetSliceOr_refines_of_le c held hs d F (by decide)

/-- `SharedStore.GetSlice` (flyt.go:311) is `s.GetSliceOr(key, nil)`; the call is the world's (`GetSliceOr_call_refines_of_le`) -/
theorem SharedStore_GetSlice_refines_of_le (c : Conv) (held : Option GoVal) (fuel : Nat) (h : 8 ≤ fuel) :
    runStoreSl fuel SharedStore_GetSlice c held none =
      (match getSlice (storeOf held) "k" with | .panic => none | .ok s => some s) := by
  obtain ⟨k, rfl⟩ := Nat.exists_eq_add_of_le' h
  have hm : getSlice (storeOf held) "k" = getSliceOr (storeOf held) "k" none := rfl
  rw [hm, getSliceOr_storeOf]
  gosimp [runStoreSl, SharedStore_GetSlice, getSliceOrCall_dec held .nil [] none rfl]

theorem SharedStore_GetSlice_refines (c : Conv) (held : Option GoVal) :
    runStoreSl F SharedStore_GetSlice c held none =
      (match getSlice (storeOf held) "k" with | .panic => none | .ok s => some s) :=
  SharedStore_GetSlice_refines_of_le c held F (by decide)

end world

/-! `v.shapeOK`: the kind of the dynamic type is the kind of the representation (top level only; nothing is asked of the elements, and
a nil slice may even carry elements — the header decides). Every well-formed value has it (`wf_shapeOK`). It is needed because the
WORLD answers assertions and `reflect.Kind` from the dynamic type and the MODEL pattern-matches on the representation; where the
two differ, so do the answers. -/

theorem ToSlice_refines_of_wf (c : Conv) (v : GoVal) (hw : v.wf = true) (fuel : Nat) (h : (elemsOf v).length + 25 ≤ fuel) :
    runToSlice fuel ToSlice c v = some (toSlice v) := ToSlice_refines_of_le c v (wf_shapeOK v hw) fuel h
theorem Result_AsSlice_refines_of_wf (c : Conv) (v : GoVal) (hw : v.wf = true) (fuel : Nat) (h : 12 ≤ fuel) :
    runAsSlice fuel Result_AsSlice c v = (match asSlice v with | .panic => none | .ok r => some r) :=
  Result_AsSlice_refines_of_le c v (wf_shapeOK v hw) fuel h

/-- satisfiable: a named slice type (reflection branch), a NaN, a typed nil pointer, an array -/
example : (GoVal.slice (.named "MyInts" tInts) false (.cons (.int (.basic .int) 1) .nil)).wf = true
    ∧ (GoVal.slice (.named "MyInts" tInts) false (.cons (.int (.basic .int) 1) .nil)).shapeOK = true
    ∧ (GoVal.float (.basic .float64) 9221120237041090561).shapeOK = true
    ∧ (GoVal.ptr (.ptr tInts) none).shapeOK = true
    ∧ (GoVal.array (.array 1 tInts) (.cons (.slice tInts true .nil) .nil)).shapeOK = true
    -- not well-formed (a nil slice with an element) and still covered
    ∧ (GoVal.slice tInts true (.cons (.int (.basic .int) 1) .nil)).wf = false
    ∧ (GoVal.slice tInts true (.cons (.int (.basic .int) 1) .nil)).shapeOK = true := by decide

/-- an excluded point: a value whose dynamic type says `[]int` and whose representation is an integer (no Go value is like that).
    The model looks at the representation — not a slice: `(nil, false)`, `ToSlice` wraps it. The interpreted source asks the type —
    kind `reflect.Slice`: `AsSlice` goes on to `ToSlice` and answers `([v], true)`; the interpreted `ToSlice` itself is stuck in
    `case []int` (the world has no elements to offer). -/
theorem excluded_point :
    (GoVal.int tInts 5).shapeOK = false
    ∧ asSlice (.int tInts 5) = .ok (none, false)
    ∧ runAsSlice F Result_AsSlice ⟨fun _ _ => none, id, fun _ => 0⟩ (.int tInts 5) = some (some [.int tInts 5], true)
    ∧ toSlice (.int tInts 5) = some [.int tInts 5]
    ∧ runToSlice F ToSlice ⟨fun _ _ => none, id, fun _ => 0⟩ (.int tInts 5) = none := by decide

end Flyt.Refine.Slices

#print axioms Flyt.Refine.Slices.ToSlice_refines_of_le
#print axioms Flyt.Refine.Slices.ToSlice_call_refines_of_le
#print axioms Flyt.Refine.Slices.Result_AsSlice_refines_of_le
#print axioms Flyt.Refine.Slices.AsSlice_call_refines_of_le
#print axioms Flyt.Refine.Slices.Result_AsSliceOr_refines_of_le
#print axioms Flyt.Refine.Slices.Result_MustSlice_refines_of_le
#print axioms Flyt.Refine.Slices.SharedStore_GetSliceOr_refines_of_le
#print axioms Flyt.Refine.Slices.GetSliceOr_call_refines_of_le
#print axioms Flyt.Refine.Slices.SharedStore_GetSlice_refines_of_le
#print axioms Flyt.Refine.Slices.excluded_point
