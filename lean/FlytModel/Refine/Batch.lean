import FlytModel.Refine.Seq
/-!
# The translated `runBatch` (batch.go:156) refines the model's `Flyt.runBatch`

In `batchWorld` (the user's batch prep / post callbacks, the node's batch settings, `ToSlice`, the two executors as the model's
`itemsSeq` / `itemsSerialPool`) the interpreter on the IR of `runBatch` returns exactly the events, the context and the outcome of
the model's `runBatch`: for every configuration, script and initial context, and every fuel from `batchFuel scr` on.
The run (`Batch.refines_in`) is stated for any world that answers as `batchWorld` does except for the two executor calls
(`Batch.Agrees`), given what those calls return on fresh arrays (`Batch.Calls`); `BatchStack.lean` and `FullConc.lean` apply it to
their composed worlds. The world stays folded during symbolic execution: one lemma per world operation.
-/
namespace Flyt.Refine
open Flyt Flyt.GoIR
set_option linter.unusedSimpArgs false

namespace Batch

def stm (k : Nat) : Stmt := Flyt.Expected.IR.runBatch.body.stmtAt k
/-- `prepResult, err := node.Prep(ctx, shared)` -/
def sPrep : Stmt := stm 0
/-- `if err != nil { return "", fmt.Errorf("run: prep failed: %w", err) }` -/
def sPrepErr : Stmt := stm 1
/-- `var items []Result` -/
def sDecl : Stmt := stm 2
/-- `switch v := prepResult.(type)`: `[]Result` is taken as it is, a `[]any` and whatever `ToSlice` makes of the rest is wrapped -/
def sSwitch : Stmt := stm 3
/-- its `case []any` clause -/
def caseAnys : Block := sSwitch.clause 1
/-- `items[i] = NewResult(item)` -/
def wrapBody : Block := (caseAnys.stmtAt 1).inner
/-- `if len(items) == 0 { action, err := node.Post(ctx, shared, []Result{}, []Result{}); … }` -/
def sEmpty : Stmt := stm 4
def emptyBody : Block := sEmpty.inner
def sPostEmpty : Stmt := emptyBody.stmtAt 0
/-- the node's batch settings, read off whichever of the four node types it is -/
def sCfg : Stmt := stm 7
/-- `results := make([]Result, len(items))` -/
def sResults : Stmt := stm 8
/-- `if concurrency > 0 { runBatchConcurrent(…) } else { runBatchSequential(…) }` -/
def sExec : Stmt := stm 9
/-- `action, err := node.Post(ctx, shared, items, results)` -/
def sPost : Stmt := stm 10
/-- `if err != nil { return "", fmt.Errorf("run: post failed: %w", err) }; if action == "" { action = DefaultAction }; return action, nil` -/
def postTail : Block := Flyt.Expected.IR.runBatch.body.drop 11
/-- everything after the empty-batch branch -/
def mainTail : Block := Flyt.Expected.IR.runBatch.body.drop 5

theorem body_eq : Flyt.Expected.IR.runBatch.body =
    .cons sPrep (.cons sPrepErr (.cons sDecl (.cons sSwitch (.cons sEmpty mainTail)))) := rfl
theorem mainTail_eq : mainTail =
    .cons (stm 5) (.cons (stm 6) (.cons sCfg (.cons sResults (.cons sExec (.cons sPost postTail))))) := rfl
theorem emptyBody_eq : emptyBody = .cons sPostEmpty postTail := rfl

/-- the executor call `fn(ctx, node, items, results, extra…)` on `items` in cell 0 and fresh `results` in cell 1: no return
    values, the slots of `r` written to cell 1, its events appended, its context the new one -/
def Calls (n : NodeId) (W : World SeqW) (fn : String) (extra : List GV) (items : List Result)
    (r : Ctx → List Ev × Ctx × List Result) : Prop :=
  ∀ w : SeqW,
    W.call fn (ctxH :: .node n :: .slice 0 0 items.length :: .slice 1 0 items.length :: extra)
        [items, List.replicate items.length ⟨Val.nil, none⟩] w
      = some ([], [items, (r w.ctx).2.2], ⟨w.evs ++ (r w.ctx).1, (r w.ctx).2.1⟩)

section
variable (kind : CtxKind) (n : NodeId) (v : Nat) (sid : StoreId) (cfg : BatchCfg) (scr : BatchScript)

local notation "W" => batchWorld kind n v cfg scr

theorem W_global : (W).global "DefaultAction" = some (.str defaultAction) := rfl
theorem W_assert_base (m : NodeId) (w : SeqW) : (W).assert (.node m) "*BaseNode" w = some (.nil, false) := rfl
theorem W_assert_custom (m : NodeId) (w : SeqW) : (W).assert (.node m) "*CustomNode" w = some (.nil, false) := rfl
theorem W_assert_batch (m : NodeId) (w : SeqW) : (W).assert (.node m) "*BatchNode" w = some (.node m, true) := rfl
theorem W_assert_slice_res (a o k : Nat) (w : SeqW) : (W).assert (.slice a o k) "[]Result" w = some (.slice a o k, true) := rfl
theorem W_assert_anys_res (l : List Val) (w : SeqW) : (W).assert (.anys l) "[]Result" w = some (.nil, false) := rfl
theorem W_assert_anys_any (l : List Val) (w : SeqW) : (W).assert (.anys l) "[]any" w = some (.anys l, true) := rfl
theorem W_assert_ref_res (k : String) (i : Nat) (w : SeqW) : (W).assert (.ref k i) "[]Result" w = some (.nil, false) := rfl
theorem W_assert_ref_any (k : String) (i : Nat) (w : SeqW) : (W).assert (.ref k i) "[]any" w = some (.nil, false) := rfl
theorem W_assert_nil_res (w : SeqW) : (W).assert .nil "[]Result" w = some (.nil, false) := rfl
theorem W_assert_nil_any (w : SeqW) : (W).assert .nil "[]any" w = some (.nil, false) := rfl
theorem W_conc (m : NodeId) (h : Heap) (w : SeqW) :
    (W).mcall (.node m) "GetBatchConcurrency" [] h w = some ([.int cfg.conc], h, w) := rfl
theorem W_errh (m : NodeId) (h : Heap) (w : SeqW) :
    (W).mcall (.node m) "GetBatchErrorHandling" [] h w = some ([.str (ehOf cfg)], h, w) := rfl

theorem W_prep (m : NodeId) (a : GV) (h : Heap) (w : SeqW) :
    (W).mcall (.node m) "Prep" [a, storeH sid] h w =
      (match scr.prep.res with
       | .error e => some ([.nil, .err (.user e)], h, ⟨w.evs ++ [.bprep n v sid], w.ctx.after kind scr.prep.cancels⟩)
       | .ok l =>
         match cfg.shape with
         | .results => some ([.slice h.length 0 l.length, .nil], h ++ [l.map toResult], ⟨w.evs ++ [.bprep n v sid], w.ctx.after kind scr.prep.cancels⟩)
         | .anys => some ([.anys l, .nil], h, ⟨w.evs ++ [.bprep n v sid], w.ctx.after kind scr.prep.cancels⟩)
         | .typed => some ([.ref "typed" 0, .nil], h, ⟨w.evs ++ [.bprep n v sid], w.ctx.after kind scr.prep.cancels⟩)
         | .single => some ([.ref "single" 0, .nil], h, ⟨w.evs ++ [.bprep n v sid], w.ctx.after kind scr.prep.cancels⟩)
         | .nilv => some ([.nil, .nil], h, ⟨w.evs ++ [.bprep n v sid], w.ctx.after kind scr.prep.cancels⟩)) := rfl

theorem W_toSlice (a : GV) (h : Heap) (w : SeqW) :
    (W).call "ToSlice" [a] h w =
      (match scr.prep.res with
       | .ok l =>
         (match cfg.shape with
          | .typed => some ([.anys l], h, w)
          | .single => some ([.anys (l.take 1)], h, w)
          | .nilv => some ([.anys []], h, w)
          | _ => none)
       | _ => none) := rfl

theorem cfg_stop_eq : { cfg with stop := ehOf cfg == "stop" } = cfg := by
  cases cfg with
  | mk budget wait fb conc stop execS hasPost shape => cases stop <;> simp [ehOf]

theorem cfg_stop_conc_eq : { cfg with stop := ehOf cfg == "stop", conc := (cfg.conc : Int).toNat } = cfg := by
  cases cfg with
  | mk budget wait fb conc stop execS hasPost shape => cases stop <;> simp [ehOf]

theorem itemsSerialPool_length (items : List Result) : ∀ (i : Nat) (st : Bool) (ctx : Ctx),
    (itemsSerialPool kind n v cfg scr items i st ctx).2.2.length = items.length := by
  induction items with
  | nil => intro i st ctx; simp [itemsSerialPool]
  | cons it rest ih =>
    intro i st ctx
    simp only [itemsSerialPool]
    split
    · simp [ih]
    · cases ctx with
      | done kd => simp [ih]
      | live =>
        simp only
        rcases runItem kind n v cfg i it (scr.item i) .live with ⟨ev1, ctx1, (s | e)⟩
        · simp [ih]
        · simp [ih]

theorem W_seq (items : List Result) :
    Calls n W "runBatchSequential" [.str (ehOf cfg)] items (itemsSeq kind n v cfg scr items 0) := by
  intro w
  have hl := itemsSeq_length kind n v cfg scr items 0 w.ctx
  refine (rfl : _ = ite _ _ none).trans ?_
  simp [writeWindow, cfg_stop_eq, hl]

theorem W_pool (items : List Result) :
    Calls n W "runBatchConcurrent" [.int cfg.conc, .str (ehOf cfg)] items (itemsSerialPool kind n v cfg scr items 0 false) := by
  intro w
  have hl := itemsSerialPool_length kind n v cfg scr items 0 false w.ctx
  refine (rfl : _ = ite _ _ none).trans ?_
  simp [writeWindow, cfg_stop_conc_eq, cfg_stop_eq, hl]

/-- what the instrumented `Post` returns, handed the two slices: the action, the error, the recording afterwards -/
def postOut (items slots : List Result) (w : SeqW) : String × GV × SeqW :=
  if cfg.hasPost then
    let w' : SeqW :=
      ⟨w.evs ++ [.bpost n v sid (items.map Result.box) (slots.map Result.box)], w.ctx.after kind scr.post.cancels⟩
    match scr.post.res with
    | .ok a => (a, .nil, w')
    | .error e => (scr.post.junk.getD "", .err (.user e), w')
  else (defaultAction, .nil, w)

theorem W_post (m : NodeId) (a its res : GV) (h : Heap) (w : SeqW) (items slots : List Result)
    (hi : readWindow h its = some items) (hs : readWindow h res = some slots) :
    (W).mcall (.node m) "Post" [a, storeH sid, its, res] h w
      = some ([.str (postOut kind n v sid cfg scr items slots w).1, (postOut kind n v sid cfg scr items slots w).2.1], h,
          (postOut kind n v sid cfg scr items slots w).2.2) := by
  refine (rfl : _ = ite _ _ _).trans ?_
  rw [hi, hs]
  unfold postOut
  cases cfg.hasPost
  · rfl
  · cases scr.post.res <;> rfl

end

theorem wrapBody_eq : wrapBody = B[(.assign E[(.index (.var "items") (.var "i"))] E[(.call "NewResult" E[(.var "item")])])] := rfl

section
variable {Ω : Type} (W : World Ω)

theorem wrap_step (env : GoIR.Env) (N i : Nat) (x : Val) (cell : List Result) (w : Ω)
    (he : env.get "items" = some (.slice 0 0 N)) (hi : i < N) (hlen : cell.length = N) (c : Nat) :
    execBlock W (c + 6) wrapBody ⟨("item", GV.ofVal x) :: ("i", .int i) :: env, [cell], w⟩
      = some (.next, ⟨("item", GV.ofVal x) :: ("i", .int i) :: env, [cell.set i (newResult x)], w⟩) := by
  subst hlen
  simp [wrapBody_eq, execBlock, execStmt, evalRhs, isCommaOk, evalExpr, evalArgs, GoIR.Env.get, assignAll, assignTo,
    Exprs.toList, Exprs.length, heapSet, mkNewResult, toVal_ofVal, he, hi]

theorem popTo_cons2 (env : GoIR.Env) (p q : String × GV) : GoIR.Env.popTo (p :: q :: env) env.length = env := by
  have e : (p :: q :: env).length - env.length = 2 := by simp; omega
  simp only [GoIR.Env.popTo, e, List.drop_succ_cons, List.drop_zero]

/-- the `range` loop of `case []any` and of `default` (batch.go:170, 177); one level of fuel per value -/
theorem wrap_loop (env : GoIR.Env) (N : Nat) (w : Ω) (he : env.get "items" = some (.slice 0 0 N)) (c : Nat) :
    ∀ (l : List Val) (i : Nat) (cell : List Result), i + l.length = N → cell.length = N →
    loopAnys W (l.length + c + 7) "i" "item" l i wrapBody ⟨env, [cell], w⟩
      = some (.next, ⟨env, [cell.take i ++ l.map newResult], w⟩) := by
  intro l
  induction l with
  | nil =>
    intro i cell hik hlen
    have ht : cell.take i = cell := by apply List.take_of_length_le; simp at hik; omega
    simp [loopAnys, ht]
  | cons x rest ih =>
    intro i cell hik hlen
    have hi : i < N := by simp at hik; omega
    rw [show (x :: rest).length + c + 7 = (rest.length + c + 7) + 1 from by simp; omega, loopAnys]
    simp only [GoIR.Env.push, show ("item" == "_") = false from by decide, show ("i" == "_") = false from by decide,
      Bool.false_eq_true, if_false]
    rw [show rest.length + c + 7 = (rest.length + c + 1) + 6 from by omega, wrap_step W env N i x cell w he hi hlen]
    simp only [popSt, popTo_cons2]
    rw [show rest.length + c + 1 + 6 = rest.length + c + 7 from by omega,
      ih (i + 1) (cell.set i (newResult x)) (by simp at hik ⊢; omega) (by simpa using hlen),
      take_set_succ _ _ _ (by omega)]
    simp

end

def env0 (n : NodeId) (sid : StoreId) : GoIR.Env := [("shared", storeH sid), ("node", .node n), ("ctx", ctxH)]
/-- before the type switch -/
def envS (n : NodeId) (sid : StoreId) (pr : GV) : GoIR.Env :=
  ("items", .nil) :: ("err", .nil) :: ("prepResult", pr) :: env0 n sid
/-- after the type switch: `items` is the window `[0, N)` of cell 0 -/
def envT (n : NodeId) (sid : StoreId) (pr : GV) (N : Nat) : GoIR.Env :=
  ("items", .slice 0 0 N) :: ("err", .nil) :: ("prepResult", pr) :: env0 n sid
/-- before the executor call: the node's batch settings have been read, `results` is the window `[0, N)` of cell 1 -/
def envX (n : NodeId) (sid : StoreId) (pr : GV) (N : Nat) (cfg : BatchCfg) : GoIR.Env :=
  ("results", .slice 1 0 N) :: ("errorHandling", .str (ehOf cfg)) :: ("concurrency", .int cfg.conc) :: envT n sid pr N

/-- what `runBatchIR` reads off the final configuration -/
def obs : Option (Ctl × St SeqW) → Option (List Ev × Ctx × Outcome)
  | some (.ret rs, st) => (outcomeOf rs).map fun o => (st.w.evs, st.w.ctx, o)
  | _ => none

theorem obs_callFunc (W : World SeqW) (fuel : Nat) (n : NodeId) (sid : StoreId) (ctx : Ctx) :
    (match callFunc W fuel Flyt.Expected.IR.runBatch [ctxH, .node n, storeH sid] [] ⟨[], ctx⟩ with
     | some (rs, _, w) => (outcomeOf rs).map fun o => (w.evs, w.ctx, o)
     | none => none)
      = obs (execBlock W fuel Flyt.Expected.IR.runBatch.body ⟨env0 n sid, [], ⟨[], ctx⟩⟩) := by
  have hr : Flyt.Expected.IR.runBatch.recv = "" := rfl
  have hp : Flyt.Expected.IR.runBatch.params = ["ctx", "node", "shared"] := rfl
  simp [callFunc, hr, hp, GoIR.Env.pushAll, GoIR.Env.push, env0]
  rcases execBlock W fuel Flyt.Expected.IR.runBatch.body _ with _ | ⟨c, st⟩
  · rfl
  · cases c <;> simp [obs, outcomeOf]

macro "bsimp" "[" ts:Lean.Parser.Tactic.simpLemma,* "]" : tactic =>
  `(tactic| simp [stm, Block.stmtAt, Block.drop, Stmt.inner, Stmt.clause, nthBody, Option.getD, Flyt.Expected.IR.runBatch,
      block_cons, block_nil, execStmt, evalRhs, isCommaOk, evalCommaOk, evalExpr, evalArgs, switchCases,
      Cases.ofList, GoIR.Env.get, GoIR.Env.set, GoIR.Env.push, GoIR.Env.pushAll, popSt, GoIR.Env.popTo, assignAll, assignTo,
      Exprs.toList, Exprs.length, zeroOf, intBin, GV.eqv, GV.isNil, errorf, env0, envS, envT, envX,
      W_global, W_assert_base, W_assert_custom, W_assert_batch, W_assert_slice_res, W_assert_anys_res, W_assert_anys_any,
      W_assert_ref_res, W_assert_ref_any, W_assert_nil_res, W_assert_nil_any, W_conc, W_errh, W_toSlice,
      cw2, cw7, $ts,*])

/-- `W` answers what `runBatch` asks, the two executor calls apart, as `batchWorld` does -/
structure Agrees (kind : CtxKind) (n : NodeId) (v : Nat) (cfg : BatchCfg) (scr : BatchScript) (W : World SeqW) : Prop where
  mcall : W.mcall = (batchWorld kind n v cfg scr).mcall
  assert : W.assert = (batchWorld kind n v cfg scr).assert
  global : W.global = (batchWorld kind n v cfg scr).global
  toSlice : ∀ a h w, W.call "ToSlice" [a] h w = (batchWorld kind n v cfg scr).call "ToSlice" [a] h w

theorem Agrees.refl (kind : CtxKind) (n : NodeId) (v : Nat) (cfg : BatchCfg) (scr : BatchScript) :
    Agrees kind n v cfg scr (batchWorld kind n v cfg scr) := ⟨rfl, rfl, rfl, fun _ _ _ => rfl⟩

/-- number of values the batch prep returns -/
def prepLen (scr : BatchScript) : Nat :=
  match scr.prep.res with
  | .ok l => l.length
  | .error _ => 0

section
variable {kind : CtxKind} {n : NodeId} {v : Nat} (sid : StoreId) {cfg : BatchCfg} {scr : BatchScript} {W : World SeqW}
  (H : Agrees kind n v cfg scr W)
include H

/-- statements 1–2 when prep fails -/
theorem prefix_err (e : Nat) (hp : scr.prep.res = .error e) (f : Nat) (rest : Block) (ctx : Ctx) :
    execBlock W (f + 12) (.cons sPrep (.cons sPrepErr rest)) ⟨env0 n sid, [], ⟨[], ctx⟩⟩
      = some (.ret [.str "", .err (.user e)],
          ⟨("err", .err (.user e)) :: ("prepResult", .nil) :: env0 n sid, [], ⟨[.bprep n v sid], ctx.after kind scr.prep.cancels⟩⟩) := by
  bsimp [sPrep, sPrepErr, H.mcall, W_prep, hp]

/-- statements 1–3 when prep succeeds -/
theorem prefix_ok (pr : GV) (h' : Heap) (w' : SeqW) (ctx : Ctx)
    (hprep : (batchWorld kind n v cfg scr).mcall (.node n) "Prep" [ctxH, storeH sid] [] ⟨[], ctx⟩ = some ([pr, .nil], h', w'))
    (f : Nat) (rest : Block) :
    execBlock W (f + 8) (.cons sPrep (.cons sPrepErr (.cons sDecl rest))) ⟨env0 n sid, [], ⟨[], ctx⟩⟩
      = execBlock W (f + 5) rest ⟨envS n sid pr, h', w'⟩ := by
  bsimp [sPrep, sPrepErr, sDecl, H.mcall, hprep]

/-- the type switch, `case []Result` -/
theorem switch_results (a N : Nat) (h : Heap) (w : SeqW) (f : Nat) :
    execStmt W (f + 8) sSwitch ⟨envS n sid (.slice a 0 N), h, w⟩
      = some (.next, ⟨("items", .slice a 0 N) :: ("err", .nil) :: ("prepResult", .slice a 0 N) :: env0 n sid, h, w⟩) := by
  bsimp [sSwitch, H.assert]

/-- the type switch, `case []any` -/
theorem switch_anys (l : List Val) (w : SeqW) (c : Nat) :
    execStmt W (l.length + c + 13) sSwitch ⟨envS n sid (.anys l), [], w⟩
      = some (.next, ⟨envT n sid (.anys l) l.length, [l.map newResult], w⟩) := by
  have hl := wrap_loop W (("v", .anys l) :: ("items", .slice 0 0 l.length) :: ("err", .nil) :: ("prepResult", .anys l) :: env0 n sid)
    l.length w (by simp [GoIR.Env.get]) c l 0 (List.replicate l.length ⟨Val.nil, none⟩) (by omega) (by simp)
  simp only [env0, wrapBody_eq, List.take_zero, List.nil_append] at hl
  bsimp [sSwitch, H.assert, hl]

/-- the type switch, `default` -/
theorem switch_default (pr : GV) (l : List Val)
    (hnotRes : ∀ w, (batchWorld kind n v cfg scr).assert pr "[]Result" w = some (.nil, false))
    (hnotAnys : ∀ w, (batchWorld kind n v cfg scr).assert pr "[]any" w = some (.nil, false))
    (hslice : ∀ h w, (batchWorld kind n v cfg scr).call "ToSlice" [pr] h w = some ([.anys l], h, w)) (w : SeqW) (c : Nat) :
    execStmt W (l.length + c + 15) sSwitch ⟨envS n sid pr, [], w⟩
      = some (.next, ⟨envT n sid pr l.length, [l.map newResult], w⟩) := by
  have hl := wrap_loop W (("slice", .anys l) :: ("v", pr) :: ("items", .slice 0 0 l.length) :: ("err", .nil) :: ("prepResult", pr) :: env0 n sid)
    l.length w (by simp [GoIR.Env.get]) c l 0 (List.replicate l.length ⟨Val.nil, none⟩) (by omega) (by simp)
  simp only [env0, wrapBody_eq, List.take_zero, List.nil_append] at hl
  simp [stm, Block.stmtAt, Flyt.Expected.IR.runBatch, block_cons, block_nil, execStmt, evalRhs, isCommaOk, evalCommaOk, evalExpr, evalArgs, switchCases,
      Cases.ofList, GoIR.Env.get, GoIR.Env.set, GoIR.Env.push, GoIR.Env.pushAll, popSt, GoIR.Env.popTo, assignAll, assignTo,
      Exprs.toList, Exprs.length, env0, envS, envT, sSwitch, H.assert, H.toSlice, hnotRes, hnotAnys, hslice, hl]

theorem through_switch (pr : GV) (h' : Heap) (w' : SeqW) (ctx : Ctx) (st1 : St SeqW) (f : Nat)
    (hprep : (batchWorld kind n v cfg scr).mcall (.node n) "Prep" [ctxH, storeH sid] [] ⟨[], ctx⟩ = some ([pr, .nil], h', w'))
    (hsw : execStmt W (f + 4) sSwitch ⟨envS n sid pr, h', w'⟩ = some (.next, st1)) :
    execBlock W (f + 8) Flyt.Expected.IR.runBatch.body ⟨env0 n sid, [], ⟨[], ctx⟩⟩
      = execBlock W (f + 4) (.cons sEmpty mainTail) st1 := by
  rw [body_eq, prefix_ok sid H pr h' w' ctx hprep, show f + 5 = (f + 4) + 1 from rfl, block_cons, hsw]

/-- the last three statements after a `Post` without error: the action it returned, normalised -/
theorem postTail_ok (a : String) (env : GoIR.Env) (hnil : env.get "nil" = none) (hda : env.get "DefaultAction" = none)
    (h : Heap) (w : SeqW) (f : Nat) :
    execBlock W (f + 10) postTail ⟨("err", .nil) :: ("action", .str a) :: env, h, w⟩
      = some (.ret [.str (norm a), .nil], ⟨("err", .nil) :: ("action", .str (norm a)) :: env, h, w⟩) := by
  by_cases ha : a = ""
  · subst ha
    bsimp [postTail, hnil, hda, H.global, norm]
  · have hb : (a == "") = false := by simp [ha]
    bsimp [postTail, hnil, hda, norm, ha, hb]

omit H in
theorem postTail_err (a : String) (e : ErrRoot) (env : GoIR.Env) (hnil : env.get "nil" = none) (h : Heap) (w : SeqW) (f : Nat) :
    execBlock W (f + 10) postTail ⟨("err", .err e) :: ("action", .str a) :: env, h, w⟩
      = some (.ret [.str "", .err e], ⟨("err", .err e) :: ("action", .str a) :: env, h, w⟩) := by
  bsimp [postTail, hnil]

/-- the non-empty batch up to the executor call: `concurrency` and `errorHandling` read off the batch node, `results` made -/
theorem config_spec (pr : GV) (items : List Result) (hne : items ≠ []) (w : SeqW) (f : Nat) (rest : Block) :
    execBlock W (f + 17) (.cons sEmpty (.cons (stm 5) (.cons (stm 6) (.cons sCfg (.cons sResults rest))))) ⟨envT n sid pr items.length, [items], w⟩
      = execBlock W (f + 12) rest ⟨envX n sid pr items.length cfg, [items, List.replicate items.length ⟨Val.nil, none⟩], w⟩ := by
  have h0 : ((items.length : Int) == 0) = false := by
    cases items with
    | nil => exact absurd rfl hne
    | cons x xs => simp; omega
  bsimp [sEmpty, sCfg, sResults, H.mcall, H.assert, h0]

omit H in
theorem exec_spec (pr : GV) (N : Nat) (h h' : Heap) (w w' : SeqW)
    (hseq : ¬ cfg.conc > 0 → W.call "runBatchSequential" [ctxH, .node n, .slice 0 0 N, .slice 1 0 N, .str (ehOf cfg)] h w
      = some ([], h', w'))
    (hpool : cfg.conc > 0 → W.call "runBatchConcurrent" [ctxH, .node n, .slice 0 0 N, .slice 1 0 N, .int cfg.conc, .str (ehOf cfg)] h w
      = some ([], h', w')) (f : Nat) :
    execStmt W (f + 11) sExec ⟨envX n sid pr N cfg, h, w⟩ = some (.next, ⟨envX n sid pr N cfg, h', w'⟩) := by
  by_cases hc : cfg.conc > 0
  · have h1 : 0 < cfg.conc := hc
    bsimp [sExec, h1, hpool hc]
  · have h1 : ¬ 0 < cfg.conc := hc
    bsimp [sExec, h1, hseq hc]

theorem sPost_spec (pr : GV) (items slots : List Result) (hl : slots.length = items.length) (w : SeqW) (f : Nat) :
    execStmt W (f + 8) sPost ⟨envX n sid pr items.length cfg, [items, slots], w⟩
      = some (.next, ⟨("err", (postOut kind n v sid cfg scr items slots w).2.1)
            :: ("action", .str (postOut kind n v sid cfg scr items slots w).1) :: envX n sid pr items.length cfg,
          [items, slots], (postOut kind n v sid cfg scr items slots w).2.2⟩) := by
  have hp := W_post kind n v sid cfg scr n ctxH (.slice 0 0 items.length) (.slice 1 0 items.length) [items, slots] w items slots
    (by simp [readWindow]) (by simp [readWindow, ← hl])
  bsimp [sPost, H.mcall, hp]

theorem sPostEmpty_spec (pr : GV) (c0 : List Result) (w : SeqW) (f : Nat) :
    execStmt W (f + 8) sPostEmpty ⟨envT n sid pr 0, [c0], w⟩
      = some (.next, ⟨("err", (postOut kind n v sid cfg scr [] [] w).2.1)
            :: ("action", .str (postOut kind n v sid cfg scr [] [] w).1) :: envT n sid pr 0,
          [c0, [], []], (postOut kind n v sid cfg scr [] [] w).2.2⟩) := by
  have hp := W_post kind n v sid cfg scr n ctxH (.slice 1 0 0) (.slice 2 0 0) [c0, [], []] w [] [] rfl rfl
  bsimp [sPostEmpty, emptyBody, sEmpty, H.mcall, hp]

omit H in
/-- the empty batch takes the branch; `6`: the length of `envT` -/
theorem sEmpty_spec (pr : GV) (h : Heap) (w : SeqW) (f : Nat) :
    execStmt W (f + 6) sEmpty ⟨envT n sid pr 0, h, w⟩
      = (execBlock W (f + 5) emptyBody ⟨envT n sid pr 0, h, w⟩).map fun (c, st) => (c, popSt st 6) := by
  rw [show sEmpty = .ifS B[] (.bin "==" (.call "len" E[(.var "items")]) (.int 0)) emptyBody B[] from rfl]
  bsimp []

/-- the model's `runBatch` from the `Post` call on: items and slots handed to `Post`, recording so far `w` -/
def postModel (kind : CtxKind) (n : NodeId) (v : Nat) (sid : StoreId) (cfg : BatchCfg) (scr : BatchScript)
    (items slots : List Result) (w : SeqW) : List Ev × Ctx × Outcome :=
  if cfg.hasPost then
    match scr.post.res with
    | .error e => (w.evs ++ [.bpost n v sid (items.map Result.box) (slots.map Result.box)], w.ctx.after kind scr.post.cancels,
        .err (.user e))
    | .ok a => (w.evs ++ [.bpost n v sid (items.map Result.box) (slots.map Result.box)], w.ctx.after kind scr.post.cancels,
        .ok (norm a))
  else (w.evs, w.ctx, .ok defaultAction)

/-- a statement that leaves `action, err := Post(…)` on the environment, followed by the last three statements -/
theorem post_obs (sP : Stmt) (st : St SeqW) (env : GoIR.Env) (hnil : env.get "nil" = none) (hda : env.get "DefaultAction" = none)
    (items slots : List Result) (h' : Heap) (f : Nat)
    (hP : execStmt W (f + 10) sP st
      = some (.next, ⟨("err", (postOut kind n v sid cfg scr items slots st.w).2.1)
            :: ("action", .str (postOut kind n v sid cfg scr items slots st.w).1) :: env, h',
          (postOut kind n v sid cfg scr items slots st.w).2.2⟩)) :
    ∃ rs st', execBlock W (f + 11) (.cons sP postTail) st = some (.ret rs, st') ∧
      obs (some (.ret rs, st')) = some (postModel kind n v sid cfg scr items slots st.w) := by
  rw [block_cons, hP]
  unfold postOut postModel
  cases cfg.hasPost
  · exact ⟨_, _, postTail_ok H _ _ hnil hda _ _ _, by simp [obs, outcomeOf, norm, defaultAction]⟩
  · cases scr.post.res with
    | error e => exact ⟨_, _, postTail_err _ _ _ hnil _ _ _, by simp [obs, outcomeOf]⟩
    | ok a => exact ⟨_, _, postTail_ok H _ _ hnil hda _ _ _, by simp [obs, outcomeOf]⟩

/-- the model's `runBatch` from the normalised items on -/
def modelTail (kind : CtxKind) (n : NodeId) (v : Nat) (sid : StoreId) (cfg : BatchCfg) (scr : BatchScript)
    (items : List Result) (ctx1 : Ctx) : List Ev × Ctx × Outcome :=
  if items.isEmpty then postModel kind n v sid cfg scr [] [] ⟨[.bprep n v sid], ctx1⟩
  else
    let r := if cfg.conc > 0 then itemsSerialPool kind n v cfg scr items 0 false ctx1 else itemsSeq kind n v cfg scr items 0 ctx1
    postModel kind n v sid cfg scr items r.2.2 ⟨[.bprep n v sid] ++ r.1, r.2.1⟩

omit H in
theorem runBatch_eq (ctx : Ctx) :
    Flyt.runBatch kind n v sid cfg scr ctx =
      (match scr.prep.res with
       | .error e => ([.bprep n v sid], ctx.after kind scr.prep.cancels, .err (.user e))
       | .ok l => modelTail kind n v sid cfg scr (normItems cfg.shape l) (ctx.after kind scr.prep.cancels)) := by
  unfold Flyt.runBatch modelTail postModel
  cases scr.prep.res with
  | error e => rfl
  | ok l =>
    simp only []
    cases (normItems cfg.shape l).isEmpty
    · rcases (if cfg.conc > 0 then itemsSerialPool kind n v cfg scr (normItems cfg.shape l) 0 false (ctx.after kind scr.prep.cancels)
        else itemsSeq kind n v cfg scr (normItems cfg.shape l) 0 (ctx.after kind scr.prep.cancels)) with ⟨iev, ctx2, slots⟩
      cases cfg.hasPost <;> cases scr.post.res <;> rfl
    · cases cfg.hasPost <;> cases scr.post.res <;> rfl

/-- everything after the type switch -/
theorem tail_spec (pr : GV) (items : List Result)
    (hseq : ¬ cfg.conc > 0 → Calls n W "runBatchSequential" [.str (ehOf cfg)] items (itemsSeq kind n v cfg scr items 0))
    (hpool : cfg.conc > 0 →
      Calls n W "runBatchConcurrent" [.int cfg.conc, .str (ehOf cfg)] items (itemsSerialPool kind n v cfg scr items 0 false))
    (ctx1 : Ctx) (c : Nat) :
    obs (execBlock W (c + 17) (.cons sEmpty mainTail) ⟨envT n sid pr items.length, [items], ⟨[.bprep n v sid], ctx1⟩⟩)
      = some (modelTail kind n v sid cfg scr items ctx1) := by
  unfold modelTail
  by_cases hne : items = []
  · subst hne
    obtain ⟨rs, st', h1, h2⟩ := post_obs sid H sPostEmpty ⟨envT n sid pr 0, [[]], ⟨[.bprep n v sid], ctx1⟩⟩ _ rfl rfl [] [] _ (c + 4)
      (sPostEmpty_spec sid H pr [] _ (c + 6))
    simp only [List.isEmpty_nil, List.length_nil, ↓reduceIte]
    rw [block_cons, show c + 16 = (c + 10) + 6 from rfl, sEmpty_spec, emptyBody_eq, show c + 10 + 5 = c + 4 + 11 from rfl, h1]
    exact h2
  · have hie : items.isEmpty = false := by cases items <;> simp_all
    rw [hie, mainTail_eq, config_spec sid H pr items hne, block_cons]
    generalize hr : (if cfg.conc > 0 then itemsSerialPool kind n v cfg scr items 0 false ctx1
      else itemsSeq kind n v cfg scr items 0 ctx1) = r
    have hlen : r.2.2.length = items.length := by
      subst hr
      split
      · exact itemsSerialPool_length kind n v cfg scr items 0 false ctx1
      · exact itemsSeq_length kind n v cfg scr items 0 ctx1
    rw [exec_spec sid pr items.length _ [items, r.2.2] _ ⟨[.bprep n v sid] ++ r.1, r.2.1⟩
      (fun hc => by rw [← hr, if_neg hc]; exact hseq hc _) (fun hc => by rw [← hr, if_pos hc]; exact hpool hc _) c]
    obtain ⟨rs, st', h1, h2⟩ := post_obs sid H sPost ⟨envX n sid pr items.length cfg, [items, r.2.2], ⟨[.bprep n v sid] ++ r.1, r.2.1⟩⟩
      _ rfl rfl items r.2.2 _ c (sPost_spec sid H pr items r.2.2 hlen _ (c + 2))
    simp only [Bool.false_eq_true, ↓reduceIte]
    rw [h1]
    exact h2

/-- statements 1–4 when prep succeeds: whatever shape the prep values have, the items end up normalised in cell 0 -/
theorem switch_spec (l : List Val) (hp : scr.prep.res = .ok l) (ctx : Ctx) (c : Nat) :
    ∃ pr, execBlock W (l.length + c + 21) Flyt.Expected.IR.runBatch.body ⟨env0 n sid, [], ⟨[], ctx⟩⟩
      = execBlock W (l.length + c + 17) (.cons sEmpty mainTail)
          ⟨envT n sid pr (normItems cfg.shape l).length, [normItems cfg.shape l],
            ⟨[.bprep n v sid], ctx.after kind scr.prep.cancels⟩⟩ := by
  have hf : l.length + c + 21 = (l.length + c + 13) + 8 := by omega
  have hf' : l.length + c + 17 = (l.length + c + 13) + 4 := by omega
  rw [hf, hf']
  cases hS : cfg.shape with
  | results =>
    refine ⟨.slice 0 0 l.length, ?_⟩
    rw [through_switch sid H (.slice 0 0 l.length) ([l.map toResult]) ⟨[.bprep n v sid], ctx.after kind scr.prep.cancels⟩ ctx _ _
      (by simp [W_prep, hp, hS]) (by rw [show l.length + c + 13 + 4 = (l.length + c + 9) + 8 from by omega]; exact switch_results sid H 0 l.length _ _ _)]
    simp [normItems, envT]
  | anys =>
    refine ⟨.anys l, ?_⟩
    rw [through_switch sid H (.anys l) [] ⟨[.bprep n v sid], ctx.after kind scr.prep.cancels⟩ ctx _ _
      (by simp [W_prep, hp, hS]) (by rw [show l.length + c + 13 + 4 = l.length + (c + 4) + 13 from by omega]; exact switch_anys sid H l _ _)]
    simp [normItems]
  | typed =>
    refine ⟨.ref "typed" 0, ?_⟩
    rw [through_switch sid H (.ref "typed" 0) [] ⟨[.bprep n v sid], ctx.after kind scr.prep.cancels⟩ ctx _ _
      (by simp [W_prep, hp, hS]) (by rw [show l.length + c + 13 + 4 = l.length + (c + 2) + 15 from by omega]; exact switch_default sid H _ l (fun _ => rfl) (fun _ => rfl) (by simp [W_toSlice, hp, hS]) _ _)]
    simp [normItems]
  | single =>
    have hle : (l.take 1).length ≤ l.length := by simp; omega
    refine ⟨.ref "single" 0, ?_⟩
    rw [through_switch sid H (.ref "single" 0) [] ⟨[.bprep n v sid], ctx.after kind scr.prep.cancels⟩ ctx _ _
      (by simp [W_prep, hp, hS]) (by rw [show l.length + c + 13 + 4 = (l.take 1).length + (l.length - (l.take 1).length + c + 2) + 15 from by omega]; exact switch_default sid H _ (l.take 1) (fun _ => rfl) (fun _ => rfl) (by simp [W_toSlice, hp, hS]) _ _)]
    simp [normItems]
  | nilv =>
    refine ⟨.nil, ?_⟩
    rw [through_switch sid H (.nil) [] ⟨[.bprep n v sid], ctx.after kind scr.prep.cancels⟩ ctx _ _
      (by simp [W_prep, hp, hS]) (by rw [show l.length + c + 13 + 4 = ([] : List Val).length + (l.length + c + 2) + 15 from by simp]; exact switch_default sid H _ [] (fun _ => rfl) (fun _ => rfl) (by simp [W_toSlice, hp, hS]) _ _)]
    simp [normItems, envT]

/-- **`runBatch` in `W`**: the run of the translated body, read as `runBatchIR` reads it, is the model's `runBatch` -/
theorem refines_in
    (hseq : ¬ cfg.conc > 0 → ∀ l, scr.prep.res = .ok l →
      Calls n W "runBatchSequential" [.str (ehOf cfg)] (normItems cfg.shape l) (itemsSeq kind n v cfg scr (normItems cfg.shape l) 0))
    (hpool : cfg.conc > 0 → ∀ l, scr.prep.res = .ok l →
      Calls n W "runBatchConcurrent" [.int cfg.conc, .str (ehOf cfg)] (normItems cfg.shape l)
        (itemsSerialPool kind n v cfg scr (normItems cfg.shape l) 0 false))
    (ctx : Ctx) (c : Nat) :
    obs (execBlock W (prepLen scr + c + 21) Flyt.Expected.IR.runBatch.body ⟨env0 n sid, [], ⟨[], ctx⟩⟩)
      = some (Flyt.runBatch kind n v sid cfg scr ctx) := by
  rw [runBatch_eq]
  cases hp : scr.prep.res with
  | error e =>
    rw [body_eq, show prepLen scr + c + 21 = (prepLen scr + c + 9) + 12 from by omega, prefix_err sid H e hp]
    simp [obs, outcomeOf]
  | ok l =>
    obtain ⟨pr, h⟩ := switch_spec sid H l hp ctx c
    rw [show prepLen scr = l.length from by simp [prepLen, hp], h]
    exact tail_spec sid H pr _ (fun hc => hseq hc l hp) (fun hc => hpool hc l hp) _ _

end

end Batch

/-- interpreter fuel for `runBatch`: one level per prep value (the `range` loop that wraps them) plus a constant -/
def batchFuel (scr : BatchScript) : Nat := Batch.prepLen scr + 21

/-- **the translated `runBatch` (batch.go:156) refines the model's `runBatch`** in `batchWorld`, for every interpreter fuel
    `≥ batchFuel scr` -/
theorem runBatch_refines_of_le (kind : CtxKind) (n : NodeId) (v : Nat) (sid : StoreId) (cfg : BatchCfg) (scr : BatchScript)
    (ctx : Ctx) (fuel : Nat) (hf : batchFuel scr ≤ fuel) :
    GoIR.runBatchIR fuel Flyt.Expected.IR.runBatch kind n v sid cfg scr ctx
      = some (Flyt.runBatch kind n v sid cfg scr ctx) := by
  obtain ⟨c, rfl⟩ := Nat.exists_eq_add_of_le hf
  rw [show batchFuel scr + c = Batch.prepLen scr + c + 21 from by unfold batchFuel; omega]
  exact (Batch.obs_callFunc _ _ n sid ctx).trans
    (Batch.refines_in sid (Batch.Agrees.refl kind n v cfg scr) (fun _ l _ => Batch.W_seq kind n v cfg scr _)
      (fun _ l _ => Batch.W_pool kind n v cfg scr _) ctx c)

theorem runBatch_refines (kind : CtxKind) (n : NodeId) (v : Nat) (sid : StoreId) (cfg : BatchCfg) (scr : BatchScript)
    (ctx : Ctx) :
    GoIR.runBatchIR (batchFuel scr) Flyt.Expected.IR.runBatch kind n v sid cfg scr ctx
      = some (Flyt.runBatch kind n v sid cfg scr ctx) :=
  runBatch_refines_of_le kind n v sid cfg scr ctx (batchFuel scr) (Nat.le_refl _)

end Flyt.Refine
