import FlytModel.Refine.FlowBuild
import FlytModel.Refine.FlowExec
import FlytModel.Props.C03
/-!
# Bridge: C03 (routing follows the transition table) for a flow BUILT through the interpreted API and RUN by the interpreted `Flow.Exec`

Construction (`Refine/FlowBuild.lean`, world `flowBuildWorld`) leaves a flow object whose view is `buildTable ops`. Execution
(`Refine/FlowExec.lean`, world `flowWorld env start tbl`) ANSWERS the reads `f.start`, `f.transitions[cur]`, `…[action]` from its
parameters: that the flow at hand holds this table is that world's assumption. Here it is discharged: `Flow.Exec` runs in the execution
world instantiated with what the built object holds (`o.start`, `view o`), and the two worlds answer every read of the flow identically.

Still assumed (the execution world's reading, `GoIR/Worlds.lean`): a nested `Run(ctx, current, shared)` is the model's `runNode` (its own
refinement: `Refine/Run.lean`, `Refine/RunNode.lean`); the two worlds use different handles for the flow (`.node fid` / `.ref "flow" 0`)
— a flow has no identity beyond its fields in either.
-/
namespace Flyt.Refine.Bridges
open Flyt Flyt.GoIR Flyt.GoIR.FlowBuildW Flyt.Expected.IR Flyt.Refine Flyt.Refine.FlowBuild Flyt.Proofs

/-- `Flow.Exec` in the execution world whose answers about the flow are read off the construction-world object `o` -/
def flowExecOnObj (fuel : Nat) (f : Func) (env : Flyt.Env) (fid : NodeId) (o : Obj) (mfuel : Nat) (sid : StoreId) (st : RunSt) :
    Option (List Ev × RunSt × Outcome) :=
  match callFunc (flowWorld env o.start (view o)) fuel f [.node fid, ctxH, storeH sid] [] ⟨[], st, mfuel⟩ with
  | some (rs, _, w) => (flowOutcomeOf rs).map fun out => (w.evs, w.st, out)
  | none => none

/-- `Run(ctx, flow, shared)` likewise -/
def runFlowNodeOnObj (fuel : Nat) (f : Func) (env : Flyt.Env) (fid : NodeId) (o : Obj) (mfuel : Nat) (sid : StoreId) (st : RunSt) :
    Option (List Ev × RunSt × Outcome) :=
  match callFunc (flowNodeWorld env o.start (view o)) fuel f [ctxH, .node fid, storeH sid] [] ⟨[], st, mfuel⟩ with
  | some (rs, _, w) => (outcomeOf rs).map fun out => (w.evs, w.st, out)
  | none => none

theorem flowExecOnObj_built {o : Obj} {start : Option NodeId} {ops : List ConnOp} (hs : o.start = start) (hv : view o = buildTable ops)
    (fuel : Nat) (f : Func) (env : Flyt.Env) (fid : NodeId) (mfuel : Nat) (sid : StoreId) (st : RunSt) :
    flowExecOnObj fuel f env fid o mfuel sid st = flowExecIR fuel f env fid start ops mfuel sid st := by
  unfold flowExecOnObj; rw [hs, hv]; rfl

theorem runFlowNodeOnObj_built {o : Obj} {start : Option NodeId} {ops : List ConnOp} (hs : o.start = start) (hv : view o = buildTable ops)
    (fuel : Nat) (f : Func) (env : Flyt.Env) (fid : NodeId) (mfuel : Nat) (sid : StoreId) (st : RunSt) :
    runFlowNodeOnObj fuel f env fid o mfuel sid st = runFlowNodeIR fuel f env fid start ops mfuel sid st := by
  unfold runFlowNodeOnObj; rw [hs, hv]; rfl

/-- the two-level lookup of `Flow.Exec` (`f.transitions[n]`, then `[a]` on what that yields) as the EXECUTION world answers it -/
def lookupFW (env : Flyt.Env) (start : Option NodeId) (tbl : Table) (n : NodeId) (a : Action) : Option (Option (Option NodeId)) :=
  let W := flowWorld env start tbl
  match W.mapIndex (.ref "trans" 0) (.node n) idle with
  | some (m, true) =>
    (match W.mapIndex m (.str a) idle with
     | some (v, true) => (tgtOf v).map some
     | some (_, false) => some none
     | none => none)
  | some (_, false) => some none
  | none => none

theorem lookupFW_eq (env : Flyt.Env) (start : Option NodeId) (tbl : Table) (n : NodeId) (a : Action) :
    lookupFW env start tbl n a = some (tableLookup tbl n a) := by
  have h1 : (flowWorld env start tbl).mapIndex (.ref "trans" 0) (.node n) idle =
      (match assocGet tbl n with
       | some _ => some (.ref "inner" n, true)
       | none => some (.nil, false)) := rfl
  have h2 : (flowWorld env start tbl).mapIndex (.ref "inner" n) (.str a) idle =
      (match (assocGet tbl n).bind (assocGet · a) with
       | some (some nxt) => some (.node nxt, true)
       | some none => some (.nil, true)
       | none => some (.nil, false)) := rfl
  unfold lookupFW tableLookup
  simp only [h1]
  cases hg : assocGet tbl n with
  | none => rfl
  | some inner =>
    simp only [h2, hg, Option.bind_some]
    cases hi : assocGet inner a with
    | none => rfl
    | some d => cases d <;> rfl

/-- the two worlds agree on every read of the flow: the `start` field, and the lookup through the object's heap of inner-map objects
    against the lookup the execution world performs on its view -/
theorem worlds_agree_on_reads (env : Flyt.Env) (fid : NodeId) (o : Obj) (hwf : o.WF) :
    (∀ w : FlowW, (flowWorld env o.start (view o)).field (.node fid) "start" w = some (tgtGV o.start)) ∧
    (∀ (w : FBW), w.obj = o → (flowBuildWorld env fid).field flowH "start" w = some (tgtGV o.start)) ∧
    (∀ n a, lookupW o n a = lookupFW env o.start (view o) n a) := by
  refine ⟨fun w => ?_, fun w hw => by rw [← hw]; rfl, fun n a => ?_⟩
  · cases h : o.start <;> simp [flowWorld_field, tgtGV]
  · rw [lookup_refines o hwf.2, lookupFW_eq]

/-- `NewFlow(start)` and one `Connect` per element of `ops` (each on the flow the previous call returned), run by the interpreter,
    yield an object `o'`; the interpreted `Flow.Exec`, in the execution world that answers from `o'`, returns
    `flowLoop env mfuel (buildTable ops) start sid st` — events, run state, outcome.
    `hne`: the model's own fuel `mfuel` (a ghost: it says which `runNode env ·` a nested `Run` denotes) does not run out. -/
theorem built_flow_exec_is_flowLoop (env : Flyt.Env) (fid start : NodeId) (ops : List ConnOp) (mfuel : Nat) (sid : StoreId) (st : RunSt)
    (bfuel : Nat) (hb : newFlowFuel ≤ bfuel) (fuel : Nat) (hfuel : mfuel + 40 ≤ fuel)
    (hne : (flowLoop env mfuel (buildTable ops) start sid st).2.2 ≠ .fuel) :
    ∃ o', buildFlowIR bfuel NewFlow Flow_Connect (some start) ops = some (flowH, o') ∧
      o'.WF ∧ o'.start = some start ∧ view o' = buildTable ops ∧
      (∀ n a, lookupW o' n a = lookupFW env o'.start (view o') n a) ∧
      flowExecOnObj fuel Flow_Exec env fid o' mfuel sid st = some (flowLoop env mfuel (buildTable ops) start sid st) := by
  obtain ⟨o', hbuild, hv, hs, _, hwf⟩ := buildFlowIR_refines bfuel hb (some start) ops
  refine ⟨o', hbuild, hwf, hs, hv, (worlds_agree_on_reads env fid o' hwf).2.2, ?_⟩
  rw [flowExecOnObj_built hs hv]
  exact FlowExec_refines_flowLoop_ge env fid start ops mfuel sid st fuel hfuel hne

/-- built WITHOUT a start node (`NewFlow(nil)`): `Flow.Exec` fails with "no start node configured", whatever was connected -/
theorem built_flow_exec_no_start (env : Flyt.Env) (fid : NodeId) (ops : List ConnOp) (mfuel : Nat) (sid : StoreId) (st : RunSt)
    (bfuel : Nat) (hb : newFlowFuel ≤ bfuel) (fuel : Nat) (hfuel : 40 ≤ fuel) :
    ∃ o', buildFlowIR bfuel NewFlow Flow_Connect none ops = some (flowH, o') ∧
      flowExecOnObj fuel Flow_Exec env fid o' mfuel sid st = some ([], st, .err (.fw .noStart)) := by
  obtain ⟨o', hbuild, hv, hs, _, _⟩ := buildFlowIR_refines bfuel hb none ops
  refine ⟨o', hbuild, ?_⟩
  rw [flowExecOnObj_built hs hv]
  exact FlowExec_no_start_ge env fid ops mfuel sid st fuel hfuel

/-- `Run(ctx, flow, shared)` on the built flow is the model's `runNode` on a node `fid` that the arena holds as the flow these API
    calls describe (`harena`) -/
theorem built_flow_Run_is_runNode (env : Flyt.Env) (fid : NodeId) (start : Option NodeId) (ops : List ConnOp) (mfuel : Nat) (sid : StoreId)
    (st : RunSt) (bfuel : Nat) (hb : newFlowFuel ≤ bfuel) (fuel : Nat) (hfuel : flowNodeFuel ≤ fuel)
    (harena : env.arena fid = .flow start ops) (hne : (runNode env (mfuel + 1) fid sid st).2.2 ≠ .fuel) :
    ∃ o', buildFlowIR bfuel NewFlow Flow_Connect start ops = some (flowH, o') ∧
      runFlowNodeOnObj fuel Flyt.Expected.IR.Run env fid o' mfuel sid st = some (runNode env (mfuel + 1) fid sid st) := by
  obtain ⟨o', hbuild, hv, hs, _, _⟩ := buildFlowIR_refines bfuel hb start ops
  refine ⟨o', hbuild, ?_⟩
  rw [runFlowNodeOnObj_built hs hv]
  exact Run_refines_runNode_flow_of_le env fid start ops mfuel sid st harena hne fuel hfuel

/-- **C03 for the interpreted source.** For the object `o'` the interpreted `NewFlow(start)` + `Connect` calls built and the run the
    interpreted `Flow.Exec` makes on it: a lookup through the object's heap of inner maps yields for `(n, a)` the target of the most
    recent `Connect` for exactly that pair (`none`: never connected, `some none`: connected to nil); the run splits into genuine visits
    chained by `IsPath`; a returned action is that of the last node visited, which has no non-nil connection for it; with the context
    live before and after, the visited nodes are `route ops start` of the visits' outcomes. -/
theorem C03_for_interpreted_source (env : Flyt.Env) (fid start : NodeId) (ops : List ConnOp) (mfuel : Nat) (sid : StoreId) (st : RunSt)
    (bfuel : Nat) (hb : newFlowFuel ≤ bfuel) (fuel : Nat) (hfuel : mfuel + 40 ≤ fuel)
    (hne : (flowLoop env mfuel (buildTable ops) start sid st).2.2 ≠ .fuel) :
    ∃ o' evs st' out,
      buildFlowIR bfuel NewFlow Flow_Connect (some start) ops = some (flowH, o') ∧
      flowExecOnObj fuel Flow_Exec env fid o' mfuel sid st = some (evs, st', out) ∧
      (∀ n a, lookupW o' n a = some ((ops.reverse.find? (fun c => c.src = n ∧ c.action = a)).map (·.dst))) ∧
      ∃ vs : List Visit, IsPath ops start st vs st' out ∧ evs = vs.flatMap (·.evs) ∧ (∀ v ∈ vs, v.Genuine env sid) ∧
        (∀ a, out = .ok a → ∃ v, vs.getLast? = some v ∧ v.out = .ok a ∧ (next ops v.node a = none ∨ next ops v.node a = some none)) ∧
        (st.ctx = .live → st'.ctx = .live → vs.map (·.node) = route ops start (vs.map (·.out))) := by
  obtain ⟨o', hbuild, hwf, _, hv, _, hexec⟩ := built_flow_exec_is_flowLoop env fid start ops mfuel sid st bfuel hb fuel hfuel hne
  rcases hfl : flowLoop env mfuel (buildTable ops) start sid st with ⟨evs, st', out⟩
  rw [hfl] at hexec hne
  obtain ⟨vs, hp, he, hg⟩ := Props.C03.exec_follows_table env mfuel ops start sid st hfl hne
  refine ⟨o', evs, st', out, hbuild, hexec, fun n a => ?_, vs, hp, he, hg, ?_, ?_⟩
  · rw [lookup_refines o' hwf.2, hv, Props.C03.table_last_write_wins]
  · rintro a rfl; exact Props.C03.ok_ends_at_unconnected ops start st st' vs a hp
  · intro hl hl'; exact Props.C03.path_is_determined ops start st st' vs out hp hl' hl

/-- C03, overwriting: one more interpreted `Connect(op.src, op.action, op.dst)` on the built object makes the lookup for
    `(op.src, op.action)` yield `op.dst` (a nil target included) and leaves every other pair as it was -/
theorem C03_reconnect_for_interpreted_source (start : Option NodeId) (ops : List ConnOp) (op : ConnOp)
    (bfuel : Nat) (hb : newFlowFuel ≤ bfuel) (cfuel : Nat) (hc : connectFuel ≤ cfuel) :
    ∃ o' o'', buildFlowIR bfuel NewFlow Flow_Connect start ops = some (flowH, o') ∧
      run cfuel Flow_Connect [flowH, .node op.src, .str op.action, tgtGV op.dst] o' = some ([flowH], o'') ∧
      view o'' = buildTable (ops ++ [op]) ∧ o''.start = start ∧
      ∀ n a, lookupW o'' n a = some (if op.src = n ∧ op.action = a then some op.dst else tableLookup (buildTable ops) n a) ∧
        lookupW o' n a = some (tableLookup (buildTable ops) n a) := by
  obtain ⟨o', hbuild, hv, hs, _, hwf⟩ := buildFlowIR_refines bfuel hb start ops
  obtain ⟨hrun, hv', hs', _, hwf'⟩ := Flow_Connect_refines_of_le cfuel hc o' hwf op
  have hview : view (connectObj o' op) = buildTable (ops ++ [op]) := by
    rw [hv', hv]; simp [buildTable, List.foldl_append]
  refine ⟨o', connectObj o' op, hbuild, hrun, hview, hs'.trans hs, fun n a => ⟨?_, ?_⟩⟩
  · rw [lookup_refines _ hwf'.2, hview, Props.C03.connect_overwrites_one_pair]
  · rw [lookup_refines _ hwf.2, hv]

/-- non-vacuity of `hne`: the inner flow `4 -x-> 5` of `Proofs/ExampleEnv.lean`, built and run by the interpreter, ends with the
    action `"y"` of node 5 -/
example : ∃ o' evs st', buildFlowIR 10 NewFlow Flow_Connect (some 4) [⟨4, "x", some 5⟩] = some (flowH, o') ∧
    flowExecOnObj 50 Flow_Exec Ex.env1 2 o' 10 0 Ex.st0 = some (evs, st', .ok "y") := by
  have hne : (flowLoop Ex.env1 10 (buildTable [⟨4, "x", some 5⟩]) 4 0 Ex.st0).2.2 ≠ .fuel := by decide
  obtain ⟨o', h1, _, _, _, _, h2⟩ :=
    built_flow_exec_is_flowLoop Ex.env1 2 4 [⟨4, "x", some 5⟩] 10 0 Ex.st0 10 (by decide) 50 (by decide) hne
  have hout : (flowLoop Ex.env1 10 (buildTable [⟨4, "x", some 5⟩]) 4 0 Ex.st0).2.2 = .ok "y" := by decide
  exact ⟨o', _, _, h1, by rw [h2, ← hout]⟩

end Flyt.Refine.Bridges
