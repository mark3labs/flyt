import FlytModel.Refine.SourceBase
import FlytModel.Refine.SourceC01
import FlytModel.Refine.SourceC02
import FlytModel.Refine.SourceC04
import FlytModel.Refine.SourceC05
import FlytModel.Refine.SourceC06
import FlytModel.Refine.SourceC07
import FlytModel.Refine.SourceC09
import FlytModel.Refine.SourceC10
import FlytModel.Refine.SourceC11
import FlytModel.Refine.SourceC17
import FlytModel.Refine.SourceC18
import FlytModel.Refine.SourceC20
/-!
# The headline property theorems, stated directly about the interpreted source

`Props/Cnn.lean` proves the properties about the model; `Refine/*.lean` proves that the translated Go source (`Expected/IR.lean`), run
by the interpreter (`GoIR/Interp.lean`) in a world (`GoIR/Worlds.lean`), computes the model's functions at every sufficient depth. The
files imported here compose the two: each theorem is a `Props` theorem with the model function replaced by
`…IR fuel Expected.IR.<function> …`, in the form "the interpretation terminates and its result has the property", for every `fuel`
above the refinement theorem's bound. Not restated here: C03 (`Refine/BridgeFlow.lean`), C08 / C12 (`Refine/BridgePool.lean`), C13 / C14
(`Refine/BridgeStore.lean`); C15, C16, C19 are about other functions (`Refine/Accessors.lean`, `Refine/Slices.lean`, `Refine/BindR.lean`,
`Refine/Config.lean`, `Refine/Ctors.lean`).

What is assumed, in every file:
1. The corollaries are per layer: each is about one layer's interpreted source in a world where the next layer down is the model's
   function (`Run` on a flow ↦ `flowLoop`; `Flow.Exec` ↦ `runNode`; `Run` on a batch node ↦ `runBatch`; `runBatch` ↦ `itemsSeq` /
   `itemsSerialPool`; the executors ↦ `runItem`). The layers are composed into one interpreted run by `Stack.deepRun_eq_runNode`,
   `FullStack.fullRun_eq_runNode`, `FullConc.fullRun2_eq_runNode`.
2. Callbacks, dynamic types, `ctx.Err()`, `select` are the world's, driven by the same script as the model; the corollaries quantify
   over all scripts.
3. The executor corollaries need `hidx` (no repeated items, `hidx_of_nodup`), which the model theorems do not. The concurrent executor is
   covered on its serial schedule only; the `Props` theorems about the LTS `Flyt.Conc` (all schedules) are not carried over.
-/
namespace Flyt.Refine.Source

/-- a renamed or dropped theorem breaks this file -/
example := @C01_lifecycle_for_interpreted_source
example := @C01_done_context_runs_nothing_for_interpreted_source
example := @C01_prep_exactly_once_for_interpreted_source
example := @C01_phases_in_order_for_interpreted_source
example := @C01_exec_receives_prep_value_for_interpreted_source
example := @C01_post_iff_exec_produced_for_interpreted_source
example := @C01_outcome_action_xor_error_for_interpreted_source
example := @C01_outcome_never_both_for_interpreted_source
example := @C01_inside_flow_for_interpreted_source
example := @C02_attempts_never_exceed_for_interpreted_source
example := @C02_attempts_exact_for_interpreted_source
example := @C02_attempts_numbered_for_interpreted_source
example := @C02_fallback_only_after_exhaustion_for_interpreted_source
example := @C02_fallback_iff_all_failed_for_interpreted_source
example := @C02_outcome_after_retries_for_interpreted_source
example := @C02_nonretryable_single_attempt_for_interpreted_source
example := @C02_item_attempts_never_exceed_for_interpreted_source
example := @C02_item_attempts_exact_for_interpreted_source
example := @C02_item_attempts_numbered_for_interpreted_source
example := @C02_item_fallback_only_after_exhaustion_for_interpreted_source
example := @C02_item_fallback_iff_all_failed_for_interpreted_source
example := @C02_item_outcome_after_retries_for_interpreted_source
example := @C02_batch_item_own_loop_for_interpreted_source
example := @C02_batch_item_bounds_for_interpreted_source
example := @C02_batch_item_exact_for_interpreted_source
example := @C04_fail_stop_for_interpreted_source
example := @C04_user_error_transparent_for_interpreted_source
example := @C04_outcome_shapes_for_interpreted_source
example := @C04_ok_only_if_all_succeeded_for_interpreted_source
example := @C04_ok_iff_all_succeeded_for_interpreted_source
example := @C04_for_interpreted_Run_on_leaf
example := @C04_for_interpreted_runBatch
example := @C04_for_interpreted_Run_on_batch
example := @C04_for_interpreted_Flow_Exec
example := @C05_done_ctx_no_callbacks_for_interpreted_source
example := @C05_done_ctx_no_callbacks_for_interpreted_Run_on_leaf
example := @C05_done_ctx_no_further_node_for_interpreted_source
example := @C05_after_cancel_only_same_visit_for_interpreted_source
example := @C05_after_cancel_no_exec_no_other_node_for_interpreted_source
example := @C05_ctx_error_matches_ctx_for_interpreted_source
example := @C05_ctx_after_run_for_interpreted_source
example := @C05_ok_run_was_not_cut_short_for_interpreted_source
example := @C05_cut_short_never_ok_for_interpreted_source
example := @C05_for_interpreted_Run_on_leaf
example := @C06_post_once_positional_for_interpreted_source
example := @C06_post_exactly_once_and_last_for_interpreted_source
example := @C06_post_exactly_once_and_last_for_interpreted_Run
example := @C06_slots_positional_for_interpreted_source
example := @C06_slots_positional_for_interpreted_serial_pool
example := @C07_every_item_once_for_interpreted_source
example := @C07_item_independent_of_others_for_interpreted_source
example := @C07_item_processed_exactly_once_for_interpreted_source
example := @C07_item_gets_single_node_treatment_for_interpreted_source
example := @C07_item_retry_budget_and_fallback_exact_for_interpreted_source
example := @C09_stop_halts_after_first_failure_for_interpreted_source
example := @C09_never_run_never_success_for_interpreted_source
example := @C09_never_run_never_success_for_interpreted_serial_pool
example := @C09_slot_is_real_outcome_or_error_for_interpreted_source
example := @C09_stop_mode_nothing_after_final_failure_for_interpreted_source
example := @C09_stop_mode_nothing_after_final_failure_for_interpreted_serial_pool
example := @C10_nested_flow_presents_inner_result_for_interpreted_source
example := @C10_inner_action_is_last_nodes_action_for_interpreted_source
example := @C10_same_store_everywhere_for_interpreted_source
example := @C10_flattening_for_interpreted_source
example := @C11_no_attempt_after_cancel_for_interpreted_source
example := @C11_cancelled_before_run_for_interpreted_source
example := @C11_cancelled_before_run_slots_for_interpreted_source
example := @C11_cancel_sticks_for_interpreted_source
example := @C11_post_once_and_unexecuted_are_errors_for_interpreted_source
example := @C11_flow_stops_after_batch_cancel_for_interpreted_source
example := @C17_run_exec_receives_prep_payload_for_interpreted_source
example := @C17_run_post_receives_exec_result_for_interpreted_source
example := @C17_any_style_mix_is_the_method_node_for_interpreted_source
example := @C17_styles_interchangeable_for_interpreted_source
example := @C17_batch_styles_interchangeable_for_interpreted_source
example := @C17_batch_item_passed_as_is_for_interpreted_source
example := @C17_batch_slot_is_exec_result_for_interpreted_source
example := @C18_leaf_for_interpreted_source
example := @C18_batch_for_interpreted_source
example := @C18_batch_Run_for_interpreted_source
example := @C18_flow_node_for_interpreted_source
example := @C18_flow_exec_action_nonempty_for_interpreted_source
example := @C20_leaf_retry_preceded_by_wait_for_interpreted_source
example := @C20_leaf_no_wait_before_first_for_interpreted_source
example := @C20_leaf_fired_wait_followed_for_interpreted_source
example := @C20_leaf_no_wait_without_config_for_interpreted_source
example := @C20_leaf_interrupted_wait_ends_run_for_interpreted_source
example := @C20_leaf_fired_iff_not_cancelled_for_interpreted_source
example := @C20_leaf_cancellation_cuts_wait_for_interpreted_source
example := @C20_item_retry_preceded_by_wait_for_interpreted_source
example := @C20_item_no_wait_before_first_for_interpreted_source
example := @C20_item_fired_wait_followed_for_interpreted_source
example := @C20_item_no_wait_without_config_for_interpreted_source
example := @C20_item_interrupted_wait_ends_item_for_interpreted_source
example := @C20_item_fired_iff_not_cancelled_for_interpreted_source
example := @C20_item_cancellation_cuts_wait_for_interpreted_source

end Flyt.Refine.Source
