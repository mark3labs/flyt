import FlytModel.GoIR.Interp
/-!
# The loop rule for `for k, v := range x { body }` over the pairs a world enumerates for `x` (`loopPairs`), in any world
-/
namespace Flyt.Refine
open Flyt Flyt.GoIR

/-- the pairs `kvs` are encodings (`R`) of the elements of `l`, in order -/
inductive Encodes {α : Type} (R : α → GV × GV → Prop) : List α → List (GV × GV) → Prop
  | nil : Encodes R [] []
  | cons {a kv l kvs} : R a kv → Encodes R l kvs → Encodes R (a :: l) (kv :: kvs)

theorem Encodes.map {α : Type} (enc : α → GV × GV) (l : List α) : Encodes (fun a kv => kv = enc a) l (l.map enc) := by
  induction l with
  | nil => exact .nil
  | cons a l ih => exact .cons rfl ih

/-- The loop rule. `bind` is what the loop variables add to the environment; `I done st` is an invariant of the interpreter state,
    indexed by the elements visited so far: the body, run on the encoding of one more element at any depth `> C`, ends normally and
    re-establishes it once the loop variables are popped. Then the loop ends normally, with `I` of all of `l`. -/
theorem loopPairs_inv {Ω α : Type} (W : World Ω) (k v : String) (body : Block) (C : Nat) (R : α → GV × GV → Prop)
    (bind : GV × GV → Env → Env) (hbind : ∀ kv e, (e.push k kv.1).push v kv.2 = bind kv e) (I : List α → St Ω → Prop)
    (hbody : ∀ (g : Nat) (done : List α) (a : α) (kv : GV × GV) (st : St Ω), R a kv → I done st → ∃ st2,
      execBlock W (g + C + 1) body { st with env := bind kv st.env } = some (.next, st2) ∧
        I (done ++ [a]) (popSt st2 st.env.length))
    {l : List α} {kvs : List (GV × GV)} (hl : Encodes R l kvs) {fuel : Nat} (hf : l.length + C + 1 ≤ fuel)
    (done : List α) (st : St Ω) (h0 : I done st) :
    ∃ st', loopPairs W fuel k v kvs body st = some (.next, st') ∧ I (done ++ l) st' := by
  obtain ⟨f, rfl⟩ : ∃ f, fuel = f + l.length + C + 1 := ⟨fuel - (l.length + C + 1), by omega⟩
  clear hf
  induction hl generalizing done st with
  | nil => exact ⟨st, rfl, by simpa using h0⟩
  | @cons a kv l kvs hr _ ih =>
    obtain ⟨kx, vx⟩ := kv
    obtain ⟨st2, hb, h1⟩ := hbody (f + l.length) done a (kx, vx) st hr h0
    obtain ⟨st', hl', h2⟩ := ih (done ++ [a]) _ h1
    refine ⟨st', ?_, by simpa using h2⟩
    rw [← hl', show f + (a :: l).length + C + 1 = f + l.length + C + 1 + 1 from congrArg (· + 1) (Nat.add_right_comm _ 1 C),
      loopPairs, hbind (kx, vx), hb]

end Flyt.Refine
