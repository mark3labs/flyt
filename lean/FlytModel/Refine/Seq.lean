import FlytModel.Refine.Item
/-!
# Refinement: the translated `runBatchSequential` / `markUnprocessed` (Expected/IR.lean) against the model

* `markUnprocessed_refines` — for every world, the IR of `markUnprocessed` run by the GoIR interpreter on a `[]Result` window
  has exactly the heap effect `markUnprocessedSem` (this justifies the `markUnprocessed` entry of `seqWorld`).
* `runBatchSequential_refines_itemsSeq` — in `seqWorld`, the IR of `runBatchSequential` on fresh `items` / `results` arrays
  yields the events, the context and the slots of the model's `itemsSeq … items 0 ctx`, provided the world can tell which
  item it is handed (`idxOf items[i] = i`).
* `…_of_le` variants: the same for every fuel at or above the stated bound.

The loop bodies are named (`markBody`, `seqBody`, equal to the sub-term of the IR by `rfl`); one lemma per path through the
body, an induction on the number of remaining iterations for `loopRange` (one iteration = one level of fuel), then the
function prologue. The lemmas about
`runBatchSequential` hold in every world that answers `ctx.Err()`, the `Result` assertion and `markUnprocessed` as `seqWorld`
does (`ItemCaller`) and whose item calls return the model's `runItemRaw` as Go values (`ItemCalls`, up to `BatchStack.RawVal`):
`seqWorld` is one, the worlds of `BatchStack.lean`, where the item call is interpreted source, are others.
-/
namespace Flyt.Refine
open Flyt Flyt.GoIR
set_option linter.unusedSimpArgs false

def markBody : Block :=
  B[(.assign E[(.index (.var "results") (.var "i"))] E[(.call "NewErrorResult" E[(.call "fmt.Errorf" E[(.str "%s"), (.var "reason")])])])]

theorem markUnprocessed_body : Flyt.Expected.IR.markUnprocessed.body = B[(.rangeS "i" "_" (.var "results") markBody)] := rfl

variable {Ω : Type}

theorem mark_body_step (W : World Ω) (h : Heap) (w : Ω) (a off len i : Nat) (reason : String) (cell : List Result)
    (hc : h[a]? = some cell) (hi : i < len) (hlen : off + len ≤ cell.length) (c : Nat) :
    execBlock W (c + 10) markBody ⟨[("i", .int i), ("reason", .str reason), ("results", .slice a off len)], h, w⟩
      = some (.next, ⟨[("i", .int i), ("reason", .str reason), ("results", .slice a off len)],
          h.set a (cell.set (off + i) (newErrorResult (.fw (fwTagOf reason)))), w⟩) := by
  have h2 : off + i < cell.length := by omega
  simp [markBody, execBlock, execStmt, evalRhs, isCommaOk, evalExpr, evalArgs, Env.get, errorf, assignAll, assignTo,
    Exprs.toList, Exprs.length, heapSet, hc, hi, h2]

theorem take_set_succ {α} (l : List α) (i : Nat) (x : α) (h : i < l.length) :
    (l.set i x).take (i + 1) = l.take i ++ [x] := by
  rw [List.take_add_one]
  simp [h, List.take_set_of_le]

theorem set_same {α} (h : List α) (a : Nat) (c : α) (hc : h[a]? = some c) : h.set a c = h := by
  rcases List.getElem?_eq_some_iff.1 hc with ⟨hlt, rfl⟩; exact List.set_getElem_self hlt

theorem mark_loop (W : World Ω) (w : Ω) (a off len : Nat) (reason : String) (c k : Nat) :
    ∀ (i : Nat) (h : Heap) (cell : List Result), h[a]? = some cell → i + k = len → off + len ≤ cell.length →
    loopRange W (k + c + 11) "i" "_" a off len i markBody ⟨[("reason", .str reason), ("results", .slice a off len)], h, w⟩
      = some (.next, ⟨[("reason", .str reason), ("results", .slice a off len)],
          h.set a (cell.take (off + i) ++ List.replicate k (newErrorResult (.fw (fwTagOf reason))) ++ cell.drop (off + len)), w⟩) := by
  induction k with
  | zero =>
    intro i h cell hc hik hlen
    have : ¬ i < len := by omega
    have e : off + i = off + len := by omega
    simp [loopRange, this, e, set_same _ _ _ hc]
  | succ k ih =>
    intro i h cell hc hik hlen
    have hi : i < len := by omega
    have h2 : off + i < cell.length := by omega
    have ha : a < h.length := (List.getElem?_eq_some_iff.1 hc).1
    rw [show k + 1 + c + 11 = (k + c + 11) + 1 from by omega, loopRange]
    simp only [hi, if_true, heapGet, hc, Option.bind_some, List.getElem?_eq_getElem h2]
    simp only [Env.push, show ("_" == "_") = true from rfl, show ("i" == "_") = false from by decide, if_true, Bool.false_eq_true, if_false]
    rw [show k + c + 11 = (k + c + 1) + 10 from by omega, mark_body_step W h w a off len i reason cell hc hi hlen]
    simp only [popSt, Env.popTo, List.length_cons, List.length_nil]
    simp only [show 0 + 1 + 1 + 1 - (0 + 1 + 1) = 1 from rfl, List.drop_succ_cons, List.drop_zero]
    rw [show k + c + 1 + 10 = k + c + 11 from by omega,
      ih (i + 1) _ (cell.set (off + i) (newErrorResult (.fw (fwTagOf reason)))) (by simp [ha]) (by omega) (by simpa using hlen)]
    congr 2
    rw [List.set_set]
    congr 1
    rw [show off + (i + 1) = (off + i) + 1 from by omega, take_set_succ _ _ _ h2, List.drop_set_of_lt (by omega)]
    simp [List.replicate_succ]

/-- fuel monotonicity for this function: every fuel at or above `len + 13` gives the same (total) answer -/
theorem markUnprocessed_refines_of_le (W : World Ω) (h : Heap) (w : Ω) (a off len : Nat) (reason : String) (cell : List Result)
    (hc : h[a]? = some cell) (hlen : off + len ≤ cell.length) (fuel : Nat) (hf : len + 13 ≤ fuel) :
    callFunc W fuel Flyt.Expected.IR.markUnprocessed [.slice a off len, .str reason] h w
      = some ([], markUnprocessedSem h a off len reason, w) := by
  obtain ⟨c, rfl⟩ := Nat.exists_eq_add_of_le hf
  have hm : min len (cell.length - off) = len := by omega
  have hl := mark_loop W w a off len reason c len 0 h cell hc (by omega) hlen
  simp only [markBody, Nat.add_zero] at hl
  simp [callFunc, Flyt.Expected.IR.markUnprocessed, Env.pushAll, Env.push, execBlock, execStmt, evalExpr,
    Env.get, show len + 13 + c = len + c + 11 + 1 + 1 from by omega, hl, markUnprocessedSem, fillWindow, hc, hm]

theorem markUnprocessed_refines (W : World Ω) (h : Heap) (w : Ω) (a off len : Nat) (reason : String) (cell : List Result)
    (hc : h[a]? = some cell) (hlen : off + len ≤ cell.length) :
    callFunc W (len + 20) Flyt.Expected.IR.markUnprocessed [.slice a off len, .str reason] h w
      = some ([], markUnprocessedSem h a off len reason, w) :=
  markUnprocessed_refines_of_le W h w a off len reason cell hc hlen (len + 20) (by omega)

def seqBody : Block := B[
    (.ifS B[] (.bin "!=" (.mcall (.var "ctx") "Err" E[]) (.var "nil")) B[
      (.assign E[(.index (.var "results") (.var "i"))] E[(.call "NewErrorResult" E[(.call "fmt.Errorf" E[(.str "context cancelled")])])]),
      (.ifS B[] (.bin "==" (.var "errorHandling") (.str "stop")) B[
        (.expr (.call "markUnprocessed" E[(.sliceFrom (.var "results") (.bin "+" (.var "i") (.int 1))), (.str "context cancelled")])),
        .brk] B[]),
      .cont] B[]),
    (.define ["execResult", "err"] E[(.call "runExecWithRetries" E[(.var "ctx"), (.var "node"), (.var "item")])]),
    (.ifS B[] (.bin "!=" (.var "err") (.var "nil")) B[
      (.assign E[(.index (.var "results") (.var "i"))] E[(.call "NewErrorResult" E[(.var "err")])]),
      (.ifS B[] (.bin "==" (.var "errorHandling") (.str "stop")) B[
        (.expr (.call "markUnprocessed" E[(.sliceFrom (.var "results") (.bin "+" (.var "i") (.int 1))), (.str "batch stopped due to error")])),
        .brk] B[])] B[
      (.ifS B[(.define ["r", "ok"] E[(.assert (.var "execResult") "Result")])] (.var "ok") B[
        (.assign E[(.index (.var "results") (.var "i"))] E[(.var "r")])] B[
        (.assign E[(.index (.var "results") (.var "i"))] E[(.call "NewResult" E[(.var "execResult")])])])])]

theorem runBatchSequential_body :
    Flyt.Expected.IR.runBatchSequential.body = B[(.rangeS "i" "item" (.var "items") seqBody)] := rfl

def baseEnv (nid N : Nat) (eh : String) : List (String × GV) :=
  [("errorHandling", GV.str eh), ("results", GV.slice 1 0 N), ("items", GV.slice 0 0 N), ("node", GV.node nid), ("ctx", ctxH)]

theorem fill_tail (items res : List Result) (N i : Nat) (x r0 : Result) (hres : res.length = N) (hi : i < N) :
    fillWindow [items, res.set i x] 1 (i + 1) (N - (i + 1)) r0 = [items, res.take i ++ x :: List.replicate (N - (i + 1)) r0] := by
  subst hres
  simp [fillWindow, take_set_succ _ _ _ hi]
  omega

def ehOf (cfg : BatchCfg) : String := if cfg.stop then "stop" else "continue"

/-- what `runBatchSequential` and the tasks of `runBatchConcurrent` ask of their world, the item call apart -/
structure ItemCaller (W : World SeqW) : Prop where
  ctxErr : ∀ c h w, W.mcall (.ref "ctx" c) "Err" [] h w = some ([ctxErrGV w.ctx], h, w)
  assertRes : ∀ r w, W.assert (.result r) "Result" w = some (.result r, true)
  assertVal : ∀ x w, W.assert (.val x) "Result" w = some (.nil, false)
  assertNil : ∀ w, W.assert .nil "Result" w = some (.nil, false)
  mark : ∀ a off len reason h w,
    W.call "markUnprocessed" [.slice a off len, .str reason] h w = some ([], markUnprocessedSem h a off len reason, w)

/-- what `if r, ok := execResult.(Result); ok { … = r } else { … = NewResult(execResult) }` stores for a raw value: a `Result`
    as it is, anything else wrapped -/
theorem BatchStack.RawVal.store {W : World SeqW} (H : ItemCaller W) {g : GV} {x : Val} (hg : BatchStack.RawVal g x) :
    g = .result (slotOfVal x) ∨ ((∀ w, W.assert g "Result" w = some (.nil, false)) ∧ mkNewResult g = slotOfVal x) := by
  rcases hg with rfl | ⟨rfl, rfl⟩
  · cases x with
    | tok t => exact .inr ⟨H.assertVal _, rfl⟩
    | res xv xe => exact .inl rfl
  · exact .inr ⟨H.assertNil, rfl⟩

/-- the item call `runExecWithRetries(ctx, node, items[i])` of `W`, on the heap `[items, res]` and a live context: the heap
    comes back untouched, the recording is extended by the model's `runItemRaw`, the values are its result as Go values -/
def ItemCalls (kind : CtxKind) (n : NodeId) (v : Nat) (cfg : BatchCfg) (scr : BatchScript) (W : World SeqW) (nid : Nat)
    (items : List Result) : Prop :=
  ∀ i (hi : i < items.length) (res : List Result) (evs : List Ev),
    ∃ rs, W.call "runExecWithRetries" [ctxH, .node nid, .result items[i]] [items, res] ⟨evs, .live⟩
        = some (rs, [items, res], ⟨evs ++ (runItemRaw kind n v cfg i items[i] (scr.item i) .live).1,
            (runItemRaw kind n v cfg i items[i] (scr.item i) .live).2.1⟩)
      ∧ BatchStack.RetOK rs (runItemRaw kind n v cfg i items[i] (scr.item i) .live).2.2

section
variable {Ω : Type} (W : World Ω)

theorem stmt_cont (f : Nat) (st : St Ω) : execStmt W (f + 1) .cont st = some (.cont, st) := rfl
theorem stmt_expr_call (f : Nat) (fn : String) (args : Exprs) (st : St Ω) :
    execStmt W (f + 1) (.expr (.call fn args)) st = (evalExpr W f (.call fn args) st).map fun (_, st1) => (.next, st1) := rfl
theorem expr_sliceFrom (f : Nat) (a lo : Expr) (st : St Ω) :
    evalExpr W (f + 1) (.sliceFrom a lo) st =
      match evalExpr W f a st with
      | some ([.slice ad off n], st1) =>
        (match evalExpr W f lo st1 with
         | some ([.int k], st2) =>
           if 0 ≤ k ∧ k.toNat ≤ n then some ([.slice ad (off + k.toNat) (n - k.toNat)], st2) else none
         | _ => none)
      | _ => none := rfl

theorem loopRange_items (f i : Nat) (body : Block) (env : GoIR.Env) (items : List Result) (h : Heap) (w : Ω)
    (hi : i < items.length) :
    loopRange W (f + 1) "i" "item" 0 0 items.length i body ⟨env, items :: h, w⟩ =
      match execBlock W f body ⟨("item", .result items[i]) :: ("i", .int i) :: env, items :: h, w⟩ with
      | some (.brk, st2) => some (.next, popSt st2 env.length)
      | some (.ret vs, st2) => some (.ret vs, popSt st2 env.length)
      | some (_, st2) => loopRange W f "i" "item" 0 0 items.length (i + 1) body (popSt st2 env.length)
      | none => none := by
  rw [loopRange]
  simp only [hi, if_true, heapGet, List.getElem?_cons_zero, Option.bind_some, Nat.zero_add, List.getElem?_eq_getElem hi]
  rfl

end

section
variable {W : World SeqW} (H : ItemCaller W) (nid N i : Nat) (item : Result) (items res : List Result) (evs : List Ev)
  (hi : i < N) (hres : res.length = N)
include H hi hres

local macro "seq_exec" "[" ts:Lean.Parser.Tactic.simpLemma,* "]" : tactic =>
  `(tactic| gosimp [seqBody, baseEnv, stmt_cont, stmt_expr_call, expr_sliceFrom, H.ctxErr, H.mark, heapSet, ctxH,
    markUnprocessedSem, $ts,*])

theorem body_done_stop (kd : CtxKind) (c : Nat) :
    execBlock W (c + 20) seqBody
      ⟨("item", .result item) :: ("i", .int i) :: baseEnv nid N "stop", [items, res], ⟨evs, .done kd⟩⟩
      = some (.brk, ⟨("item", .result item) :: ("i", .int i) :: baseEnv nid N "stop",
          [items, res.take i ++ List.replicate (N - i) (newErrorResult (.fw .batchCancelled))], ⟨evs, .done kd⟩⟩) := by
  subst hres
  have hpos : (0:Int) ≤ (i:Int) + 1 := by omega
  have hle : i + 1 ≤ res.length := by omega
  have htag : fwTagOf "context cancelled" = .batchCancelled := by decide
  have hrep : res.length - i = (res.length - (i + 1)) + 1 := by omega
  have hnat : ((i:Int)+1).toNat = i+1 := by omega
  seq_exec [hi, hpos, hnat, hle, htag, fill_tail _ _ _ _ _ _ rfl hi]
  simp [hrep, List.replicate_succ]

theorem body_done_cont (kd : CtxKind) (c : Nat) :
    execBlock W (c + 20) seqBody
      ⟨("item", .result item) :: ("i", .int i) :: baseEnv nid N "continue", [items, res], ⟨evs, .done kd⟩⟩
      = some (.cont, ⟨("item", .result item) :: ("i", .int i) :: baseEnv nid N "continue",
          [items, res.set i (newErrorResult (.fw .batchCancelled))], ⟨evs, .done kd⟩⟩) := by
  subst hres
  have htag : fwTagOf "context cancelled" = .batchCancelled := by decide
  seq_exec [hi, htag]

theorem body_err_stop (w1 : SeqW) (e : ErrRoot)
    (hr : W.call "runExecWithRetries" [ctxH, .node nid, .result item] [items, res] ⟨evs, .live⟩
      = some ([.nil, .err e], [items, res], w1)) (c : Nat) :
    execBlock W (c + 20) seqBody
      ⟨("item", .result item) :: ("i", .int i) :: baseEnv nid N "stop", [items, res], ⟨evs, .live⟩⟩
      = some (.brk, ⟨("err", .err e) :: ("execResult", .nil) :: ("item", .result item) :: ("i", .int i) :: baseEnv nid N "stop",
          [items, res.take i ++ newErrorResult e :: List.replicate (N - (i + 1)) (newErrorResult (.fw .batchStopped))], w1⟩) := by
  subst hres
  have hpos : (0:Int) ≤ (i:Int) + 1 := by omega
  have hle : i + 1 ≤ res.length := by omega
  have htag : fwTagOf "batch stopped due to error" = .batchStopped := by decide
  have hnat : ((i:Int)+1).toNat = i+1 := by omega
  simp only [ctxH] at hr
  seq_exec [hi, hpos, hnat, hle, htag, hr, fill_tail _ _ _ _ _ _ rfl hi]

theorem body_err_cont (w1 : SeqW) (e : ErrRoot)
    (hr : W.call "runExecWithRetries" [ctxH, .node nid, .result item] [items, res] ⟨evs, .live⟩
      = some ([.nil, .err e], [items, res], w1)) (c : Nat) :
    execBlock W (c + 20) seqBody
      ⟨("item", .result item) :: ("i", .int i) :: baseEnv nid N "continue", [items, res], ⟨evs, .live⟩⟩
      = some (.next, ⟨("err", .err e) :: ("execResult", .nil) :: ("item", .result item) :: ("i", .int i) :: baseEnv nid N "continue",
          [items, res.set i (newErrorResult e)], w1⟩) := by
  subst hres
  simp only [ctxH] at hr
  seq_exec [hi, hr]

theorem body_ok (eh : String) (w1 : SeqW) (g : GV) (x : Val) (hg : BatchStack.RawVal g x)
    (hr : W.call "runExecWithRetries" [ctxH, .node nid, .result item] [items, res] ⟨evs, .live⟩
      = some ([g, .nil], [items, res], w1)) (c : Nat) :
    execBlock W (c + 20) seqBody
      ⟨("item", .result item) :: ("i", .int i) :: baseEnv nid N eh, [items, res], ⟨evs, .live⟩⟩
      = some (.next, ⟨("err", .nil) :: ("execResult", g) :: ("item", .result item) :: ("i", .int i) :: baseEnv nid N eh,
          [items, res.set i (slotOfVal x)], w1⟩) := by
  subst hres
  simp only [ctxH] at hr
  rcases hg.store H with rfl | ⟨hA, hs⟩
  · seq_exec [hi, hr, H.assertRes]
  · rw [← hs]
    seq_exec [hi, hr, hA]

end

section
variable (kind : CtxKind) (n : NodeId) (v : Nat) (cfg : BatchCfg) (scr : BatchScript)

theorem itemsSeq_length (items : List Result) : ∀ (i : Nat) (ctx : Ctx),
    (itemsSeq kind n v cfg scr items i ctx).2.2.length = items.length := by
  induction items with
  | nil => intro i ctx; simp [itemsSeq]
  | cons it rest ih =>
    intro i ctx
    cases ctx with
    | done kd =>
      by_cases hs : cfg.stop
      · simp [itemsSeq, hs]
      · simp [itemsSeq, hs, ih]
    | live =>
      simp only [itemsSeq]
      rcases runItem kind n v cfg i it (scr.item i) .live with ⟨ev1, ctx1, (s | e)⟩
      · simp [ih]
      · by_cases hs : cfg.stop
        · simp [hs]
        · simp [hs, ih]

theorem seq_loop {W : World SeqW} (H : ItemCaller W) (nid : Nat) (items : List Result)
    (hcall : ItemCalls kind n v cfg scr W nid items) (c k : Nat) :
    ∀ (i : Nat) (res : List Result) (evs : List Ev) (ctx : Ctx), i + k = items.length → res.length = items.length →
    loopRange W (k + c + 21) "i" "item" 0 0 items.length i seqBody
        ⟨baseEnv nid items.length (ehOf cfg), [items, res], ⟨evs, ctx⟩⟩
      = some (.next, ⟨baseEnv nid items.length (ehOf cfg),
          [items, res.take i ++ (itemsSeq kind n v cfg scr (items.drop i) i ctx).2.2],
          ⟨evs ++ (itemsSeq kind n v cfg scr (items.drop i) i ctx).1, (itemsSeq kind n v cfg scr (items.drop i) i ctx).2.1⟩⟩) := by
  induction k with
  | zero =>
    intro i res evs ctx hik hres
    have : ¬ i < items.length := by omega
    have hd : items.drop i = [] := by apply List.drop_eq_nil_of_le; omega
    have ht : res.take i = res := by apply List.take_of_length_le; omega
    simp [loopRange, this, hd, ht, itemsSeq]
  | succ k ih =>
    intro i res evs ctx hik hres
    have hi : i < items.length := by omega
    have hi' : i < res.length := by omega
    have hd : items.drop i = items[i] :: items.drop (i + 1) := List.drop_eq_getElem_cons hi
    have fuelE : k + c + 21 = (k + c + 1) + 20 := by omega
    rw [show k + 1 + c + 21 = (k + c + 1 + 20) + 1 from by omega, loopRange_items W _ _ _ _ _ _ _ hi]
    have pop2 : ∀ (x1 x2 : String × GV) eh h w, popSt (Ω := SeqW) ⟨x1 :: x2 :: baseEnv nid items.length eh, h, w⟩
        (baseEnv nid items.length eh).length = ⟨baseEnv nid items.length eh, h, w⟩ :=
      fun _ _ _ _ _ => rfl
    have pop4 : ∀ (x1 x2 x3 x4 : String × GV) eh h w,
        popSt (Ω := SeqW) ⟨x1 :: x2 :: x3 :: x4 :: baseEnv nid items.length eh, h, w⟩
          (baseEnv nid items.length eh).length = ⟨baseEnv nid items.length eh, h, w⟩ :=
      fun _ _ _ _ _ _ _ => rfl
    cases ctx with
    | done kd =>
      by_cases hs : cfg.stop
      · have he : ehOf cfg = "stop" := by simp [ehOf, hs]
        rw [he, body_done_stop H nid _ i items[i] items res evs hi hres kd, hd]
        simp [pop2, itemsSeq, hs, -List.getElem_cons_drop]
        simp [List.map_const', show items.length - i = (items.length - (i + 1)) + 1 by omega, List.replicate_succ]
      · have he : ehOf cfg = "continue" := by simp [ehOf, hs]
        have ih' := ih (i + 1) (res.set i (newErrorResult (.fw .batchCancelled))) evs (.done kd) (by omega) (by simpa using hres)
        rw [he] at ih' ⊢
        rw [body_done_cont H nid _ i items[i] items res evs hi hres kd]
        simp only [pop2]
        rw [← fuelE, ih', hd]
        simp [itemsSeq, hs, take_set_succ _ _ _ hi', -List.getElem_cons_drop]
    | live =>
      obtain ⟨rs, hrs, hret⟩ := hcall i hi res evs
      rcases hr : runItemRaw kind n v cfg i items[i] (scr.item i) .live with ⟨ev1, ctx1, (e | x)⟩
      · rw [hr] at hrs hret
        simp only [BatchStack.RetOK] at hret
        subst hret
        by_cases hs : cfg.stop
        · have he : ehOf cfg = "stop" := by simp [ehOf, hs]
          rw [he, body_err_stop H nid _ i items[i] items res evs hi hres _ e hrs, hd]
          simp [pop4, itemsSeq, runItem_eq_raw, hr, hs, -List.getElem_cons_drop]
          simp [List.map_const']
        · have he : ehOf cfg = "continue" := by simp [ehOf, hs]
          have ih' := ih (i + 1) (res.set i (newErrorResult e)) (evs ++ ev1) ctx1 (by omega) (by simpa using hres)
          rw [he] at ih' ⊢
          rw [body_err_cont H nid _ i items[i] items res evs hi hres _ e hrs]
          simp only [pop4]
          rw [← fuelE, ih', hd]
          simp [itemsSeq, runItem_eq_raw, hr, hs, take_set_succ _ _ _ hi', -List.getElem_cons_drop]
      · rw [hr] at hrs hret
        simp only [BatchStack.RetOK] at hret
        obtain ⟨g, rfl, hg⟩ := hret
        have ih' := ih (i + 1) (res.set i (slotOfVal x)) (evs ++ ev1) ctx1 (by omega) (by simpa using hres)
        rw [body_ok H nid _ i items[i] items res evs hi hres (ehOf cfg) _ g x hg hrs]
        simp only [pop4]
        rw [← fuelE, ih', hd]
        simp [itemsSeq, runItem_eq_raw, hr, take_set_succ _ _ _ hi', -List.getElem_cons_drop]

theorem seq_call {W : World SeqW} (H : ItemCaller W) (items : List Result) (hcall : ItemCalls kind n v cfg scr W n items)
    (evs : List Ev) (ctx : Ctx) (fuel : Nat) (hf : items.length + 23 ≤ fuel) :
    callFunc W fuel Flyt.Expected.IR.runBatchSequential
        [ctxH, .node n, .slice 0 0 items.length, .slice 1 0 items.length, .str (ehOf cfg)]
        [items, List.replicate items.length ⟨Val.nil, none⟩] ⟨evs, ctx⟩
      = some ([], [items, (itemsSeq kind n v cfg scr items 0 ctx).2.2],
          ⟨evs ++ (itemsSeq kind n v cfg scr items 0 ctx).1, (itemsSeq kind n v cfg scr items 0 ctx).2.1⟩) := by
  obtain ⟨c, rfl⟩ := Nat.exists_eq_add_of_le hf
  have hl := seq_loop kind n v cfg scr H n items hcall c items.length 0
    (List.replicate items.length ⟨Val.nil, none⟩) evs ctx (by omega) (by simp)
  simp only [seqBody, baseEnv] at hl
  simp [callFunc, Flyt.Expected.IR.runBatchSequential, Env.pushAll, Env.push, execBlock, execStmt, evalExpr,
    Env.get, show items.length + 23 + c = items.length + c + 21 + 1 + 1 from by omega, hl]

variable (idxOf : Result → Nat)

theorem seqWorld_caller : ItemCaller (seqWorld kind n v cfg scr idxOf) :=
  ⟨fun _ _ _ => rfl, fun _ _ => rfl, fun _ _ => rfl, fun _ => rfl, fun _ _ _ _ _ _ => rfl⟩

theorem seqWorld_calls (nid : Nat) (items : List Result) (hidx : ∀ i (h : i < items.length), idxOf items[i] = i) :
    ItemCalls kind n v cfg scr (seqWorld kind n v cfg scr idxOf) nid items := by
  intro i hi res evs
  simp only [seqWorld, hidx i hi]
  cases (runItemRaw kind n v cfg i items[i] (scr.item i) .live).2.2 with
  | ok x => exact ⟨_, rfl, _, rfl, BatchStack.rawVal_ofVal x⟩
  | error e => exact ⟨_, rfl, rfl⟩

end

def seqFuel (items : List Result) : Nat := items.length + 30

/-- fuel monotonicity for this function: every fuel at or above `items.length + 23` gives the same (total) answer -/
theorem runBatchSequential_refines_of_le (kind : CtxKind) (n : NodeId) (v : Nat) (cfg : BatchCfg) (scr : BatchScript)
    (idxOf : Result → Nat) (items : List Result) (ctx : Ctx)
    (hidx : ∀ i (h : i < items.length), idxOf items[i] = i) (fuel : Nat) (hf : items.length + 23 ≤ fuel) :
    GoIR.itemsSeqIR fuel Flyt.Expected.IR.runBatchSequential kind n v cfg scr idxOf items ctx
      = some (itemsSeq kind n v cfg scr items 0 ctx) := by
  have h := seq_call kind n v cfg scr (seqWorld_caller kind n v cfg scr idxOf) items
    (seqWorld_calls kind n v cfg scr idxOf n items hidx) [] ctx fuel hf
  simp only [ehOf] at h
  simp [itemsSeqIR, h]

theorem runBatchSequential_refines_itemsSeq (kind : CtxKind) (n : NodeId) (v : Nat) (cfg : BatchCfg) (scr : BatchScript)
    (idxOf : Result → Nat) (items : List Result) (ctx : Ctx)
    (hidx : ∀ i (h : i < items.length), idxOf items[i] = i) :
    GoIR.itemsSeqIR (seqFuel items) Flyt.Expected.IR.runBatchSequential kind n v cfg scr idxOf items ctx
      = some (itemsSeq kind n v cfg scr items 0 ctx) :=
  runBatchSequential_refines_of_le kind n v cfg scr idxOf items ctx hidx (seqFuel items) (by unfold seqFuel; omega)

end Flyt.Refine
