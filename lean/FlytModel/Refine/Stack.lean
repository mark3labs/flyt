import FlytModel.GoIR.StackWorld
import FlytModel.Refine.WorldLe
import FlytModel.Refine.RunNode
import FlytModel.Proofs.ExampleEnv
/-!
# The stacked interpretation of `Run` equals the model's `runNode`

`Run_refines_runLeaf`, `Run_refines_runNode_flow`, `Run_dispatches_to_runBatch`, `FlowExec_refines_flowLoop` are each stated in a
world that gives the CALLEE the meaning of the model function. Here they are composed into `deepRun` (`GoIR/StackWorld.lean`):
`Run` interpreted; on a flow node its `node.Exec` is the interpreted `Flow.Exec`, whose nested `Run` calls are `deepRun` again.
`deepRun_eq_runNode`: wherever the model's `runNode env k` does not run out of fuel, `deepRun env k` returns the same events, run
state and outcome.

Proof: induction on `k`; at each of the two seams (`Flow.Exec → Run`: `deepExec_ok`; `Run → Flow.Exec`:
`Run_over_interpreted_FlowExec`) the refinement theorem of the layer plus `callFunc_le` of `Refine/WorldLe.lean`: the layered world
is BELOW the stacked one (`WLeOn`) — wherever the layered world defines a call (i.e. wherever the model function does not run out of
fuel), the stacked world defines it with the same result, by the induction hypothesis — on the world states whose ghost depth is
within the range of the induction hypothesis (the invariant `mfuel ≤ k`, preserved because the ghost depth only decreases). Plain
extensionality of worlds (`funext`) would not do: where the model runs out of fuel the layered world is undefined, while the
interpretation may well be defined (e.g. a cancelled context is reported by the source before any nested call), so the two worlds are
not equal, only ordered.

Not covered here: runs in which the model runs out of fuel (`Outcome.fuel`; nothing is claimed); `runBatch` below `Run`'s dispatch
stays the model's `runBatch`, and `Flow.Prep` / `Flow.Post` / the embedded `BaseNode`'s getters and fallback are given by
`flowNodeWorld` directly (`Refine/FullStack.lean` interprets these too).
-/
namespace Flyt.Refine.Stack
open Flyt Flyt.GoIR Flyt.Refine

/-- `R` is right (wherever the model does not run out of fuel) at every depth below `k` -/
def RunOK (env : Flyt.Env) (k : Nat) (R : Nat → RunFn) : Prop :=
  ∀ mf, mf < k → ∀ id sid st, (runNode env mf id sid st).2.2 ≠ .fuel → R mf id sid st = some (runNode env mf id sid st)

/-- a run function that is `L k` over itself at the smaller depths is right at every depth, if each `L k` is right over right
    lower levels (strong induction on the depth; at depth 0 the model is out of fuel) -/
theorem run_of_level (env : Flyt.Env) (L : Nat → (Nat → RunFn) → RunFn) (run : Nat → RunFn)
    (hrun : ∀ k, run (k + 1) = L k fun mf => if _h : mf < k + 1 then run mf else fun _ _ _ => none)
    (hL : ∀ k R, RunOK env k R → ∀ id sid st, (runNode env (k + 1) id sid st).2.2 ≠ .fuel →
      L k R id sid st = some (runNode env (k + 1) id sid st)) :
    ∀ (k : Nat) (id : NodeId) (sid : StoreId) (st : RunSt),
      (runNode env k id sid st).2.2 ≠ .fuel → run k id sid st = some (runNode env k id sid st) := by
  intro k
  induction k using Nat.strongRecOn with
  | ind k ih =>
    cases k with
    | zero => intro id sid st h; simp [runNode] at h
    | succ k =>
      intro id sid st hne
      rw [hrun]
      refine hL k _ (fun mf hmf id' sid' st' h => ?_) id sid st hne
      rw [dif_pos (by omega)]
      exact ih mf (by omega) id' sid' st' h

theorem leafLevel_eq (env : Flyt.Env) (k : Nat) (id : NodeId) (sid : StoreId) (st : RunSt) (cfg : LeafCfg)
    (harena : env.arena id = .leaf cfg) :
    (runLeafIR (leafIRFuel cfg) Flyt.Expected.IR.Run env.kind id (st.visits id) sid cfg (env.leafBeh id (st.visits id)) st.ctx).map
      (visited st id) = some (runNode env (k + 1) id sid st) := by
  rw [Run_refines_runLeaf_of_le env.kind id (st.visits id) sid cfg (env.leafBeh id (st.visits id)) st.ctx (leafIRFuel cfg)
    (Nat.le_refl _)]
  simp [runNode, harena, visited]

theorem batchLevel_eq (env : Flyt.Env) (k : Nat) (id : NodeId) (sid : StoreId) (st : RunSt) (cfg : BatchCfg)
    (harena : env.arena id = .batch cfg) :
    (some (Flyt.runBatch env.kind id (st.visits id) sid cfg (env.batchBeh id (st.visits id)) st.ctx)).map (visited st id)
      = some (runNode env (k + 1) id sid st) := by
  simp [runNode, harena, visited]

theorem flowWorld_call_le (env : Flyt.Env) (start : Option NodeId) (tbl : Table) (k : Nat) (R : Nat → RunFn)
    (hR : RunOK env k R) (fn : String) (args : List GV) (h : Heap) (w : FlowW) (r : List GV × Heap × FlowW)
    (hI : w.mfuel ≤ k) (hc : (flowWorld env start tbl).call fn args h w = some r) :
    runCallOver R fn args h w = some r ∧ r.2.2.mfuel ≤ k := by
  simp only [flowWorld] at hc
  split at hc
  · rename_i a id sh
    simp only [runCallOver]
    split at hc
    · rename_i sid mf hsid hmf
      simp only [hsid, hmf]
      have hlt : mf < k := by omega
      cases ho : (runNode env mf id sid w.st).2.2 with
      | fuel | both _ _ => simp [ho] at hc
      | ok _ | err _ =>
        rw [hR mf hlt id sid w.st (by simp [ho])]
        simp only [ho] at hc ⊢
        cases hc
        exact ⟨rfl, by simp only; omega⟩
    · exact absurd hc (by simp)
  · exact absurd hc (by simp)

/-- the world step at `Flow.Exec → Run` -/
theorem flowWorld_le (env : Flyt.Env) (start : Option NodeId) (tbl : Table) (k : Nat) (R : Nat → RunFn)
    (hR : RunOK env k R) :
    WLeOn (fun w : FlowW => w.mfuel ≤ k) (flowWorld env start tbl) (flowWorldOver env R start tbl) where
  call := fun fn args h w r hI hc => flowWorld_call_le env start tbl k R hR fn args h w r hI hc
  callVar := fun fn _ args h w r hI hc => flowWorld_call_le env start tbl k R hR fn args h w r hI hc
  mcall := by
    intro x m args h w r hI hc
    refine ⟨hc, ?_⟩
    simp only [flowWorld] at hc
    split at hc
    · split at hc
      · cases hc; exact hI
      · exact absurd hc (by simp)
    · exact absurd hc (by simp)
  assert := rfl
  field := rfl
  mapIndex := rfl
  global := rfl
  invokes := rfl
  readVar := rfl
  rangeOf := rfl
  select := rfl
  setField := rfl
  writeVar := rfl
  setIndex := rfl
  selectI := fun _ _ _ _ h => nomatch h
  setFieldI := fun _ _ _ _ _ _ h => nomatch h
  writeVarI := fun _ _ _ _ _ h => nomatch h
  setIndexI := fun _ _ _ _ _ _ h => nomatch h

theorem flowExecIn_le {I : FlowW → Prop} {W1 W2 : World FlowW} (H : WLeOn I W1 W2) {fuel f fid mfuel sid st x}
    (hI : I ⟨[], st, mfuel⟩) (h : flowExecIn W1 fuel f fid mfuel sid st = some x) :
    flowExecIn W2 fuel f fid mfuel sid st = some x := by
  unfold flowExecIn at h ⊢
  cases hc : callFunc W1 fuel f [.node fid, ctxH, storeH sid] [] ⟨[], st, mfuel⟩ with
  | none => simp [hc] at h
  | some y => rw [callFunc_le H hI hc]; rw [hc] at h; exact h

theorem runFlowNodeIn_le {I : FlowW → Prop} {W1 W2 : World FlowW} (H : WLeOn I W1 W2) {fuel f fid mfuel sid st x}
    (hI : I ⟨[], st, mfuel⟩) (h : runFlowNodeIn W1 fuel f fid mfuel sid st = some x) :
    runFlowNodeIn W2 fuel f fid mfuel sid st = some x := by
  unfold runFlowNodeIn at h ⊢
  cases hc : callFunc W1 fuel f [ctxH, .node fid, storeH sid] [] ⟨[], st, mfuel⟩ with
  | none => simp [hc] at h
  | some y => rw [callFunc_le H hI hc]; rw [hc] at h; exact h

/-- what `E` has to be for `node.Exec` on the flow `(start, tbl)`: the model's `flowLoop` (wherever it does not run out of
    fuel), at every depth up to `k` -/
def ExecOK (env : Flyt.Env) (start : Option NodeId) (tbl : Table) (k : Nat) (E : ExecFn) : Prop :=
  ∀ mf, mf ≤ k → ∀ sid st,
    match start with
    | some s => (flowLoop env mf tbl s sid st).2.2 ≠ .fuel → (∀ a e, (flowLoop env mf tbl s sid st).2.2 ≠ .both a e) →
        E mf sid st = some (flowLoop env mf tbl s sid st)
    | none => E mf sid st = some ([], st, .err (.fw .noStart))

/-- the seam `Flow.Exec → Run`: the interpretation of `Flow.Exec` whose nested `Run` is `R` is the model's `flowLoop`, if `R` is
    right below the depth in question -/
theorem deepExec_ok (env : Flyt.Env) (fid : NodeId) (start : Option NodeId) (ops : List ConnOp) (k : Nat) (R : Nat → RunFn)
    (hR : RunOK env k R) : ExecOK env start (buildTable ops) k (deepExec env R fid start ops) := by
  intro mf hmf sid st
  have hle := flowWorld_le env start (buildTable ops) mf R (fun m hm => hR m (by omega))
  cases start with
  | none =>
    have h := FlowExec_no_start_ge env fid ops mf sid st (flowExecIRFuel mf) (Nat.le_add_left 40 mf)
    rw [flowExecIR_eq_In] at h
    exact flowExecIn_le hle (Nat.le_refl mf) h
  | some s =>
    intro hne _
    have h := FlowExec_refines_flowLoop_ge env fid s ops mf sid st (flowExecIRFuel mf) (Nat.le_refl _) hne
    rw [flowExecIR_eq_In] at h
    exact flowExecIn_le hle (Nat.le_refl mf) h

theorem flowNodeWorld_mcall_mfuel (env : Flyt.Env) (start : Option NodeId) (tbl : Table) (x : GV) (m : String) (args : List GV)
    (h : Heap) (w : FlowW) (r : List GV × Heap × FlowW) (hc : (flowNodeWorld env start tbl).mcall x m args h w = some r) :
    r.2.2.mfuel = w.mfuel := by
  simp only [flowNodeWorld] at hc
  split at hc
  · split at hc
    · cases hc; rfl
    · cases hc
  · by_cases h1 : (m == "GetMaxRetries") = true
    · rw [if_pos h1] at hc; cases hc; rfl
    rw [if_neg h1] at hc
    by_cases h2 : (m == "GetWait") = true
    · rw [if_pos h2] at hc; cases hc; rfl
    rw [if_neg h2] at hc
    by_cases h3 : (m == "Prep") = true
    · rw [if_pos h3] at hc
      split at hc
      · cases hc; rfl
      · cases hc
    rw [if_neg h3] at hc
    by_cases h4 : (m == "Exec") = true
    · rw [if_pos h4] at hc
      repeat' split at hc
      all_goals first
        | (cases hc; rfl)
        | cases hc
    rw [if_neg h4] at hc
    by_cases h5 : (m == "ExecFallback") = true
    · rw [if_pos h5] at hc
      split at hc
      · cases hc; rfl
      · cases hc
    rw [if_neg h5] at hc
    by_cases h6 : (m == "Post") = true
    · rw [if_pos h6] at hc
      split at hc
      · cases hc; rfl
      · cases hc; rfl
      · cases hc
    rw [if_neg h6] at hc
    cases hc
  · cases hc

theorem flowNodeWorld_mcall_Exec (env : Flyt.Env) (start : Option NodeId) (tbl : Table) (i : Nat) (args : List GV) (h : Heap)
    (w : FlowW) :
    (flowNodeWorld env start tbl).mcall (.node i) "Exec" args h w =
      match args with
      | [_, sh] =>
        (match storeIdOf sh, start with
         | some sid, some s =>
           let r := flowLoop env w.mfuel tbl s sid w.st
           let w' : FlowW := { evs := w.evs ++ r.1, st := r.2.1, mfuel := w.mfuel }
           (match r.2.2 with
            | .ok a => some ([.str a, .nil], h, w')
            | .err e => some ([.nil, .err e], h, w')
            | _ => none)
         | some _, none => some ([.nil, .err (.fw .noStart)], h, w)
         | none, _ => none)
      | _ => none := by
  simp only [flowNodeWorld]; rfl

theorem flowNodeWorld_mcall_le (env : Flyt.Env) (start : Option NodeId) (tbl : Table) (k : Nat) (E : ExecFn)
    (hE : ExecOK env start tbl k E) (x : GV) (m : String) (args : List GV) (h : Heap) (w : FlowW)
    (r : List GV × Heap × FlowW) (hI : w.mfuel ≤ k) (hc : (flowNodeWorld env start tbl).mcall x m args h w = some r) :
    execMcallOver E (flowNodeWorld env start tbl).mcall x m args h w = some r := by
  cases x with
  | node i =>
    by_cases hm : m = "Exec"
    · subst hm
      rw [flowNodeWorld_mcall_Exec] at hc
      simp only [execMcallOver, beq_self_eq_true, if_true]
      split at hc
      · rename_i a sh
        simp only
        cases hsid : storeIdOf sh with
        | none => simp [hsid] at hc
        | some sid =>
          have hE' := hE w.mfuel hI sid w.st
          cases start with
          | none =>
            simp only at hE'
            simp [hsid] at hc
            subst hc
            simp [hE']
          | some s =>
            simp only at hE'
            simp only [hsid] at hc
            cases ho : (flowLoop env w.mfuel tbl s sid w.st).2.2 with
            | fuel | both _ _ => simp [ho] at hc
            | ok _ | err _ =>
              have hEq := hE' (by simp [ho]) (by simp [ho])
              simp [ho] at hc
              simp [hEq, ho]
              exact hc
      · exact absurd hc (by simp)
    · have hb : (m == "Exec") = false := by simp [hm]
      simp only [execMcallOver, hb]
      exact hc
  | _ => exact hc

/-- the world step at `Run → Flow.Exec` -/
theorem flowNodeWorld_le (env : Flyt.Env) (start : Option NodeId) (tbl : Table) (k : Nat) (E : ExecFn)
    (hE : ExecOK env start tbl k E) :
    WLeOn (fun w : FlowW => w.mfuel ≤ k) (flowNodeWorld env start tbl) (flowNodeWorldOver env E start tbl) where
  call := fun _ _ _ _ _ _ hc => nomatch hc
  callVar := fun _ _ _ _ _ _ _ hc => nomatch hc
  mcall := by
    intro x m args h w r hI hc
    refine ⟨flowNodeWorld_mcall_le env start tbl k E hE x m args h w r hI hc, ?_⟩
    have := flowNodeWorld_mcall_mfuel env start tbl x m args h w r hc
    show r.2.2.mfuel ≤ k
    omega
  assert := rfl
  field := rfl
  mapIndex := rfl
  global := rfl
  invokes := rfl
  readVar := rfl
  rangeOf := rfl
  select := rfl
  setField := rfl
  writeVar := rfl
  setIndex := rfl
  selectI := fun _ _ _ _ h => nomatch h
  setFieldI := fun _ _ _ _ _ _ h => nomatch h
  writeVarI := fun _ _ _ _ _ h => nomatch h
  setIndexI := fun _ _ _ _ _ _ h => nomatch h

/-- the seam `Run → Flow.Exec`: `Run` on a flow node whose `node.Exec` is `E` is the flow branch of the model's `runNode`, if `E`
    is right up to the depth in question -/
theorem Run_over_interpreted_FlowExec (env : Flyt.Env) (fid : NodeId) (start : Option NodeId) (ops : List ConnOp) (k : Nat)
    (sid : StoreId) (st : RunSt) (E : ExecFn) (hE : ExecOK env start (buildTable ops) k E)
    (harena : env.arena fid = .flow start ops) (hne : (runNode env (k + 1) fid sid st).2.2 ≠ .fuel) :
    runFlowNodeIn (flowNodeWorldOver env E start (buildTable ops)) flowNodeIRFuel Flyt.Expected.IR.Run fid k sid st
      = some (runNode env (k + 1) fid sid st) :=
  by
  have h := Run_refines_runNode_flow env fid start ops k sid st harena hne
  rw [runFlowNodeIR_eq_In] at h
  exact runFlowNodeIn_le (flowNodeWorld_le env start (buildTable ops) k E hE) (Nat.le_refl k) h

theorem deepLevel_eq (env : Flyt.Env) (k : Nat) (R : Nat → RunFn) (hR : RunOK env k R) (id : NodeId) (sid : StoreId) (st : RunSt)
    (hne : (runNode env (k + 1) id sid st).2.2 ≠ .fuel) :
    deepLevel env k R id sid st = some (runNode env (k + 1) id sid st) := by
  unfold deepLevel
  cases harena : env.arena id with
  | leaf cfg => exact leafLevel_eq env k id sid st cfg harena
  | batch cfg =>
    simp only
    rw [Run_dispatches_to_runBatch_of_le env.kind id (st.visits id) sid cfg (env.batchBeh id (st.visits id)) false st.ctx
      batchIRFuel (Nat.le_refl _)]
    exact batchLevel_eq env k id sid st cfg harena
  | flow start ops =>
    exact Run_over_interpreted_FlowExec env id start ops k sid st _ (deepExec_ok env id start ops k R hR) harena hne

/-- **The full stack.** For every arena (leaves, flows nested to any depth, loops, batch nodes), every depth `k`, node, store
    and run state: whenever the model's `runNode env k` does not run out of fuel, the full-stack interpretation `deepRun env k`
    — `Run` interpreted; on a flow, its `Flow.Exec` interpreted; the nested `Run` calls of that interpreted again, … — returns
    exactly the model's events, run state and outcome. -/
theorem deepRun_eq_runNode (env : Flyt.Env) : ∀ (k : Nat) (id : NodeId) (sid : StoreId) (st : RunSt),
    (runNode env k id sid st).2.2 ≠ .fuel → deepRun env k id sid st = some (runNode env k id sid st) :=
  run_of_level env (deepLevel env) (deepRun env) (fun k => by rw [deepRun]) (deepLevel_eq env)

/-- `Run` on a leaf of the arena, interpreted (in `leafWorld`); undefined on anything else -/
def leafRun (env : Flyt.Env) : RunFn := fun id sid st =>
  match env.arena id with
  | .leaf cfg =>
    (runLeafIR (leafIRFuel cfg) Flyt.Expected.IR.Run env.kind id (st.visits id) sid cfg (env.leafBeh id (st.visits id)) st.ctx).map
      (visited st id)
  | _ => none

/-- the seam `Flow.Exec → Run` on its own: for an arena of leaves and ANY flow `(s, ops)` over it, `Flow.Exec` interpreted in the
    world whose nested `Run` is the interpretation of `Run` in `leafWorld` (not the model's `runNode`) is the model's `flowLoop`. -/
theorem FlowExec_over_interpreted_leaves (env : Flyt.Env) (hleaves : ∀ id, ∃ cfg, env.arena id = .leaf cfg)
    (fid s : NodeId) (ops : List ConnOp) (mf : Nat) (sid : StoreId) (st : RunSt) (fuel : Nat) (hfuel : mf + 40 ≤ fuel)
    (hne : (flowLoop env mf (buildTable ops) s sid st).2.2 ≠ .fuel) :
    flowExecIn (flowWorldOver env (fun _ => leafRun env) (some s) (buildTable ops)) fuel Flyt.Expected.IR.Flow_Exec fid mf sid st
      = some (flowLoop env mf (buildTable ops) s sid st) := by
  have hR : RunOK env mf (fun _ => leafRun env) := by
    intro m _ id sid' st' h
    obtain ⟨cfg, hcfg⟩ := hleaves id
    cases m with
    | zero => simp [runNode] at h
    | succ m =>
      simp only [leafRun, hcfg]
      exact leafLevel_eq env m id sid' st' cfg hcfg
  exact flowExecIn_le (flowWorld_le env (some s) (buildTable ops) mf _ hR) (Nat.le_refl mf)
    (FlowExec_refines_flowLoop_ge env fid s ops mf sid st fuel hfuel hne)

/-- both seams, one level: `Run` on a flow node of leaves — `Run` interpreted, its `node.Exec` the interpreted `Flow.Exec`, the
    nested `Run` calls of that the interpreted `Run` on the leaves — is the model's `runNode`. -/
theorem Run_over_interpreted_FlowExec_over_leaves (env : Flyt.Env) (fid : NodeId) (start : Option NodeId) (ops : List ConnOp)
    (k : Nat) (sid : StoreId) (st : RunSt) (harena : env.arena fid = .flow start ops)
    (hleaves : ∀ id, id ≠ fid → ∃ cfg, env.arena id = .leaf cfg)
    (hne : (runNode env (k + 1) fid sid st).2.2 ≠ .fuel) :
    runFlowNodeIn (flowNodeWorldOver env (deepExec env (fun mf => deepRun env mf) fid start ops) start (buildTable ops))
        flowNodeIRFuel Flyt.Expected.IR.Run fid k sid st
      = some (runNode env (k + 1) fid sid st) := by
  have _ := hleaves
  exact Run_over_interpreted_FlowExec env fid start ops k sid st _
    (deepExec_ok env fid start ops k _ (fun mf _ id sid' st' h => deepRun_eq_runNode env mf id sid' st' h)) harena hne

theorem execMcallOver_congr {E : ExecFn} {orig orig' : GV → String → List GV → Heap → FlowW → Option (List GV × Heap × FlowW)}
    (h : ∀ recv m args hp w, (∀ i, recv = .node i → m ≠ "Exec") → orig recv m args hp w = orig' recv m args hp w) :
    execMcallOver E orig = execMcallOver E orig' := by
  funext recv m args hp w
  cases recv with
  | node i =>
    by_cases hx : m = "Exec"
    · subst hx; simp only [execMcallOver, beq_self_eq_true, if_true]
    · have hb : (m == "Exec") = false := by simp [hx]
      simp only [execMcallOver, hb]
      exact h _ _ _ _ _ fun _ _ => hx
  | _ => exact h _ _ _ _ _ fun _ e => nomatch e

theorem flowNodeWorld_mcall_env (env env' : Flyt.Env) (start : Option NodeId) (tbl tbl' : Table) (recv m args h w)
    (hne : ∀ i, recv = .node i → m ≠ "Exec") :
    (flowNodeWorld env start tbl).mcall recv m args h w = (flowNodeWorld env' start tbl').mcall recv m args h w := by
  simp only [flowNodeWorld]
  split
  · rfl
  · have hb : (m == "Exec") = false := by simpa using hne _ rfl
    -- the test is rewritten away first: `rfl` on the whole goal would compare the two `flowLoop`s under it
    simp only [hb, Bool.false_eq_true, if_false]
  · rfl

/-- `flowNodeWorldOver` does not depend on the arena or the transition table (they occur in `flowNodeWorld` only in the meaning of
    `node.Exec`, which is replaced); like `flowWorldOver_env` for `flowWorldOver`. -/
theorem flowNodeWorldOver_env (env env' : Flyt.Env) (E : ExecFn) (start : Option NodeId) (tbl tbl' : Table) :
    flowNodeWorldOver env E start tbl = flowNodeWorldOver env' E start tbl' := by
  unfold flowNodeWorldOver
  rw [execMcallOver_congr (flowNodeWorld_mcall_env env env' start tbl tbl')]
  rfl

/-! `Ex.envLoop` (`Proofs/ExampleEnv.lean`): root flow 0 = `1 -a-> 2 -y-> 3`, where 2 is itself a flow `4 -x-> 5`, node 3 loops to itself
once (`loop`, then `again`) ; `Ex.envFail`: the inner node 5 fails in post. The model does not run out of fuel at depth 10 (`decide`),
hence the full-stack interpretation computes what the model computes. (`GoIR/StackTest.lean` EVALUATES both sides.) -/
example : deepRun Proofs.Ex.envLoop 10 0 7 Proofs.Ex.st0 = some (runNode Proofs.Ex.envLoop 10 0 7 Proofs.Ex.st0) :=
  deepRun_eq_runNode _ _ _ _ _ (by decide)
example : (deepRun Proofs.Ex.envLoop 10 0 7 Proofs.Ex.st0).map (·.2.2) = some (.ok "again") := by
  rw [deepRun_eq_runNode _ _ _ _ _ (by decide)]; decide
example : (deepRun Proofs.Ex.envFail 10 0 7 Proofs.Ex.st0).map (·.2.2) = some (.err (.user 42)) := by
  rw [deepRun_eq_runNode _ _ _ _ _ (by decide)]; decide

end Flyt.Refine.Stack

#print axioms Flyt.Refine.callFunc_le
#print axioms Flyt.Refine.Stack.deepRun_eq_runNode
#print axioms Flyt.Refine.Stack.FlowExec_over_interpreted_leaves
#print axioms Flyt.Refine.Stack.Run_over_interpreted_FlowExec
#print axioms Flyt.Refine.Stack.Run_over_interpreted_FlowExec_over_leaves
#print axioms Flyt.Refine.Stack.flowNodeWorldOver_env
