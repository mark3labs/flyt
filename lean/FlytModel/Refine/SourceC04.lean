import FlytModel.Refine.SourceBase
import FlytModel.Props.C04
/-!
# C04 (errors are transparent, flows are fail-stop) stated about the interpreted source

`Props/C04.lean` is about `runNode env fuel root sid st` for an arbitrary root; the corollaries here are per layer: `Run` on a flow
(`runFlowNodeIR`, one theorem per headline theorem), and, all clauses at once (`C04Facts`), `Run` on a leaf (`runLeafIR`), `runBatch` and
`Run`'s dispatch to it (`runBatchIR`, `runBatchNodeIR`), `Flow.Exec` (`flowExecIR`; the clauses are proved here for `flowLoop`, about
which `Props/C04.lean` has no theorem). The layers composed into one interpreted run of an arbitrary root are
`Stack.deepRun_eq_runNode`, `FullStack.fullRun_eq_runNode`, `FullConc.fullRun2_eq_runNode`.

Hypotheses of the model theorems about the run's own trace (`evs = pre ++ e :: post`, "no event cancels") move inside the conclusion.
Their `out ≠ .fuel` becomes `hne`: the model's fuel does not run out (`mfuel` is a ghost of the flow worlds: it says which
`runNode env ·` a nested call denotes; the interpreted outcome itself is never `.fuel`). `harena` ties the arena's entry for the root to
the configuration the world is instantiated with.

Assumed: in the flow-node world `Flow.Exec` is the model's `flowLoop`, in the `Flow.Exec` world a nested `Run` is the model's `runNode`.
So fail-stop across nodes comes from the model through the world; derived from the source at each layer is that layer's own part:
`Run` on a flow returns `Flow.Exec`'s error unchanged and does not call `Post` after it; `Flow.Exec` stops at the first failing `Run`
and returns its error unchanged; `Run` on a leaf runs no phase after a failing one and returns that callback's error; `runBatch` stops
at a failing prep / returns post's error.
-/
set_option autoImplicit false
namespace Flyt.Refine.Source
open Flyt Flyt.GoIR Flyt.Refine Flyt.Proofs

/-- **C04 fail-stop (iii).** In the run of the interpreted `Run` on a flow, a callback that ends its run with user error `u` is the last
    event of the whole trace — no later phase, no later node, no later node of any enclosing flow — and `Run`'s error is `u`.
    Mirrors `Props.C04.fail_stop`. -/
theorem C04_fail_stop_for_interpreted_source (env : Env) (fid : NodeId) (start : Option NodeId) (ops : List ConnOp) (mfuel : Nat)
    (sid : StoreId) (st : RunSt) (harena : env.arena fid = .flow start ops) (hne : (runNode env (mfuel + 1) fid sid st).2.2 ≠ .fuel)
    (fuel : Nat) (hf : flowNodeFuel ≤ fuel) :
    ∃ evs st' out, runFlowNodeIR fuel Flyt.Expected.IR.Run env fid start ops mfuel sid st = some (evs, st', out) ∧
      ∀ (pre post : List Ev) (e : Ev) (u : Nat), evs = pre ++ e :: post → Spec.scriptFatal env e = some u →
        post = [] ∧ out = .err (.user u) :=
  transfer (Run_refines_runNode_flow_of_le env fid start ops mfuel sid st harena hne fuel hf)
    (fun _ _ _ _ hsplit hfatal => Props.C04.fail_stop env (mfuel + 1) fid sid st rfl hne hsplit hfatal)

/-- **C04 transparency (ii).** If the interpreted `Run` returns an error whose root is user error `u`, then `u` is exactly the error
    returned by the last callback invoked (at whatever nesting depth). Mirrors `Props.C04.user_error_transparent`. -/
theorem C04_user_error_transparent_for_interpreted_source (env : Env) (fid : NodeId) (start : Option NodeId) (ops : List ConnOp)
    (mfuel : Nat) (sid : StoreId) (st : RunSt) (harena : env.arena fid = .flow start ops)
    (hne : (runNode env (mfuel + 1) fid sid st).2.2 ≠ .fuel) (fuel : Nat) (hf : flowNodeFuel ≤ fuel) :
    ∃ evs st' out, runFlowNodeIR fuel Flyt.Expected.IR.Run env fid start ops mfuel sid st = some (evs, st', out) ∧
      ∀ u, out = .err (.user u) → ∃ pre e, evs = pre ++ [e] ∧ Spec.scriptFatal env e = some u :=
  transfer (Run_refines_runNode_flow_of_le env fid start ops mfuel sid st harena hne fuel hf)
    (fun _ hu => Props.C04.user_error_transparent env (mfuel + 1) fid sid st (Prod.ext rfl (Prod.ext rfl hu)))

/-- **C04.** Every outcome is an action, a user error, the context's error, or "flow has no start node" — never a framework-made error
    hiding a user error, never an action together with an error. Mirrors `Props.C04.outcome_shapes`. -/
theorem C04_outcome_shapes_for_interpreted_source (env : Env) (fid : NodeId) (start : Option NodeId) (ops : List ConnOp)
    (mfuel : Nat) (sid : StoreId) (st : RunSt) (harena : env.arena fid = .flow start ops)
    (hne : (runNode env (mfuel + 1) fid sid st).2.2 ≠ .fuel) (fuel : Nat) (hf : flowNodeFuel ≤ fuel) :
    ∃ evs st' out, runFlowNodeIR fuel Flyt.Expected.IR.Run env fid start ops mfuel sid st = some (evs, st', out) ∧
      ((∃ a, out = .ok a) ∨ (∃ u, out = .err (.user u)) ∨ (∃ k, out = .err (.ctx k)) ∨ out = .err (.fw .noStart)) :=
  transfer (Run_refines_runNode_flow_of_le env fid start ops mfuel sid st harena hne fuel hf)
    (Props.C04.outcome_shapes env (mfuel + 1) fid sid st rfl hne)

/-- **C04 (i, ⇒).** A nil error implies that every phase on the path succeeded. Mirrors `Props.C04.ok_only_if_all_succeeded`. -/
theorem C04_ok_only_if_all_succeeded_for_interpreted_source (env : Env) (fid : NodeId) (start : Option NodeId) (ops : List ConnOp)
    (mfuel : Nat) (sid : StoreId) (st : RunSt) (harena : env.arena fid = .flow start ops)
    (hne : (runNode env (mfuel + 1) fid sid st).2.2 ≠ .fuel) (fuel : Nat) (hf : flowNodeFuel ≤ fuel) :
    ∃ evs st' out, runFlowNodeIR fuel Flyt.Expected.IR.Run env fid start ops mfuel sid st = some (evs, st', out) ∧
      ∀ a, out = .ok a → ∀ e ∈ evs, Spec.scriptFatal env e = none :=
  transfer (Run_refines_runNode_flow_of_le env fid start ops mfuel sid st harena hne fuel hf)
    (fun _ ha => Props.C04.ok_only_if_all_succeeded env (mfuel + 1) fid sid st (Prod.ext rfl (Prod.ext rfl ha)))

/-- **C04 (i).** For runs without cancellation (live context, no event of the interpreted trace cancels) the interpreted `Run` returns
    an action iff no callback on its path ended in failure and the flow has a start node. Mirrors `Props.C04.ok_iff_all_succeeded`. -/
theorem C04_ok_iff_all_succeeded_for_interpreted_source (env : Env) (fid : NodeId) (start : Option NodeId) (ops : List ConnOp)
    (mfuel : Nat) (sid : StoreId) (st : RunSt) (harena : env.arena fid = .flow start ops)
    (hne : (runNode env (mfuel + 1) fid sid st).2.2 ≠ .fuel) (hlive : st.ctx = .live) (fuel : Nat) (hf : flowNodeFuel ≤ fuel) :
    ∃ evs st' out, runFlowNodeIR fuel Flyt.Expected.IR.Run env fid start ops mfuel sid st = some (evs, st', out) ∧
      ((∀ e ∈ evs, cancelsAt env e = false) →
        ((∃ a, out = .ok a) ↔ (∀ e ∈ evs, Spec.scriptFatal env e = none) ∧ out ≠ .err (.fw .noStart))) :=
  transfer (Run_refines_runNode_flow_of_le env fid start ops mfuel sid st harena hne fuel hf)
    (fun hnc => Props.C04.ok_iff_all_succeeded env (mfuel + 1) fid sid st rfl hne hlive hnc)

/-- the five headline clauses of `Props/C04.lean` about one run with trace `evs` and outcome `out`, started in a context `ctx` -/
structure C04Facts (env : Env) (ctx : Ctx) (evs : List Ev) (out : Outcome) : Prop where
  /-- `Props.C04.fail_stop` -/
  fail_stop : ∀ (pre post : List Ev) (e : Ev) (u : Nat), evs = pre ++ e :: post → Spec.scriptFatal env e = some u →
    post = [] ∧ out = .err (.user u)
  /-- `Props.C04.user_error_transparent` -/
  user_error_transparent : ∀ u, out = .err (.user u) → ∃ pre e, evs = pre ++ [e] ∧ Spec.scriptFatal env e = some u
  /-- `Props.C04.outcome_shapes` -/
  outcome_shapes : (∃ a, out = .ok a) ∨ (∃ u, out = .err (.user u)) ∨ (∃ k, out = .err (.ctx k)) ∨ out = .err (.fw .noStart)
  /-- `Props.C04.ok_only_if_all_succeeded` -/
  ok_only_if_all_succeeded : ∀ a, out = .ok a → ∀ e ∈ evs, Spec.scriptFatal env e = none
  /-- `Props.C04.ok_iff_all_succeeded` -/
  ok_iff_all_succeeded : ctx = .live → (∀ e ∈ evs, cancelsAt env e = false) →
    ((∃ a, out = .ok a) ↔ (∀ e ∈ evs, Spec.scriptFatal env e = none) ∧ out ≠ .err (.fw .noStart))

theorem c04Facts_of_runNode (env : Env) (fuel : Nat) (root : NodeId) (sid : StoreId) (st : RunSt)
    (hfuel : (runNode env fuel root sid st).2.2 ≠ .fuel) :
    C04Facts env st.ctx (runNode env fuel root sid st).1 (runNode env fuel root sid st).2.2 where
  fail_stop _ _ _ _ hsplit hfatal := Props.C04.fail_stop env fuel root sid st rfl hfuel hsplit hfatal
  user_error_transparent _ hu := Props.C04.user_error_transparent env fuel root sid st (Prod.ext rfl (Prod.ext rfl hu))
  outcome_shapes := Props.C04.outcome_shapes env fuel root sid st rfl hfuel
  ok_only_if_all_succeeded _ ha := Props.C04.ok_only_if_all_succeeded env fuel root sid st (Prod.ext rfl (Prod.ext rfl ha))
  ok_iff_all_succeeded hlive hnc := Props.C04.ok_iff_all_succeeded env fuel root sid st rfl hfuel hlive hnc

/-- **C04 for the interpreted `Run` on a plain / function-style node of the arena** (`Props/C04.lean` at a leaf root): a failing prep /
    post / fallback / last exec attempt is the last event and its error is `Run`'s; a user error returned is the last callback's; and
    so on (`C04Facts`). -/
theorem C04_for_interpreted_Run_on_leaf (env : Env) (id : NodeId) (sid : StoreId) (st : RunSt) (cfg : LeafCfg)
    (harena : env.arena id = .leaf cfg) (fuel : Nat) (hf : runFuel cfg ≤ fuel) :
    ∃ evs ctx' out,
      runLeafIR fuel Flyt.Expected.IR.Run env.kind id (st.visits id) sid cfg (env.leafBeh id (st.visits id)) st.ctx
        = some (evs, ctx', out) ∧ C04Facts env st.ctx evs out :=
  arena_leaf_transfer env 0 id sid st cfg harena fuel hf (fun evs _ out => C04Facts env st.ctx evs out)
    (c04Facts_of_runNode env 1 id sid st (runNode_leaf_ne_fuel env 0 id sid st cfg harena))

/-- **C04 for the interpreted `runBatch` on a batch node of the arena** (`Props/C04.lean` at a batch root): a failing batch prep / batch
    post is the last event and its error is the run's, … -/
theorem C04_for_interpreted_runBatch (env : Env) (id : NodeId) (sid : StoreId) (st : RunSt) (cfg : BatchCfg)
    (harena : env.arena id = .batch cfg) (fuel : Nat) (hf : batchFuel (env.batchBeh id (st.visits id)) ≤ fuel) :
    ∃ evs ctx' out,
      runBatchIR fuel Flyt.Expected.IR.runBatch env.kind id (st.visits id) sid cfg (env.batchBeh id (st.visits id)) st.ctx
        = some (evs, ctx', out) ∧ C04Facts env st.ctx evs out :=
  arena_batch_transfer env 0 id sid st cfg harena fuel hf (fun evs _ out => C04Facts env st.ctx evs out)
    (c04Facts_of_runNode env 1 id sid st (runNode_batch_ne_fuel env 0 id sid st cfg harena))

/-- **C04 for the interpreted `Run` on a batch node** (bare `*BatchNode` or the builder `NewBatchNode` returns), which only hands over
    to `runBatch` (in this world the model's `runBatch`). -/
theorem C04_for_interpreted_Run_on_batch (env : Env) (id : NodeId) (sid : StoreId) (st : RunSt) (cfg : BatchCfg)
    (harena : env.arena id = .batch cfg) (viaBuilder : Bool) (fuel : Nat) (hf : batchNodeFuel ≤ fuel) :
    ∃ evs ctx' out,
      runBatchNodeIR fuel Flyt.Expected.IR.Run env.kind id (st.visits id) sid cfg (env.batchBeh id (st.visits id)) viaBuilder st.ctx
        = some (evs, ctx', out) ∧ C04Facts env st.ctx evs out :=
  arena_batchNode_transfer env 0 id sid st cfg harena viaBuilder fuel hf (fun evs _ out => C04Facts env st.ctx evs out)
    (c04Facts_of_runNode env 1 id sid st (runNode_batch_ne_fuel env 0 id sid st cfg harena))

/-- the five clauses for the model's `flowLoop`: the arguments of `Props/C04.lean` with `big_of_flowLoop` in place of `big_of_runNode` -/
theorem c04Facts_of_flowLoop (env : Env) (mfuel : Nat) (ops : List ConnOp) (s : NodeId) (sid : StoreId) (st : RunSt)
    (hne : (flowLoop env mfuel (buildTable ops) s sid st).2.2 ≠ .fuel) :
    C04Facts env st.ctx (flowLoop env mfuel (buildTable ops) s sid st).1 (flowLoop env mfuel (buildTable ops) s sid st).2.2 := by
  have hb := big_of_flowLoop (st' := (flowLoop env mfuel (buildTable ops) s sid st).2.1) rfl hne
  have fs := big_failstop hb
  have hshape : (∃ a, (flowLoop env mfuel (buildTable ops) s sid st).2.2 = .ok a) ∨
      (∃ u, (flowLoop env mfuel (buildTable ops) s sid st).2.2 = .err (.user u)) ∨
      (∃ k, (flowLoop env mfuel (buildTable ops) s sid st).2.2 = .err (.ctx k)) ∨
      (flowLoop env mfuel (buildTable ops) s sid st).2.2 = .err (.fw .noStart) := by
    have hp := big_proper hb
    generalize (flowLoop env mfuel (buildTable ops) s sid st).2.2 = out at hp hne
    cases out with
    | ok a => exact .inl ⟨a, rfl⟩
    | err e =>
      cases e with
      | user u => exact .inr (.inl ⟨u, rfl⟩)
      | ctx k => exact .inr (.inr (.inl ⟨k, rfl⟩))
      | fw t => cases t <;> simp_all [Outcome.Proper]
    | both a e => simp [Outcome.Proper] at hp
    | fuel => exact absurd rfl hne
  refine ⟨?_, ?_, hshape, ?_, ?_⟩
  · intro pre post e u hsplit hfatal
    refine ⟨?_, fs.fatalErr e (by simp [hsplit]) u hfatal⟩
    have hp := fs.noneAfter
    rw [hsplit, List.pairwise_append, List.pairwise_cons] at hp
    cases post with
    | nil => rfl
    | cons b t =>
      have := hp.2.1.1 b (by simp)
      rw [hfatal] at this; cases this
  · intro u hu
    obtain ⟨e, hl, hfa⟩ := fs.userErr u hu
    obtain ⟨pre, hpre⟩ := List.getLast?_eq_some_iff.mp hl
    exact ⟨pre, e, hpre, hfa⟩
  · intro a ha
    exact fs.nonfatal (by rw [ha]; simp)
  · intro hlive hnc
    constructor
    · rintro ⟨a, ha⟩
      exact ⟨fs.nonfatal (by rw [ha]; simp), by rw [ha]; simp⟩
    · rintro ⟨hnf, hns⟩
      rcases hshape with ha | ⟨u, hu⟩ | ⟨k, hk⟩ | h0
      · exact ha
      · obtain ⟨e, hl, hfa⟩ := fs.userErr u hu
        rw [hnf e (List.mem_of_getLast? hl)] at hfa; cases hfa
      · obtain ⟨_, e, he, hz⟩ := big_ctxErr_live hb hlive hk
        rw [hnc e he] at hz; cases hz
      · exact absurd h0 hns

/-- **C04 for the interpreted `Flow.Exec`**: in the trace of the interpreted loop, a callback that ends its run with user error `u` is
    the last event and `Flow.Exec` returns `u` unchanged (no wrapping: `flowOutcomeOf` reads the error value `Flow.Exec` returns), … -/
theorem C04_for_interpreted_Flow_Exec (env : Env) (fid s : NodeId) (ops : List ConnOp) (mfuel : Nat) (sid : StoreId) (st : RunSt)
    (hne : (flowLoop env mfuel (buildTable ops) s sid st).2.2 ≠ .fuel) (fuel : Nat) (hf : mfuel + 40 ≤ fuel) :
    ∃ evs st' out, flowExecIR fuel Flyt.Expected.IR.Flow_Exec env fid (some s) ops mfuel sid st = some (evs, st', out) ∧
      C04Facts env st.ctx evs out :=
  transfer (FlowExec_refines_flowLoop_ge env fid s ops mfuel sid st fuel hf hne)
    (c04Facts_of_flowLoop env mfuel ops s sid st hne)

/-- non-vacuity: `Ex.envFail` of `Proofs/ExampleEnv.lean` (the post of node 5, two flows deep, fails with 42): the hypotheses hold and
    the outcome of `Run` on the root flow is that error; `43 = flowNodeFuel` -/
example : ∃ evs st', runFlowNodeIR 43 Flyt.Expected.IR.Run Ex.envFail 0 (some 1)
      [⟨1, "a", some 2⟩, ⟨2, "y", some 1⟩, ⟨2, "y", some 3⟩, ⟨3, "again", some 1⟩, ⟨3, "again", none⟩, ⟨3, "loop", some 3⟩]
      9 7 Ex.st0 = some (evs, st', .err (.user 42)) ∧ evs.getLast? = some (.post 5 0 7 (.tok 1) (.tok 2)) := by
  have hne : (runNode Ex.envFail (9 + 1) 0 7 Ex.st0).2.2 ≠ .fuel := by decide
  refine ⟨(runNode Ex.envFail (9 + 1) 0 7 Ex.st0).1, (runNode Ex.envFail (9 + 1) 0 7 Ex.st0).2.1, ?_, by decide⟩
  rw [Run_refines_runNode_flow_of_le Ex.envFail 0 _ _ 9 7 Ex.st0 rfl hne 43 (by decide)]
  exact congrArg some (Prod.ext rfl (Prod.ext rfl (by decide)))

/-!
Not carried over: `spec_c04`, `spec_c04_cancelFree` (bridges to the driver's executable predicate `Spec.c04`). In the per-layer
statements "no later node of any enclosing flow" is, for nesting deeper than one level, a fact about the model's `runNode` that the flow
worlds import; for an arbitrary root in one interpreted object, apply `Props/C04.lean` through `Stack.deepRun_eq_runNode`,
`FullStack.fullRun_eq_runNode` or `FullConc.fullRun2_eq_runNode`.
-/

end Flyt.Refine.Source
