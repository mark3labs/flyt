import FlytModel.Refine.SourceBase
import FlytModel.Props.C10
import FlytModel.Props.C04
/-!
# C10 (a flow used as a node behaves like a node) about the interpreted source

Subjects: `Run(ctx, flow, shared)` (`runFlowNodeIR`, `Run_refines_runNode_flow_of_le`) and `flow.Exec(ctx, shared)` (`flowExecIR`,
`FlowExec_refines_flowLoop_ge`). Each corollary is about one layer: in `Run`'s world `Flow.Exec` is the model's `flowLoop`, in
`Flow.Exec`'s world the nested `Run`s are the model's `runNode`; (i) relates the two interpreted sides. The runs composed over all
layers are `Stack.deepRun_eq_runNode`, `FullStack.fullRun_eq_runNode`, `FullConc.fullRun2_eq_runNode`.
`hne`: the model's fuel `mfuel + 1` suffices. `harena`: node `fid` of the arena is this flow.
Not carried over: `Props.C10.spec_c10` (the form of `flattening` the driver evaluates); `flattening` / `same_store_everywhere` for a
leaf or batch root (no nesting there).
-/
set_option autoImplicit false
namespace Flyt.Refine.Source
open Flyt Flyt.GoIR Flyt.Refine Flyt.Proofs

theorem flowLoop_ne_fuel_of_runNode (env : Env) (mfuel : Nat) (fid s : NodeId) (ops : List ConnOp) (sid : StoreId) (st : RunSt)
    (harena : env.arena fid = .flow (some s) ops) (hlive : st.ctx = .live)
    (hne : (runNode env (mfuel + 1) fid sid st).2.2 ≠ .fuel) : (flowLoop env mfuel (buildTable ops) s sid st).2.2 ≠ .fuel := by
  intro h
  apply hne
  simp only [runNode, harena, hlive]
  rcases hl : flowLoop env mfuel (buildTable ops) s sid st with ⟨evs, st', out⟩
  rw [hl] at h
  simp only at h
  subst h
  rfl

/-- **C10 (i), a flow run as a node.** The interpreted `Run` on a flow node (live context) and the interpreted `Flow.Exec` of that flow,
    on the same store and run state, record the same events and end in the same run state; `Run` returns an action iff `Flow.Exec`
    does, and then it is `Flow.Exec`'s action normalised (`"" ↦ "default"`); an error of the inner flow is passed through unchanged.
    Mirrors `Props.C10.nested_flow_presents_inner_result`. -/
theorem C10_nested_flow_presents_inner_result_for_interpreted_source (env : Env) (fid s : NodeId) (ops : List ConnOp) (mfuel : Nat)
    (sid : StoreId) (st : RunSt) (harena : env.arena fid = .flow (some s) ops) (hlive : st.ctx = .live)
    (hne : (runNode env (mfuel + 1) fid sid st).2.2 ≠ .fuel)
    (fuel : Nat) (hf : flowNodeFuel ≤ fuel) (efuel : Nat) (hef : mfuel + 40 ≤ efuel) :
    ∃ evs st' out out',
      runFlowNodeIR fuel Flyt.Expected.IR.Run env fid (some s) ops mfuel sid st = some (evs, st', out) ∧
      flowExecIR efuel Flyt.Expected.IR.Flow_Exec env fid (some s) ops mfuel sid st = some (evs, st', out') ∧
      (∀ a, out = .ok a ↔ ∃ a', out' = .ok a' ∧ a = norm a') ∧
      (∀ e, out = .err e ↔ out' = .err e) := by
  have hne' := flowLoop_ne_fuel_of_runNode env mfuel fid s ops sid st harena hlive hne
  rcases hl : flowLoop env mfuel (buildTable ops) s sid st with ⟨evs, st', out'⟩
  have hex := FlowExec_refines_flowLoop_ge env fid s ops mfuel sid st efuel hef hne'
  rw [hl] at hex
  rcases hr : runNode env (mfuel + 1) fid sid st with ⟨evs1, st1, out⟩
  have hrun := Run_refines_runNode_flow_of_le env fid (some s) ops mfuel sid st harena hne fuel hf
  rw [hr] at hrun
  obtain ⟨hok, herr⟩ := Props.C10.nested_flow_presents_inner_result env mfuel fid sid st harena hlive evs1 st1
  -- the events and the final state agree: `out` is an action or an error (not `.both`, not `.fuel`)
  have hshape := Props.C04.outcome_shapes env (mfuel + 1) fid sid st hr (by rw [hr] at hne; exact hne)
  have hsame : evs1 = evs ∧ st1 = st' := by
    rcases hshape with ⟨a, rfl⟩ | ⟨u, rfl⟩ | ⟨k, rfl⟩ | rfl
    · obtain ⟨a', h, _⟩ := (hok a).1 hr
      rw [hl] at h; simp only [Prod.mk.injEq] at h; exact ⟨h.1.symm, h.2.1.symm⟩
    · have h := (herr _).1 hr
      rw [hl] at h; simp only [Prod.mk.injEq] at h; exact ⟨h.1.symm, h.2.1.symm⟩
    · have h := (herr _).1 hr
      rw [hl] at h; simp only [Prod.mk.injEq] at h; exact ⟨h.1.symm, h.2.1.symm⟩
    · have h := (herr _).1 hr
      rw [hl] at h; simp only [Prod.mk.injEq] at h; exact ⟨h.1.symm, h.2.1.symm⟩
  obtain ⟨rfl, rfl⟩ := hsame
  refine ⟨evs1, st1, out, out', hrun, hex, fun a => ?_, fun e => ?_⟩
  · constructor
    · rintro rfl
      obtain ⟨a', h, ha⟩ := (hok a).1 hr
      rw [hl] at h; simp only [Prod.mk.injEq] at h
      exact ⟨a', h.2.2, ha⟩
    · rintro ⟨a', rfl, rfl⟩
      have := (hok (norm a')).2 ⟨a', hl, rfl⟩
      rw [hr] at this; simp only [Prod.mk.injEq] at this; exact this.2.2
  · constructor
    · rintro rfl
      have h := (herr e).1 hr
      rw [hl] at h; simp only [Prod.mk.injEq] at h; exact h.2.2
    · rintro rfl
      have := (herr e).2 hl
      rw [hr] at this; simp only [Prod.mk.injEq] at this; exact this.2.2

/-- … **where the inner flow's last action is the action returned by the last node it executed, and the inner flow stopped there because
    that node has no (non-nil) connection for it**: when the interpreted `Run` on a flow returns action `a`, its trace splits into
    visits chained by `IsPath`, each a genuine `flyt.Run` of one node, the last visit returned `a'` with `a = norm a'`, and the table has
    no successor for it. Mirrors `Props.C10.inner_action_is_last_nodes_action`. -/
theorem C10_inner_action_is_last_nodes_action_for_interpreted_source (env : Env) (fid s : NodeId) (ops : List ConnOp) (mfuel : Nat)
    (sid : StoreId) (st : RunSt) (harena : env.arena fid = .flow (some s) ops)
    (hne : (runNode env (mfuel + 1) fid sid st).2.2 ≠ .fuel) (fuel : Nat) (hf : flowNodeFuel ≤ fuel) :
    ∃ evs st' out, runFlowNodeIR fuel Flyt.Expected.IR.Run env fid (some s) ops mfuel sid st = some (evs, st', out) ∧
      ∀ a, out = .ok a →
        ∃ (vs : List Visit) (v : Visit) (a' : Action), IsPath ops s st vs st' (.ok a') ∧ evs = vs.flatMap (·.evs) ∧
          vs.getLast? = some v ∧ v.Genuine env sid ∧ v.out = .ok a' ∧ a = norm a' ∧
          (∀ nxt, next ops v.node a' ≠ some (some nxt)) :=
  transfer (Run_refines_runNode_flow_of_le env fid (some s) ops mfuel sid st harena hne fuel hf)
    (fun _ ha => Props.C10.inner_action_is_last_nodes_action env (mfuel + 1) fid sid st harena (Prod.ext rfl (Prod.ext rfl ha)))

/-- **C10 (ii), one shared store.** Every event in the trace of the interpreted `Run` on a flow that carries a store (prep / post of
    leaves and batch nodes), at every nesting depth, carries the store `sid` that was handed to that `Run`.
    Mirrors `Props.C10.same_store_everywhere` (flow root). What is interpreted here is the flow's own level (`Flow.Prep` returns
    `shared`, `Run` passes it to `Exec`); in this world `Flow.Exec` and all below it are the model's. -/
theorem C10_same_store_everywhere_for_interpreted_source (env : Env) (fid : NodeId) (start : Option NodeId) (ops : List ConnOp)
    (mfuel : Nat) (sid : StoreId) (st : RunSt) (harena : env.arena fid = .flow start ops)
    (hne : (runNode env (mfuel + 1) fid sid st).2.2 ≠ .fuel) (fuel : Nat) (hf : flowNodeFuel ≤ fuel) :
    ∃ evs st' out, runFlowNodeIR fuel Flyt.Expected.IR.Run env fid start ops mfuel sid st = some (evs, st', out) ∧
      ∀ e ∈ evs, evSid e = none ∨ evSid e = some sid :=
  transfer (Run_refines_runNode_flow_of_le env fid start ops mfuel sid st harena hne fuel hf)
    (Props.C10.same_store_everywhere env (mfuel + 1) fid sid st rfl hne)

/-- **C10 (iii), flattening.** What the interpreted `Run` on a flow returns (events in order, final run state, outcome) is what the
    flattened stack machine `Flat.run` (no recursion) computes, for every sufficiently large step budget.
    Mirrors `Props.C10.flattening` (flow root). `Flat.run` is a second model (`Model/Flat.lean`) without a source counterpart. -/
theorem C10_flattening_for_interpreted_source (env : Env) (fid : NodeId) (start : Option NodeId) (ops : List ConnOp)
    (mfuel : Nat) (sid : StoreId) (st : RunSt) (harena : env.arena fid = .flow start ops)
    (hne : (runNode env (mfuel + 1) fid sid st).2.2 ≠ .fuel) (fuel : Nat) (hf : flowNodeFuel ≤ fuel) :
    ∃ evs st' out, runFlowNodeIR fuel Flyt.Expected.IR.Run env fid start ops mfuel sid st = some (evs, st', out) ∧
      ∃ n, ∀ m, n ≤ m → Flat.run env m fid sid st = (evs, st', out) :=
  transfer (Run_refines_runNode_flow_of_le env fid start ops mfuel sid st harena hne fuel hf)
    (Props.C10.flattening env (mfuel + 1) fid sid st hne)

/-! ### non-vacuity: the nested flow 2 (start 4, `4 -x-> 5`) of `Proofs/ExampleEnv.lean` -/

example : ∃ evs st', runFlowNodeIR 43 Flyt.Expected.IR.Run Ex.env1 2 (some 4) [⟨4, "x", some 5⟩] 9 7 Ex.st0 = some (evs, st', .ok "y") ∧
    flowExecIR 49 Flyt.Expected.IR.Flow_Exec Ex.env1 2 (some 4) [⟨4, "x", some 5⟩] 9 7 Ex.st0 = some (evs, st', .ok "y") := by
  have hne : (runNode Ex.env1 (9 + 1) 2 7 Ex.st0).2.2 ≠ .fuel := by decide
  obtain ⟨evs, st', out, out', h1, h2, hok, _⟩ :=
    C10_nested_flow_presents_inner_result_for_interpreted_source Ex.env1 2 4 [⟨4, "x", some 5⟩] 9 7 Ex.st0 rfl rfl hne 43 (by decide)
      49 (by decide)
  have ho : out = .ok "y" := by
    have hr := Run_refines_runNode_flow_of_le Ex.env1 2 (some 4) [⟨4, "x", some 5⟩] 9 7 Ex.st0 rfl hne 43 (by decide)
    rw [hr] at h1
    have : (runNode Ex.env1 (9 + 1) 2 7 Ex.st0).2.2 = .ok "y" := by decide
    rw [← this]
    exact (congrArg (fun x => x.2.2) (Option.some.inj h1)).symm
  subst ho
  obtain ⟨a', ha', hn⟩ := (hok "y").1 rfl
  subst ha'
  have : a' = "y" := by
    have hl : (flowLoop Ex.env1 9 (buildTable [⟨4, "x", some 5⟩]) 4 7 Ex.st0).2.2 = .ok "y" := by decide
    have hr := FlowExec_refines_flowLoop_ge Ex.env1 2 4 [⟨4, "x", some 5⟩] 9 7 Ex.st0 49 (by decide) (by rw [hl]; simp)
    rw [hr] at h2
    have := congrArg (fun x => x.2.2) (Option.some.inj h2)
    simp only [hl] at this
    exact (Outcome.ok.inj this).symm
  subst this
  exact ⟨evs, st', h1, h2⟩

end Flyt.Refine.Source
