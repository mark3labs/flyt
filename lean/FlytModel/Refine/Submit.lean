import FlytModel.GoIR.SubmitWorld
import FlytModel.GoIR.TaskWorld
import FlytModel.Expected.IR
import FlytModel.Refine.Run
import FlytModel.Refine.Pool
import FlytModel.Refine.ConcSerial
/-!
# The SUBMITTER of `runBatchConcurrent` (batch.go:270-315): the goroutine that executes the function itself

`Refine/ConcSerial.lean` runs `runBatchConcurrent` on the serial schedule, `Refine/Task.lean` follows one task goroutine for ALL
schedules. Here the interpreter follows the goroutine that executes `runBatchConcurrent`, in `submitWorld` (`GoIR/SubmitWorld.lean`):
`pool.Submit(closure)` does NOT run the closure, the world records `submit k items[k]` with `k` the loop position; it answers
`NewWorkerPool`, `defer pool.Close()`, `Submit`, `Wait` and nothing else. That the closure of the `k`-th `Submit` captures ITS OWN index and item is proved of the interpreter, in
ANY world (`concBody_env`, `captured_at_submit`). Fuel `items.length + 11`: one level per iteration; for a non-empty list
`items.length + 10` is stuck (`GoIR/SubmitTest.lean`).
-/
namespace Flyt.Refine.Submit
open Flyt Flyt.GoIR Flyt.GoIR.SubmitW Flyt.Refine
set_option autoImplicit false
set_option linter.unusedSimpArgs false
set_option linter.unusedVariables false

section steps
variable {Ω : Type} (W : World Ω)

theorem stmt_range (f : Nat) (k v : String) (x : Expr) (body : Block) (st : St Ω) :
    execStmt W (f + 1) (.rangeS k v x body) st =
      match evalExpr W f x st with
      | some ([.slice ad off n], st1) => loopRange W f k v ad off n 0 body st1
      | some ([.anys l], st1) => loopAnys W f k v l 0 body st1
      | some ([.nil], st1) => some (.next, st1)
      | some ([m], st1) =>
        (match W.rangeOf m st1.w with
         | some kvs => loopPairs W f k v kvs body st1
         | none => none)
      | _ => none := rfl
/-- a closure handed to a method: run in place if the world says the method runs it at once, otherwise passed as an opaque value -/
theorem stmt_expr_closure (f : Nat) (recv : Expr) (m : String) (ps : List String) (body : Block) (st : St Ω) :
    execStmt W (f + 1) (.expr (.mcall recv m (.cons (.funcLit ps body) .nil))) st =
      (match evalExpr W f recv st with
       | some ([r], st1) =>
         if W.invokes r m then
           match execBlock W f body st1 with
           | some (.next, st2) => some (.next, popSt st2 st1.env.length)
           | some (.ret _, st2) => some (.next, popSt st2 st1.env.length)
           | _ => none
         else
           (match W.mcall r m [.ref "closure" 0] st1.heap st1.w with
            | some (_, h, w) => some (.next, { st1 with heap := h, w := w })
            | none => none)
       | _ => none) := rfl
theorem loopRange_succ (f : Nat) (k v : String) (ad off n i : Nat) (body : Block) (st : St Ω) :
    loopRange W (f + 1) k v ad off n i body st =
      if i < n then
        match heapGet st.heap ad (off + i) with
        | none => none
        | some r =>
          (match execBlock W f body { st with env := (st.env.push k (.int i)).push v (.result r) } with
           | some (.brk, st2) => some (.next, popSt st2 st.env.length)
           | some (.ret vs, st2) => some (.ret vs, popSt st2 st.env.length)
           | some (_, st2) => loopRange W f k v ad off n (i + 1) body (popSt st2 st.env.length)
           | none => none)
      else some (.next, st) := rfl
end steps

/-- `pool.Submit(func() {…task…})` -/
def submitStmt : Stmt := .expr (.mcall (.var "pool") "Submit" E[(.funcLit [] closBody)])

theorem concBody_eq : concBody = B[(.define ["idx"] E[(.var "i")]), (.define ["itm"] E[(.var "item")]), submitStmt] := rfl

section anyWorld
variable {Ω : Type} (W : World Ω)

theorem submitStmt_exec (f : Nat) (env : GoIR.Env) (h : Heap) (w : Ω) (p : GV) (hp : env.get "pool" = some p)
    (hinv : W.invokes p "Submit" = false) :
    execStmt W (f + 2) submitStmt ⟨env, h, w⟩ =
      (match W.mcall p "Submit" [.ref "closure" 0] h w with
       | some (_, h', w') => some (.next, ⟨env, h', w'⟩)
       | none => none) := by
  simp [submitStmt, stmt_expr_closure, expr_var, hp, hinv]

/-- the per-iteration copies of `for i, item := range items { idx := i; itm := item; pool.Submit(…) }`: `idx ↦ k`, `itm ↦ item` are
    fresh bindings of THIS iteration, which is what the closure captures -/
theorem concBody_env (f k : Nat) (item : Result) (env : GoIR.Env) (h : Heap) (w : Ω) :
    execBlock W (f + 5) concBody ⟨("item", .result item) :: ("i", .int k) :: env, h, w⟩ =
      (match execStmt W (f + 2) submitStmt
          ⟨("itm", .result item) :: ("idx", .int k) :: ("item", .result item) :: ("i", .int k) :: env, h, w⟩ with
       | some (.next, st1) => some (.next, st1)
       | r => r) := by
  simp only [concBody_eq, block_cons, stmt_define, evalRhs, isCommaOk, List.length_cons, List.length_nil]
  simp [expr_var, Env.get, Env.pushAll, Env.push]
  cases execStmt W (f + 2) submitStmt
      ⟨("itm", .result item) :: ("idx", .int k) :: ("item", .result item) :: ("i", .int k) :: env, h, w⟩ with
  | none => rfl
  | some x =>
    obtain ⟨c, st1⟩ := x
    cases c <;> simp [block_nil]
end anyWorld

/-- environment of the loop of `runBatchConcurrent`: the three locals on top of the six parameters; `shouldStop` is `false` -/
def sEnv (ctx node : GV) (ia off n : Nat) (results : GV) (conc : Int) (eh : GV) (p : GV) : GoIR.Env :=
  [("shouldStop", .bool false), ("mu", .ref "mutex" 0), ("pool", p),
   ("errorHandling", eh), ("concurrency", .int conc), ("results", results), ("items", .slice ia off n),
   ("node", node), ("ctx", ctx)]

/-- environment of the `Submit` statement of iteration `k`, the item being `item` -/
def submitEnv (ctx node : GV) (ia off n : Nat) (results : GV) (conc : Int) (eh : GV) (p : GV) (k : Nat) (item : Result) : GoIR.Env :=
  ("itm", .result item) :: ("idx", .int k) :: ("item", .result item) :: ("i", .int k) :: sEnv ctx node ia off n results conc eh p

/-- **What task `k` captures.** In the environment of the `k`-th `Submit` statement the variables the task closure captures
    (`TaskW.captured`) have exactly the values `TaskW.taskArgs results eh k item node` with which `Refine/Task.lean` runs the task of
    item `k` — ITS OWN index and item; and the shared flag `shouldStop`, which the closure reaches by reference, is `false`: the
    submitter never writes it (only tasks do, under `mu`: `Task.task_discipline`). -/
theorem captured_at_submit (node results p : GV) (ia off n : Nat) (conc : Int) (eh : String) (k : Nat) (item : Result) :
    TaskW.captured.map (submitEnv TaskW.ctxRef node ia off n results conc (.str eh) p k item).get =
      (TaskW.taskArgs results eh k item node).map some ∧
    (submitEnv TaskW.ctxRef node ia off n results conc (.str eh) p k item).get "shouldStop" = some (.bool false) := by
  constructor <;> rfl

theorem W_newPool (c : Int) (h : Heap) (w : SW) :
    submitWorld.call "NewWorkerPool" [.int c] h w = some ([poolH], h, emit w (.newPool c)) := rfl
theorem W_deferClose (i : Nat) (h : Heap) (w : SW) :
    submitWorld.mcall (.ref "pool" i) "defer:Close" [] h w =
      some ([], h, { emit w .deferClose with defers := .close :: w.defers }) := rfl
theorem W_submit (i j : Nat) (h : Heap) (w : SW) :
    submitWorld.mcall (.ref "pool" i) "Submit" [.ref "closure" j] h w = onSubmit h w := rfl
theorem W_wait (i : Nat) (h : Heap) (w : SW) : submitWorld.mcall (.ref "pool" i) "Wait" [] h w = some ([], h, emit w .wait) := rfl
/-- no method of this world runs a closure -/
theorem W_invokes (r : GV) (m : String) : submitWorld.invokes r m = false := rfl
theorem W_global (x : String) : submitWorld.global x = none := rfl
theorem W_callVar (fn : String) (fv : GV) : submitWorld.callVar fn fv = submitWorld.call fn := rfl

theorem sbody (ctx node results eh : GV) (ia off n : Nat) (conc : Int) (k : Nat) (item : Result) (h : Heap)
    (tr ds : List SAct) (hget : heapGet h ia (off + k) = some item) (f : Nat) :
    execBlock submitWorld (f + 5) concBody
        ⟨("item", .result item) :: ("i", .int k) :: sEnv ctx node ia off n results conc eh poolH, h, ⟨tr, ds, ia, off, k⟩⟩ =
      some (.next, ⟨submitEnv ctx node ia off n results conc eh poolH k item, h, ⟨tr ++ [.submit k item], ds, ia, off, k + 1⟩⟩) := by
  rw [concBody_env, submitStmt_exec submitWorld f _ h _ poolH rfl (W_invokes _ _)]
  simp [poolH, W_submit, onSubmit, hget, emit, submitEnv]

theorem submitsFrom_append (i : Nat) (a b : List Result) :
    submitsFrom i (a ++ b) = submitsFrom i a ++ submitsFrom (i + a.length) b := by
  induction a generalizing i with
  | nil => simp [submitsFrom]
  | cons x t ih => simp [submitsFrom, ih, Nat.add_assoc, Nat.add_comm 1]

/-- `k` iterations to go; fuel `k + c + 5`: `loopRange` spends one level per iteration, the body needs 5 (`sbody`) -/
theorem submit_loop (ctx node results eh : GV) (ia off : Nat) (conc : Int) (items : List Result) (h : Heap)
    (hget : ∀ j (hj : j < items.length), heapGet h ia (off + j) = some items[j]) (ds : List SAct) (c k : Nat) :
    ∀ (i : Nat) (tr : List SAct), i + k = items.length →
    loopRange submitWorld (k + c + 5) "i" "item" ia off items.length i concBody
        ⟨sEnv ctx node ia off items.length results conc eh poolH, h, ⟨tr, ds, ia, off, i⟩⟩ =
      some (.next, ⟨sEnv ctx node ia off items.length results conc eh poolH, h,
        ⟨tr ++ submitsFrom i (items.drop i), ds, ia, off, items.length⟩⟩) := by
  induction k with
  | zero =>
    intro i tr hik
    have hi : i = items.length := by omega
    subst hi
    rw [show 0 + c + 5 = (c + 4) + 1 from by omega]
    simp [loopRange_succ, submitsFrom]
  | succ k ih =>
    intro i tr hik
    have hi : i < items.length := by omega
    have hd : items.drop i = items[i] :: items.drop (i + 1) := List.drop_eq_getElem_cons hi
    rw [show k + 1 + c + 5 = (k + c + 5) + 1 from by omega, loopRange_succ]
    simp only [hi, if_true, hget i hi]
    have hp : Env.push (Env.push (sEnv ctx node ia off items.length results conc eh poolH) "i" (.int i)) "item" (.result items[i])
        = ("item", .result items[i]) :: ("i", .int i) :: sEnv ctx node ia off items.length results conc eh poolH := by
      simp [Env.push]
    rw [hp, show k + c + 5 = (k + c) + 5 from by omega, sbody ctx node results eh ia off items.length conc i items[i] h tr ds (hget i hi)]
    have hpop : popSt (Ω := SW) ⟨submitEnv ctx node ia off items.length results conc eh poolH i items[i], h,
          ⟨tr ++ [.submit i items[i]], ds, ia, off, i + 1⟩⟩ (sEnv ctx node ia off items.length results conc eh poolH).length =
        ⟨sEnv ctx node ia off items.length results conc eh poolH, h, ⟨tr ++ [.submit i items[i]], ds, ia, off, i + 1⟩⟩ := rfl
    simp only [hpop]
    rw [ih (i + 1) _ (by omega), hd]
    simp [submitsFrom, -List.getElem_cons_drop]

theorem rbc_recv : Flyt.Expected.IR.runBatchConcurrent.recv = "" := rfl
theorem rbc_params :
    Flyt.Expected.IR.runBatchConcurrent.params = ["ctx", "node", "items", "results", "concurrency", "errorHandling"] := rfl

/-- the body: `close` is still pending when `Wait` has returned. `11`: `loopRange` runs 6 levels below the call and needs
    `items.length + 5` (`submit_loop`) -/
theorem submitter_body_of_le (ctx node results eh : GV) (ia off : Nat) (conc : Int) (items : List Result) (h : Heap)
    (hget : ∀ j (hj : j < items.length), heapGet h ia (off + j) = some items[j])
    (w : SW) (hia : w.ia = ia) (hoff : w.off = off) (hsub : w.submitted = 0) (fuel : Nat) (hf : items.length + 11 ≤ fuel) :
    runBody fuel Flyt.Expected.IR.runBatchConcurrent (submitterArgs ctx node ia off items.length results conc eh) h w =
      some ([], h, { w with trace := w.trace ++ bodyTrace conc items, defers := .close :: w.defers, submitted := items.length }) := by
  obtain ⟨c, rfl⟩ := Nat.exists_eq_add_of_le hf
  obtain ⟨tr, ds, ia', off', sub⟩ := w
  simp only at hia hoff hsub
  subst hia hoff hsub
  have hl := submit_loop ctx node results eh ia' off' conc items h hget (.close :: ds) c items.length 0
    (tr ++ [.newPool conc, .deferClose]) (by omega)
  simp only [sEnv, poolH, List.drop_zero] at hl
  simp [runBody, callFunc, submitterArgs, rbc_recv, rbc_params, runBatchConcurrent_body, Env.pushAll, Env.push,
    show items.length + 11 + c = items.length + c + 5 + 1 + 1 + 1 + 1 + 1 + 1 from by omega,
    block_cons, block_nil, stmt_define, stmt_declare, Pool.stmt_defer, stmt_range, Pool.stmt_expr_mcall_nil,
    evalRhs, isCommaOk, expr_var, expr_call, expr_mcall, args_one, args_nil, Env.get, zeroOf,
    W_newPool, W_deferClose, W_wait, W_global, poolH, emit, hl, bodyTrace]

/-- **The submitter of `runBatchConcurrent`.** For every item list (the window `[off, off + n)` of backing array `ia`), every `ctx`,
    `node`, `results`, `errorHandling`, `concurrency`, every earlier history of the world, at EVERY depth `≥ items.length + 11`: the
    call RETURNS NOTHING, leaves the HEAP as it was (the submitter writes no slot), and what it does to the pool is, in this order:
    `newPool concurrency`, `deferClose`, `submit k items[k]` for `k = 0, …, n-1`, `wait`, and at function exit the deferred `close`
    (then whatever was pending before). Nothing else: any other request to the world is stuck. -/
theorem submitter_refines_of_le (ctx node results eh : GV) (ia off : Nat) (conc : Int) (items : List Result) (h : Heap)
    (hget : ∀ j (hj : j < items.length), heapGet h ia (off + j) = some items[j])
    (w : SW) (hia : w.ia = ia) (hoff : w.off = off) (hsub : w.submitted = 0) (fuel : Nat) (hf : items.length + 11 ≤ fuel) :
    runSubmitter fuel Flyt.Expected.IR.runBatchConcurrent (submitterArgs ctx node ia off items.length results conc eh) h w =
      some ([], h, { w with trace := w.trace ++ bodyTrace conc items ++ .close :: w.defers, defers := [],
                            submitted := items.length }) := by
  simp [runSubmitter, submitter_body_of_le ctx node results eh ia off conc items h hget w hia hoff hsub fuel hf, exitDefers]

theorem hget_window (h : Heap) (ia : Nat) (pre items post : List Result) (hc : h[ia]? = some (pre ++ items ++ post)) :
    ∀ j (hj : j < items.length), heapGet h ia (pre.length + j) = some items[j] := by
  intro j hj
  simp [heapGet, hc, List.getElem?_append_right, List.getElem?_append_left, hj]

theorem submitter_trace (ctx node results eh : GV) (ia : Nat) (conc : Int) (pre items post : List Result) (h : Heap)
    (hc : h[ia]? = some (pre ++ items ++ post)) (fuel : Nat) (hf : items.length + 11 ≤ fuel) :
    view (runSubmitter fuel Flyt.Expected.IR.runBatchConcurrent
        (submitterArgs ctx node ia pre.length items.length results conc eh) h { ia := ia, off := pre.length }) =
      some ([], h, submitterTrace conc items, [], items.length) := by
  rw [submitter_refines_of_le ctx node results eh ia pre.length conc items h (hget_window h ia pre items post hc) _ rfl rfl rfl fuel hf]
  simp [view, submitterTrace]

/-- as `runBatch` calls it: `items` = array 0, `results` = array 1 of the heap -/
theorem submitter_trace_std (ctx node eh : GV) (conc : Int) (items res : List Result) (fuel : Nat) (hf : items.length + 11 ≤ fuel) :
    view (runSubmitter fuel Flyt.Expected.IR.runBatchConcurrent
        (submitterArgs ctx node 0 0 items.length (.slice 1 0 res.length) conc eh) [items, res] {}) =
      some ([], [items, res], submitterTrace conc items, [], items.length) := by
  have := submitter_trace ctx node (.slice 1 0 res.length) eh 0 conc [] items [] [items, res] (by simp) fuel hf
  simpa using this

theorem submitsFrom_eq (i : Nat) (items : List Result) :
    submitsFrom i items = (items.zipIdx i).map fun p => SAct.submit p.2 p.1 := by
  induction items generalizing i with
  | nil => rfl
  | cons x t ih => simp [submitsFrom, ih, List.zipIdx_cons]

theorem submitted_append (a b : List SAct) : submitted (a ++ b) = submitted a ++ submitted b := by
  induction a with
  | nil => rfl
  | cons x t ih => cases x <;> simp [submitted, ih]

theorem submitted_submitsFrom (i : Nat) (items : List Result) :
    submitted (submitsFrom i items) = (items.zipIdx i).map fun p => (p.2, p.1) := by
  induction items generalizing i with
  | nil => rfl
  | cons x t ih => simp [submitsFrom, submitted, ih, List.zipIdx_cons]

/-- the trace, with the loop spelled as a `map` over the items with their indices -/
theorem submitterTrace_eq (conc : Int) (items : List Result) :
    submitterTrace conc items =
      [.newPool conc, .deferClose] ++ (items.zipIdx.map fun p => SAct.submit p.2 p.1) ++ [.wait] ++ [.close] := by
  simp [submitterTrace, bodyTrace, submitsFrom_eq]

theorem submitted_eq (conc : Int) (items : List Result) :
    submitted (submitterTrace conc items) = items.zipIdx.map fun p => (p.2, p.1) := by
  simp [submitterTrace, bodyTrace, submitted_append, submitted_submitsFrom, submitted]

theorem submitted_length (conc : Int) (items : List Result) : (submitted (submitterTrace conc items)).length = items.length := by
  simp [submitted_eq]

/-- the `k`-th task is that of index `k` and item `items[k]` -/
theorem submit_nth (conc : Int) (items : List Result) (k : Nat) :
    (submitted (submitterTrace conc items))[k]? = items[k]?.map fun r => (k, r) := by
  simp [submitted_eq, List.getElem?_zipIdx]
  cases items[k]? <;> simp

theorem dropWhile_submitsFrom (i : Nat) (items : List Result) (rest : List SAct) :
    (submitsFrom i items ++ rest).dropWhile SAct.isSubmit = rest.dropWhile SAct.isSubmit := by
  induction items generalizing i with
  | nil => rfl
  | cons x t ih => simp [submitsFrom, List.dropWhile_cons, ih, SAct.isSubmit]

/-- shape: the pool is made first, `Close` is deferred at once, then only `submit`s, then `wait`, and `close` is the LAST action -/
theorem wellFormed_submitterTrace (conc : Int) (items : List Result) : wellFormed (submitterTrace conc items) = true := by
  simp [submitterTrace, bodyTrace, wellFormed, List.append_assoc, dropWhile_submitsFrom, List.dropWhile_cons, SAct.isSubmit]

end Flyt.Refine.Submit
