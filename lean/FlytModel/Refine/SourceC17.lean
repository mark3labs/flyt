import FlytModel.Refine.SourceBase
import FlytModel.Props.C17
/-!
# C17 (function-style nodes pass values between phases unchanged) about the interpreted source

Subjects: `Run` on a single node (`runLeafIR`, `Run_refines_runLeaf_of_le`) and `runExecWithRetries` (`runItemIR`,
`runExecWithRetries_refines_runItem_of_le`). In the leaf world the node's `Prep` / `Exec` / `Post` methods are world entries; for a
function-style node (`Style.res` / `Style.any`) the entry applies the model's adapter functions (`prepRet`, `execArg`, `execRet`,
`postArgs`) and records what the user function is handed. So what is derived from the source of `Run` here is the threading between
the method calls; that `CustomNode.Prep/Exec/Post` and the Any-style wrappers compute those adapter functions is
`Refine/Adapters.lean`, in its own world.
Not carried over: the theorems of `Props/C17.lean` about the adapter functions alone (no run involved), and the bridges
`c17Visit_bridge`, `c17Visit_flow_bridge` to the driver's predicate.
-/
set_option autoImplicit false
namespace Flyt.Refine.Source
open Flyt Flyt.Spec Flyt.GoIR Flyt.Refine Flyt.Proofs.Attempts Flyt.Proofs.Leaf Flyt.Proofs.LeafSpec Flyt.Proofs.Payload Flyt.Proofs.Item
open Flyt.Proofs.Styles

/-- **C17, in every interpreted `Run`, every exec attempt receives the prep payload** (a Result-style exec function as `NewResult(pv)`, any
    other as `pv`), `pv` = the value prep returned. Mirrors `Props.C17.run_exec_receives_prep_payload`. -/
theorem C17_run_exec_receives_prep_payload_for_interpreted_source (kind : CtxKind) (n v sid : Nat) (cfg : LeafCfg) (scr : LeafScript)
    (hp : PlainPayloads cfg scr) (fuel : Nat) (hf : runFuel cfg ≤ fuel) :
    ∃ evs ctx' out, runLeafIR fuel Flyt.Expected.IR.Run kind n v sid cfg scr .live = some (evs, ctx', out) ∧
      ∀ (n' v' k : Nat) (a : Val), Ev.exec n' v' k a ∈ evs →
        ∃ pv, prepValue cfg scr = some pv ∧ a = (match cfg.execS with | .res => (newResult pv).box | _ => pv) :=
  transfer (Run_refines_runLeaf_of_le kind n v sid cfg scr .live fuel hf)
    (fun n' v' k a h => Props.C17.run_exec_receives_prep_payload kind n v sid cfg scr hp n' v' k a h)

/-- **C17, in every interpreted `Run`, post receives the prep payload and, when an attempt (not the fallback) produced the result, exactly
    the Result that attempt's exec function returned**, seen through post's style. Mirrors `Props.C17.run_post_receives_exec_result`. -/
theorem C17_run_post_receives_exec_result_for_interpreted_source (kind : CtxKind) (n v sid : Nat) (cfg : LeafCfg) (scr : LeafScript)
    (hp : PlainPayloads cfg scr) (fuel : Nat) (hf : runFuel cfg ≤ fuel) :
    ∃ evs ctx' out, runLeafIR fuel Flyt.Expected.IR.Run kind n v sid cfg scr .live = some (evs, ctx', out) ∧
      ∀ (s : Nat) (a b : Val), Ev.post n v s a b ∈ evs →
        ∃ pv, prepValue cfg scr = some pv ∧
          a = (match cfg.postS with | .res => (newResult pv).box | _ => pv) ∧
          (fbCalls evs = [] → cfg.execS ≠ .absent → 1 ≤ cfg.effBudget →
            ∃ k y, execCount evs = k + 1 ∧ (scr.exec k).res = .ok y ∧ b = received cfg.postS (returned cfg.execS y)) :=
  transfer (Run_refines_runLeaf_of_le kind n v sid cfg scr .live fuel hf)
    (fun s a b h => Props.C17.run_post_receives_exec_result kind n v sid cfg scr hp s a b h)

/-- **C17, every style mix, decoded, is the plain method-style node**: the interpreted `Run` on a node of configuration `cfg` whose
    functions behave as the base script `b` written in `cfg`'s styles, and the interpreted `Run` on the same node with methods
    behaving as `b`, make the same callbacks in the same order with the same payloads (`decEv cfg` reads the payload out of the wire
    value), leave the same context and return the same outcome, for every base script of plain payloads and every context.
    Mirrors `Props.C17.any_style_mix_is_the_method_node`. -/
theorem C17_any_style_mix_is_the_method_node_for_interpreted_source (kind : CtxKind) (n v sid : Nat) (cfg : LeafCfg) (b : LeafScript)
    (hb : PlainScript b) (ctx : Ctx) (fuel : Nat) (hf : runFuel cfg ≤ fuel) (fuel' : Nat) (hf' : runFuel (flatCfg cfg) ≤ fuel') :
    ∃ evs ctx' out evs₀,
      runLeafIR fuel Flyt.Expected.IR.Run kind n v sid cfg (encScript cfg b) ctx = some (evs, ctx', out) ∧
      runLeafIR fuel' Flyt.Expected.IR.Run kind n v sid (flatCfg cfg) b ctx = some (evs₀, ctx', out) ∧
      evs.map (decEv cfg) = evs₀ := by
  obtain ⟨h1, h2⟩ := Props.C17.any_style_mix_is_the_method_node kind n v sid cfg b hb ctx
  refine ⟨_, _, _, _, Run_refines_runLeaf_of_le kind n v sid cfg (encScript cfg b) ctx fuel hf, ?_, h1⟩
  rw [Run_refines_runLeaf_of_le kind n v sid (flatCfg cfg) b ctx fuel' hf']
  exact congrArg some (Prod.ext rfl h2.symm)

/-- **C17, the Result-style and Any-style variants are interchangeable**: the interpreted `Run` on two nodes that differ only in the
    style of their prep / exec / post functions observes the same payloads at every callback and ends the same way.
    Mirrors `Props.C17.styles_interchangeable`. -/
theorem C17_styles_interchangeable_for_interpreted_source (kind : CtxKind) (n v sid : Nat) (cfg cfg' : LeafCfg) (b : LeafScript)
    (hsame : flatCfg cfg = flatCfg cfg') (hb : PlainScript b) (ctx : Ctx)
    (fuel : Nat) (hf : runFuel cfg ≤ fuel) (fuel' : Nat) (hf' : runFuel cfg' ≤ fuel') :
    ∃ evs evs' ctx' out,
      runLeafIR fuel Flyt.Expected.IR.Run kind n v sid cfg (encScript cfg b) ctx = some (evs, ctx', out) ∧
      runLeafIR fuel' Flyt.Expected.IR.Run kind n v sid cfg' (encScript cfg' b) ctx = some (evs', ctx', out) ∧
      evs.map (decEv cfg) = evs'.map (decEv cfg') := by
  obtain ⟨h1, h2⟩ := Props.C17.styles_interchangeable kind n v sid cfg cfg' b hsame hb ctx
  refine ⟨_, _, _, _, Run_refines_runLeaf_of_le kind n v sid cfg (encScript cfg b) ctx fuel hf, ?_, h1⟩
  rw [Run_refines_runLeaf_of_le kind n v sid cfg' (encScript cfg' b) ctx fuel' hf']
  exact congrArg some (Prod.ext rfl h2.symm)

/-- **C17, … inside batches too**: in the interpreted `runExecWithRetries`, a Result-style and an Any-style exec function of a batch
    node observe the same item payload at every attempt, and the item ends with the same slot / error.
    Mirrors `Props.C17.batch_styles_interchangeable`. -/
theorem C17_batch_styles_interchangeable_for_interpreted_source (kind : CtxKind) (n v : Nat) (cfg : BatchCfg) (i : Nat) (item : Result)
    (b : ItemScript) (ctx : Ctx) (hs : cfg.execS = .res ∨ cfg.execS = .any)
    (fuel : Nat) (hf : itemFuel cfg ≤ fuel) (fuel' : Nat) (hf' : itemFuel { cfg with execS := .any } ≤ fuel') :
    ∃ evs ctx' res evs₀,
      runItemIR fuel Flyt.Expected.IR.runExecWithRetries kind n v cfg i item (encItem cfg.execS b) ctx = some (evs, ctx', res) ∧
      runItemIR fuel' Flyt.Expected.IR.runExecWithRetries kind n v { cfg with execS := .any } i item b ctx = some (evs₀, ctx', res) ∧
      evs.map (decB cfg.execS) = evs₀ := by
  obtain ⟨h1, h2⟩ := Props.C17.batch_styles_interchangeable kind n v cfg i item b ctx hs
  refine ⟨_, _, _, _, runExecWithRetries_refines_runItem_of_le kind n v cfg i item (encItem cfg.execS b) ctx fuel hf, ?_, h1⟩
  rw [runExecWithRetries_refines_runItem_of_le kind n v { cfg with execS := .any } i item b ctx fuel' hf']
  exact congrArg some (Prod.ext rfl h2.symm)

/-- **C17, inside a batch the item is passed as is**: every attempt of the interpreted `runExecWithRetries` on item `i` receives the
    item: the `Result` itself for a Result-style exec function, its `Value()` for an Any-style one.
    Mirrors `Props.C17.batch_item_passed_as_is`. -/
theorem C17_batch_item_passed_as_is_for_interpreted_source (kind : CtxKind) (n v : Nat) (cfg : BatchCfg) (i : Nat) (item : Result)
    (scr : ItemScript) (fuel : Nat) (hf : itemFuel cfg ≤ fuel) :
    ∃ evs ctx' res, runItemIR fuel Flyt.Expected.IR.runExecWithRetries kind n v cfg i item scr .live = some (evs, ctx', res) ∧
      evs.filter (isBexecOf i) = (List.range (bexecCount i evs)).map
        (fun k => Ev.bexec n v i k (match cfg.execS with | .any => item.valueOf | _ => item.box)) :=
  transfer (runExecWithRetries_refines_runItem_of_le kind n v cfg i item scr .live fuel hf)
    (Props.C17.batch_item_passed_as_is kind n v cfg i item scr)

/-- **C17, … and slot `i` is exec's result**: when no callback cancels and attempt `k` is the first to succeed, what the interpreted
    `runExecWithRetries` hands back for the item's slot is exactly the `Result` the exec function returned (Result-style), resp.
    `NewResult` of the value it returned (Any-style). Mirrors `Props.C17.batch_slot_is_exec_result`. -/
theorem C17_batch_slot_is_exec_result_for_interpreted_source (kind : CtxKind) (n v : Nat) (cfg : BatchCfg) (i : Nat) (item : Result)
    (scr : ItemScript) (hnc : Flyt.Proofs.Item.NoCancel cfg scr) (hS : cfg.execS ≠ .absent)
    (k : Nat) (y : Val) (hk : FirstOk scr.exec k) (hkb : k < cfg.budget) (hy : (scr.exec k).res = .ok y)
    (hplain : Plain (returned cfg.execS y).valueOf) (fuel : Nat) (hf : itemFuel cfg ≤ fuel) :
    ∃ evs ctx', runItemIR fuel Flyt.Expected.IR.runExecWithRetries kind n v cfg i item scr .live
      = some (evs, ctx', .slot (returned cfg.execS y)) := by
  have h := Props.C17.batch_slot_is_exec_result kind n v cfg i item scr hnc hS k y hk hkb hy hplain
  refine ⟨(runItem kind n v cfg i item scr .live).1, (runItem kind n v cfg i item scr .live).2.1, ?_⟩
  rw [runExecWithRetries_refines_runItem_of_le kind n v cfg i item scr .live fuel hf]
  exact congrArg some (Prod.ext rfl (Prod.ext rfl h))

/-! ### non-vacuity: the (res, any, res) node of `Props/C17.lean` -/

example : runLeafIR 46 Flyt.Expected.IR.Run .canceled 3 0 1 Props.C17.exCfg Props.C17.exScr .live =
    some ([.prep 3 0 1, .exec 3 0 0 (.tok 7), .exec 3 0 1 (.tok 7), .post 3 0 1 (.res (.tok 7) none) (.res (.tok 9) none)],
      (runLeaf .canceled 3 0 1 Props.C17.exCfg Props.C17.exScr .live).2.1,
      (runLeaf .canceled 3 0 1 Props.C17.exCfg Props.C17.exScr .live).2.2) := by
  rw [Run_refines_runLeaf_of_le _ _ _ _ _ _ _ 46 (by decide)]
  exact congrArg some (Prod.ext (by decide) rfl)

end Flyt.Refine.Source
