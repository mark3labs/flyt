import FlytModel.Refine.SourceBase
import FlytModel.Props.C20
/-!
# C20 (the retry wait is honoured between attempts and is interruptible) about the interpreted source

Subjects: the retry loop of `flyt.Run` (`runLeafIR`, `Run_refines_runLeaf_of_le`) and its duplicate `runExecWithRetries` for batch
items (`runItemIR`, `runExecWithRetries_refines_runItem_of_le`); every context, configuration and script.
An event `wait n v k d fired` of the interpreted trace is recorded by the leaf / item world when the interpreter reaches the
`select { case <-time.After(d): … case <-ctx.Done(): … }` of the translated source: the world is asked `time.After` with the duration
the source computed (so `d = effWait` is a statement about the source), then which case fires; it answers from the script's oracle
`scr.waitCancel k`, `k` = the number of exec calls made so far. `fired = true` ⇒ "at least `d` elapsed" is `time.After`'s contract
and stays trusted, as in `Props/C20.lean`.
Not carried over: `leaf_spec`, `item_spec`, `batch_spec`, `batch_spec_runBatch` (the driver's predicates) and
`batch_items_are_runItem` (subject `runBatchW` of `Model/Wait.lean`, which has no refinement theorem; for `runBatch` the per-item
reading is `C02_batch_item_own_loop_for_interpreted_source`).
-/
set_option autoImplicit false
namespace Flyt.Refine.Source
open Flyt Flyt.Spec Flyt.GoIR Flyt.Refine

/-- **C20, waits are honoured.** With a wait configured, every attempt after the first in the interpreted `Run` is immediately preceded by its
    wait, with the configured duration, fired. Mirrors `Props.C20.leaf_retry_preceded_by_wait`. -/
theorem C20_leaf_retry_preceded_by_wait_for_interpreted_source (kind : CtxKind) (n v sid : Nat) (cfg : LeafCfg) (scr : LeafScript) (ctx : Ctx) (hw : 0 < cfg.effWait)
    (fuel : Nat) (hf : runFuel cfg ≤ fuel) :
    ∃ evs ctx' out, runLeafIR fuel Flyt.Expected.IR.Run kind n v sid cfg scr ctx = some (evs, ctx', out) ∧
      ∀ (k : Nat) (a : Val) (pre post : List Ev), 0 < k → evs = pre ++ .exec n v k a :: post →
        ∃ pre', pre = pre' ++ [.wait n v k cfg.effWait true] :=
  transfer (Run_refines_runLeaf_of_le kind n v sid cfg scr ctx fuel hf)
    (Props.C20.leaf_retry_preceded_by_wait kind n v sid cfg scr ctx hw)

/-- **No wait before the first attempt.** Whatever precedes attempt 0 is the prep event or nothing.
    Mirrors `Props.C20.leaf_no_wait_before_first`. -/
theorem C20_leaf_no_wait_before_first_for_interpreted_source (kind : CtxKind) (n v sid : Nat) (cfg : LeafCfg) (scr : LeafScript) (ctx : Ctx)
    (fuel : Nat) (hf : runFuel cfg ≤ fuel) :
    ∃ evs ctx' out, runLeafIR fuel Flyt.Expected.IR.Run kind n v sid cfg scr ctx = some (evs, ctx', out) ∧
      ∀ (a : Val) (pre post : List Ev), evs = pre ++ .exec n v 0 a :: post →
        (pre = [] ∨ pre = [.prep n v sid]) ∧ ∀ e ∈ pre, e.isWait = false :=
  transfer (Run_refines_runLeaf_of_le kind n v sid cfg scr ctx fuel hf)
    (Props.C20.leaf_no_wait_before_first kind n v sid cfg scr ctx)

/-- **No wait after the last attempt.** Every fired wait of the interpreted run belongs to this visit, carries the configured duration
    and is immediately followed by the attempt it precedes. Mirrors `Props.C20.leaf_fired_wait_followed`. -/
theorem C20_leaf_fired_wait_followed_for_interpreted_source (kind : CtxKind) (n v sid : Nat) (cfg : LeafCfg) (scr : LeafScript) (ctx : Ctx)
    (fuel : Nat) (hf : runFuel cfg ≤ fuel) :
    ∃ evs ctx' out, runLeafIR fuel Flyt.Expected.IR.Run kind n v sid cfg scr ctx = some (evs, ctx', out) ∧
      ∀ (n' v' k d : Nat) (pre post : List Ev), evs = pre ++ .wait n' v' k d true :: post →
        n' = n ∧ v' = v ∧ d = cfg.effWait ∧ 0 < k ∧ ∃ a post', post = .exec n v k a :: post' :=
  transfer (Run_refines_runLeaf_of_le kind n v sid cfg scr ctx fuel hf)
    (Props.C20.leaf_fired_wait_followed kind n v sid cfg scr ctx)

/-- **No wait configured ⇒ no wait events** (a node that is not a `RetryableNode` never reads a wait: `effWait = 0`).
    Mirrors `Props.C20.leaf_no_wait_without_config`. -/
theorem C20_leaf_no_wait_without_config_for_interpreted_source (kind : CtxKind) (n v sid : Nat) (cfg : LeafCfg) (scr : LeafScript) (ctx : Ctx) (hw : cfg.effWait = 0)
    (fuel : Nat) (hf : runFuel cfg ≤ fuel) :
    ∃ evs ctx' out, runLeafIR fuel Flyt.Expected.IR.Run kind n v sid cfg scr ctx = some (evs, ctx', out) ∧
      ∀ e ∈ evs, e.isWait = false :=
  transfer (Run_refines_runLeaf_of_le kind n v sid cfg scr ctx fuel hf)
    (Props.C20.leaf_no_wait_without_config kind n v sid cfg scr ctx hw)

/-- **A cancellation during the wait ends the run there**: an interrupted wait is the last event, `Run` returns the context's error, the
    context is done, and the oracle did say "cancel". Mirrors `Props.C20.leaf_interrupted_wait_ends_run`. -/
theorem C20_leaf_interrupted_wait_ends_run_for_interpreted_source (kind : CtxKind) (n v sid : Nat) (cfg : LeafCfg) (scr : LeafScript) (ctx : Ctx)
    (fuel : Nat) (hf : runFuel cfg ≤ fuel) :
    ∃ evs ctx' out, runLeafIR fuel Flyt.Expected.IR.Run kind n v sid cfg scr ctx = some (evs, ctx', out) ∧
      ∀ (n' v' k d : Nat) (pre post : List Ev), evs = pre ++ .wait n' v' k d false :: post →
        post = [] ∧ out = .err (.ctx kind) ∧ ctx' = .done kind ∧ n' = n ∧ v' = v ∧ d = cfg.effWait ∧ 0 < k ∧
        scr.waitCancel k = true :=
  transfer (Run_refines_runLeaf_of_le kind n v sid cfg scr ctx fuel hf)
    (Props.C20.leaf_interrupted_wait_ends_run kind n v sid cfg scr ctx)

/-- **The `select` follows the oracle**: a wait fired iff no cancellation arrived during it.
    Mirrors `Props.C20.leaf_fired_iff_not_cancelled`. -/
theorem C20_leaf_fired_iff_not_cancelled_for_interpreted_source (kind : CtxKind) (n v sid : Nat) (cfg : LeafCfg) (scr : LeafScript) (ctx : Ctx)
    (fuel : Nat) (hf : runFuel cfg ≤ fuel) :
    ∃ evs ctx' out, runLeafIR fuel Flyt.Expected.IR.Run kind n v sid cfg scr ctx = some (evs, ctx', out) ∧
      ∀ (n' v' k d : Nat) (f : Bool), .wait n' v' k d f ∈ evs → scr.waitCancel k = !f :=
  transfer (Run_refines_runLeaf_of_le kind n v sid cfg scr ctx fuel hf)
    (Props.C20.leaf_fired_iff_not_cancelled kind n v sid cfg scr ctx)

/-- **The cancellation is not slept out**: if attempt `j` was made, and the oracle cancels the wait before attempt `j + 1` (budget
    remains, a wait is configured, attempt `j` failed: `stopAt`), the interpreted run ends with that interrupted wait — it does not start
    attempt `j + 1` — and returns the context's error. Mirrors `Props.C20.leaf_cancellation_cuts_wait`. -/
theorem C20_leaf_cancellation_cuts_wait_for_interpreted_source (kind : CtxKind) (n v sid : Nat) (cfg : LeafCfg) (scr : LeafScript) (ctx : Ctx)
    (fuel : Nat) (hf : runFuel cfg ≤ fuel) :
    ∃ evs ctx' out, runLeafIR fuel Flyt.Expected.IR.Run kind n v sid cfg scr ctx = some (evs, ctx', out) ∧
      ∀ (j : Nat) (a : Val), .exec n v j a ∈ evs → stopAt cfg.effWait cfg.effBudget scr.exec scr.waitCancel (j + 1) = true →
        (∃ pre, evs = pre ++ [.exec n v j a, .wait n v (j + 1) cfg.effWait false]) ∧ out = .err (.ctx kind) :=
  transfer (Run_refines_runLeaf_of_le kind n v sid cfg scr ctx fuel hf)
    (Props.C20.leaf_cancellation_cuts_wait kind n v sid cfg scr ctx)

/-- **Per item, waits are honoured.** Mirrors `Props.C20.item_retry_preceded_by_wait`. -/
theorem C20_item_retry_preceded_by_wait_for_interpreted_source (kind : CtxKind) (n v : Nat) (cfg : BatchCfg) (i : Nat) (item : Result) (scr : ItemScript) (ctx : Ctx) (hw : 0 < cfg.wait)
    (fuel : Nat) (hf : itemFuel cfg ≤ fuel) :
    ∃ evs ctx' res, runItemIR fuel Flyt.Expected.IR.runExecWithRetries kind n v cfg i item scr ctx = some (evs, ctx', res) ∧
      ∀ (k : Nat) (a : Val) (pre post : List Ev), 0 < k → evs = pre ++ .bexec n v i k a :: post →
        ∃ pre', pre = pre' ++ [.bwait n v i k cfg.wait true] :=
  transfer (runExecWithRetries_refines_runItem_of_le kind n v cfg i item scr ctx fuel hf)
    (Props.C20.item_retry_preceded_by_wait kind n v cfg i item scr ctx hw)

/-- **Per item, no wait before the first attempt**: attempt 0 is the item's first event. Mirrors `Props.C20.item_no_wait_before_first`. -/
theorem C20_item_no_wait_before_first_for_interpreted_source (kind : CtxKind) (n v : Nat) (cfg : BatchCfg) (i : Nat) (item : Result) (scr : ItemScript) (ctx : Ctx)
    (fuel : Nat) (hf : itemFuel cfg ≤ fuel) :
    ∃ evs ctx' res, runItemIR fuel Flyt.Expected.IR.runExecWithRetries kind n v cfg i item scr ctx = some (evs, ctx', res) ∧
      ∀ (a : Val) (pre post : List Ev), evs = pre ++ .bexec n v i 0 a :: post → pre = [] :=
  transfer (runExecWithRetries_refines_runItem_of_le kind n v cfg i item scr ctx fuel hf)
    (Props.C20.item_no_wait_before_first kind n v cfg i item scr ctx)

/-- **Per item, no wait after the last attempt.** Mirrors `Props.C20.item_fired_wait_followed`. -/
theorem C20_item_fired_wait_followed_for_interpreted_source (kind : CtxKind) (n v : Nat) (cfg : BatchCfg) (i : Nat) (item : Result) (scr : ItemScript) (ctx : Ctx)
    (fuel : Nat) (hf : itemFuel cfg ≤ fuel) :
    ∃ evs ctx' res, runItemIR fuel Flyt.Expected.IR.runExecWithRetries kind n v cfg i item scr ctx = some (evs, ctx', res) ∧
      ∀ (n' v' k d : Nat) (pre post : List Ev), evs = pre ++ .bwait n' v' i k d true :: post →
        n' = n ∧ v' = v ∧ d = cfg.wait ∧ 0 < k ∧ ∃ a post', post = .bexec n v i k a :: post' :=
  transfer (runExecWithRetries_refines_runItem_of_le kind n v cfg i item scr ctx fuel hf)
    (Props.C20.item_fired_wait_followed kind n v cfg i item scr ctx)

/-- **Per item, no wait configured ⇒ no wait events.** Mirrors `Props.C20.item_no_wait_without_config`. -/
theorem C20_item_no_wait_without_config_for_interpreted_source (kind : CtxKind) (n v : Nat) (cfg : BatchCfg) (i : Nat) (item : Result) (scr : ItemScript) (ctx : Ctx) (hw : cfg.wait = 0)
    (fuel : Nat) (hf : itemFuel cfg ≤ fuel) :
    ∃ evs ctx' res, runItemIR fuel Flyt.Expected.IR.runExecWithRetries kind n v cfg i item scr ctx = some (evs, ctx', res) ∧
      ∀ e ∈ evs, e.isWait = false :=
  transfer (runExecWithRetries_refines_runItem_of_le kind n v cfg i item scr ctx fuel hf)
    (Props.C20.item_no_wait_without_config kind n v cfg i item scr ctx hw)

/-- **Per item, a cancellation during the wait ends the item's processing there** with the context's error (which `runBatch*` stores in
    the item's slot). Mirrors `Props.C20.item_interrupted_wait_ends_item`. -/
theorem C20_item_interrupted_wait_ends_item_for_interpreted_source (kind : CtxKind) (n v : Nat) (cfg : BatchCfg) (i : Nat) (item : Result) (scr : ItemScript) (ctx : Ctx)
    (fuel : Nat) (hf : itemFuel cfg ≤ fuel) :
    ∃ evs ctx' res, runItemIR fuel Flyt.Expected.IR.runExecWithRetries kind n v cfg i item scr ctx = some (evs, ctx', res) ∧
      ∀ (n' v' k d : Nat) (pre post : List Ev), evs = pre ++ .bwait n' v' i k d false :: post →
        post = [] ∧ res = .error (.ctx kind) ∧ ctx' = .done kind ∧ n' = n ∧ v' = v ∧ d = cfg.wait ∧ 0 < k ∧
        scr.waitCancel k = true :=
  transfer (runExecWithRetries_refines_runItem_of_le kind n v cfg i item scr ctx fuel hf)
    (Props.C20.item_interrupted_wait_ends_item kind n v cfg i item scr ctx)

/-- **Per item, the `select` follows the oracle.** Mirrors `Props.C20.item_fired_iff_not_cancelled`. -/
theorem C20_item_fired_iff_not_cancelled_for_interpreted_source (kind : CtxKind) (n v : Nat) (cfg : BatchCfg) (i : Nat) (item : Result) (scr : ItemScript) (ctx : Ctx)
    (fuel : Nat) (hf : itemFuel cfg ≤ fuel) :
    ∃ evs ctx' res, runItemIR fuel Flyt.Expected.IR.runExecWithRetries kind n v cfg i item scr ctx = some (evs, ctx', res) ∧
      ∀ (n' v' k d : Nat) (f : Bool), .bwait n' v' i k d f ∈ evs → scr.waitCancel k = !f :=
  transfer (runExecWithRetries_refines_runItem_of_le kind n v cfg i item scr ctx fuel hf)
    (Props.C20.item_fired_iff_not_cancelled kind n v cfg i item scr ctx)

/-- **Per item, the cancellation is not slept out.** Mirrors `Props.C20.item_cancellation_cuts_wait`. -/
theorem C20_item_cancellation_cuts_wait_for_interpreted_source (kind : CtxKind) (n v : Nat) (cfg : BatchCfg) (i : Nat) (item : Result) (scr : ItemScript) (ctx : Ctx)
    (fuel : Nat) (hf : itemFuel cfg ≤ fuel) :
    ∃ evs ctx' res, runItemIR fuel Flyt.Expected.IR.runExecWithRetries kind n v cfg i item scr ctx = some (evs, ctx', res) ∧
      ∀ (j : Nat) (a : Val), .bexec n v i j a ∈ evs → stopAt cfg.wait cfg.budget scr.exec scr.waitCancel (j + 1) = true →
        evs.getLast? = some (.bwait n v i (j + 1) cfg.wait false) ∧
        (∃ pre, evs = pre ++ [.bexec n v i j a, .bwait n v i (j + 1) cfg.wait false]) ∧ res = .error (.ctx kind) :=
  transfer (runExecWithRetries_refines_runItem_of_le kind n v cfg i item scr ctx fuel hf)
    (Props.C20.item_cancellation_cuts_wait kind n v cfg i item scr ctx)

/-! ### non-vacuity: the scenarios of `Props/C20.lean` (both attempts fail; a cancellation during the wait before attempt 2) -/

example : runLeafIR 45 Flyt.Expected.IR.Run .canceled 0 0 0 { Props.C20.exCfg with budget := 2 } Props.C20.exScr .live =
    some ([.prep 0 0 0, .exec 0 0 0 (.tok 1), .wait 0 0 1 25 true, .exec 0 0 1 (.tok 1)], .live, .err (.user 2)) := by
  rw [Run_refines_runLeaf_of_le _ _ _ _ _ _ _ 45 (by decide)]; decide

example : ∃ evs, runLeafIR 46 Flyt.Expected.IR.Run .deadline 0 0 0 Props.C20.exCfg Props.C20.exScrCut .live =
    some (evs, .done .deadline, .err (.ctx .deadline)) ∧ evs.getLast? = some (.wait 0 0 2 25 false) := by
  refine ⟨(runLeaf .deadline 0 0 0 Props.C20.exCfg Props.C20.exScrCut .live).1, ?_, by decide⟩
  rw [Run_refines_runLeaf_of_le _ _ _ _ _ _ _ 46 (by decide)]
  exact congrArg some (Prod.ext rfl (Prod.ext (by decide) (by decide)))

end Flyt.Refine.Source
