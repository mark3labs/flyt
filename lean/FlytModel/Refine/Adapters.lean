import FlytModel.GoIR.AdapterWorld
import FlytModel.Refine.RunNode
/-!
# Refinement of the function-style adapters `CustomNode.Prep / Exec / Post / ExecFallback` (flyt.go:1116-1168) and of the Any-style
wrappers installed by `WithPrepFuncAny / WithExecFuncAny / WithPostFuncAny` (flyt.go:1329-1388; the builder methods of the same names,
builder.go:91-122 and batch.go:144-153, carry syntactically the same closures)

The translated source (`Flyt.Expected.IR`), run in `adapterWorld` (`GoIR/AdapterWorld.lean`), hands the user's function exactly
`execArg` / `postArgs` and returns exactly `prepRet` / `execRet` of what it answers (`Model/Run.lean`) — for every `c : Cfg`, EVERY
payload `Val` (a token, `Val.nil`, a boxed `Result` with or without error, nested), every scripted outcome, every `FbKind`. The wrapper
closures (closure 1 of `closuresOf`) compute the world's entries `execFuncSem / prepFuncSem / postFuncSem` for an Any-style function.
These are the statements `GoIR/AdapterTest.lean` evaluates on samples; the depth bounds are the least ones.

`Style.direct` (a method of a user struct, called by `Run` itself — not a `CustomNode`): `adapterWorld` cannot tell it from `res`
(`adapterWorld_styles`), whereas `execArg / execRet / prepRet / postArgs` treat it as the identity. So the statements carry the
hypothesis `≠ .direct` and are FALSE without it (`Exec_false_at_direct`, …); what happens at `direct` is read off them at `res`.
-/
namespace Flyt.Refine.Adapters
open Flyt Flyt.GoIR Flyt.GoIR.AdapterW Flyt.Expected.IR Flyt.Refine

theorem ofVal_tok (n : Nat) : GV.ofVal (.tok n) = .val (.tok n) := rfl
theorem ofVal_res (v : Val) (e : Option ErrRoot) : GV.ofVal (.res v e) = .result ⟨v, e⟩ := rfl
theorem toVal_val (v : Val) : (GV.val v).toVal = v := rfl
theorem toVal_result (r : Result) : (GV.result r).toVal = r.box := rfl

section world
variable (c : Cfg) (i : Nat) (a b : GV) (h : Heap) (w : AW)

theorem aw_field_prep :
    (adapterWorld c).field (.ref "cn" i) "prepFunc" w = some (if c.prepS == .absent then .nil else .ref "fn" 0) := rfl
theorem aw_field_exec :
    (adapterWorld c).field (.ref "cn" i) "execFunc" w = some (if c.execS == .absent then .nil else .ref "fn" 1) := rfl
theorem aw_field_post :
    (adapterWorld c).field (.ref "cn" i) "postFunc" w = some (if c.postS == .absent then .nil else .ref "fn" 2) := rfl
theorem aw_field_fb :
    (adapterWorld c).field (.ref "cn" i) "execFallbackFunc" w = some (if c.fb == .custom then .ref "fn" 3 else .nil) := rfl
theorem aw_field_base : (adapterWorld c).field (.ref "cn" i) "BaseNode" w = some (.ref "base" 0) := rfl

theorem aw_assert_result (r : Result) : (adapterWorld c).assert (.result r) "Result" w = some (.result r, true) := rfl
theorem aw_assert_val (v : Val) : (adapterWorld c).assert (.val v) "Result" w = some (.nil, false) := rfl

theorem aw_m_prep :
    (adapterWorld c).mcall (.ref "cn" i) "prepFunc" [a, b] h w = some ((prepFuncSem c w).1, h, (prepFuncSem c w).2) := rfl
theorem aw_m_exec (r : Result) :
    (adapterWorld c).mcall (.ref "cn" i) "execFunc" [a, .result r] h w = some ((execFuncSem c r w).1, h, (execFuncSem c r w).2) :=
  rfl
theorem aw_m_post (p e : Result) :
    (adapterWorld c).mcall (.ref "cn" i) "postFunc" [a, b, .result p, .result e] h w =
      some ((postFuncSem c p e w).1, h, (postFuncSem c p e w).2) := rfl
/-- the script's answer is written inside the returned list, so that `return n.execFallbackFunc(…)` runs without a case split -/
theorem aw_m_fb (e : ErrRoot) :
    (adapterWorld c).mcall (.ref "cn" i) "execFallbackFunc" [a, .err e] h w =
      some ((match c.fbOut.res with | .ok x => [GV.ofVal x, .nil] | .error e' => [.nil, .err (.user e')]),
            h, { w with calls := w.calls ++ [("fb", [a.toVal])] }) := by
  obtain ⟨_, _, _, _, _, _, _, ⟨res⟩⟩ := c
  cases res <;> rfl

theorem aw_b_prep : (adapterWorld c).mcall (.ref "base" i) "Prep" [a, b] h w = some ([.nil, .nil], h, w) := rfl
theorem aw_b_exec : (adapterWorld c).mcall (.ref "base" i) "Exec" [a, b] h w = some ([.nil, .nil], h, w) := rfl
theorem aw_b_post (p e : GV) :
    (adapterWorld c).mcall (.ref "base" i) "Post" [a, b, p, e] h w = some ([.str defaultAction, .nil], h, w) := rfl
theorem aw_b_fb (e : ErrRoot) : (adapterWorld c).mcall (.ref "base" i) "ExecFallback" [a, .err e] h w = some ([.nil, .err e], h, w) :=
  rfl

/-- the user's Any-style exec function, called by the wrapper with a payload (never a store handle) -/
theorem aw_call_exec (x : Val) :
    (adapterWorld c).call "fn" [a, GV.ofVal x] h w =
      (match c.exec.res with
       | .ok y => some ([GV.ofVal y, .nil], h, { w with calls := w.calls ++ [("exec", [x])] })
       | .error e => some ([.nil, .err (.user e)], h, { w with calls := w.calls ++ [("exec", [x])] })) := by
  cases x <;> rfl
theorem aw_call_prep :
    (adapterWorld c).call "fn" [a, .ref "store" i] h w =
      (match c.prep.res with
       | .ok y => some ([GV.ofVal y, .nil], h, { w with calls := w.calls ++ [("prep", [])] })
       | .error e => some ([.nil, .err (.user e)], h, { w with calls := w.calls ++ [("prep", [])] })) := rfl
theorem aw_call_post (p e : GV) :
    (adapterWorld c).call "fn" [a, b, p, e] h w =
      (match c.post.res with
       | .ok y => some ([.str y, .nil], h, { w with calls := w.calls ++ [("post", [p.toVal, e.toVal])] })
       | .error er =>
         some ([.str (c.post.junk.getD ""), .err (.user er)], h, { w with calls := w.calls ++ [("post", [p.toVal, e.toVal])] })) :=
  rfl
end world

macro "adsimp" " [" ts:Lean.Parser.Tactic.simpLemma,* "]" : tactic =>
  `(tactic| gosimp [expr_sel, callFunc, aw_field_prep, aw_field_exec, aw_field_post, aw_field_fb, aw_field_base,
      aw_assert_result, aw_assert_val, aw_m_prep, aw_m_exec, aw_m_post, aw_m_fb, aw_b_prep, aw_b_exec, aw_b_post, aw_b_fb,
      aw_call_exec, aw_call_prep, aw_call_post, ofVal_tok, ofVal_res, toVal_ofVal, cnH, $ts,*])

/-- the recursion depth of the executable test (`GoIR/AdapterTest.lean`) -/
def F : Nat := 40

/-- the style `adapterWorld` acts on: a `CustomNode` holds a Result-style function or a wrapped Any-style one; `direct` is not a
    configuration of a `CustomNode`, and the world reads it as `res` -/
def asAdapterStyle : Style → Style
  | .direct => .res
  | s => s

/-- `adapterWorld` does not distinguish `direct` from `res` -/
theorem adapterWorld_styles (c : Cfg) :
    adapterWorld c = adapterWorld { c with prepS := asAdapterStyle c.prepS, execS := asAdapterStyle c.execS,
                                           postS := asAdapterStyle c.postS } := by
  -- one style at a time: `cases` on one style compares 4 pairs of worlds, on all three at once 64
  have hp (c : Cfg) : adapterWorld c = adapterWorld { c with prepS := asAdapterStyle c.prepS } := by
    obtain ⟨s⟩ := c
    cases s <;> rfl
  have he (c : Cfg) : adapterWorld c = adapterWorld { c with execS := asAdapterStyle c.execS } := by
    obtain ⟨_, s⟩ := c
    cases s <;> rfl
  have hq (c : Cfg) : adapterWorld c = adapterWorld { c with postS := asAdapterStyle c.postS } := by
    obtain ⟨_, _, s⟩ := c
    cases s <;> rfl
  exact (hp c).trans ((he _).trans (hq _))

/-! Each method is `if n.xFunc != nil { … n.xFunc(…) … }; return n.BaseNode.X(…)`. The path with a function in the field (`…_set`;
any heap, any world state) assumes of the function's answer only its shape (a `Result` and an error or nil). What the world's function
answers under which style and script is compared with `execRet / execArg / prepRet / postArgs` afterwards, on values. -/

section
variable (f : Nat) (c : Cfg) (ctx sh : GV) (pv ev : Val) (h : Heap) (w : AW)

/-- `CustomNode.Exec` after the call of `n.execFunc`: what it returns, from `result` and `err` -/
def execTail : Block := B[
  (.ifS B[] (.bin "!=" (.var "err") (.var "nil")) B[
    (.ret E[(.var "nil"), (.var "err")])] B[]),
  (.ifS B[] (.mcall (.var "result") "IsError" E[]) B[
    (.ret E[(.var "result"), (.var "nil")])] B[]),
  (.ret E[(.mcall (.var "result") "Value" E[]), (.var "nil")])]

theorem execTail_run {Ω : Type} (W : World Ω) (R : Result) {E : GV} (hE : E = .nil ∨ ∃ e, E = .err e) (p x n : GV) (w : Ω) :
    execBlock W (f + 8) execTail ⟨[("err", E), ("result", .result R), ("prepResult", p), ("ctx", x), ("n", n)], h, w⟩ =
      some (.ret (if E = .nil then (if R.isError then [.result R, .nil] else [GV.ofVal R.valueOf, .nil]) else [.nil, E]),
        ⟨[("err", E), ("result", .result R), ("prepResult", p), ("ctx", x), ("n", n)], h, w⟩) := by
  rcases hE with rfl | ⟨e, rfl⟩
  · cases hb : R.isError <;> gosimp [execTail, hb]
  · gosimp [execTail]

/-- the function is handed `prepResult` as a `Result` (itself if it is one, else `NewResult` of it: `toResult`) -/
theorem Exec_set (hs : c.execS ≠ .absent) {w' : AW} {R : Result} {E : GV}
    (hm : execFuncSem c (toResult pv) w = ([.result R, E], w')) (hE : E = .nil ∨ ∃ e, E = .err e) :
    callFunc (adapterWorld c) (f + 14) CustomNode_Exec [cnH, ctx, GV.ofVal pv] h w =
      some (if E = .nil then (if R.isError then [.result R, .nil] else [GV.ofVal R.valueOf, .nil]) else [.nil, E], h, w') := by
  have hb : CustomNode_Exec = ⟨_, _, _, B[.ifS B[] _ (.cons _ (.cons _ (.cons _ execTail))) B[], _]⟩ := rfl
  cases pv <;> simp only [toResult, Val.asResult?] at hm <;>
    adsimp [hb, hs, hm, execTail_run _ _ _ R hE, mkNewResult, toVal_val]

theorem Prep_set (hs : c.prepS ≠ .absent) {w' : AW} {R : Result} {E : GV}
    (hm : prepFuncSem c w = ([.result R, E], w')) (hE : E = .nil ∨ ∃ e, E = .err e) :
    callFunc (adapterWorld c) (f + 10) CustomNode_Prep [cnH, ctx, sh] h w =
      some (if E = .nil then [GV.ofVal R.valueOf, .nil] else [.nil, E], h, w') := by
  rcases hE with rfl | ⟨e, rfl⟩ <;> adsimp [CustomNode_Prep, hs, hm]

/-- the function is handed `NewResult(prepResult)` and `wrapExecForPost` of `execResult`; its answer is returned as it is, so
    there is one run per shape of `execResult` (not a `Result`, a `Result` without error, an error `Result`) and none per script -/
theorem Post_set (hs : c.postS ≠ .absent) :
    callFunc (adapterWorld c) (f + 14) CustomNode_Post [cnH, ctx, sh, GV.ofVal pv, GV.ofVal ev] h w =
      some ((postFuncSem c (newResult pv) (wrapExecForPost ev) w).1, h, (postFuncSem c (newResult pv) (wrapExecForPost ev) w).2) := by
  rcases ev with _ | ⟨v, _ | e⟩ <;>
    adsimp [CustomNode_Post, hs, mkNewResult, wrapExecForPost, Val.asResult?, Result.isError, toVal_val, toVal_result, Result.box]

def wrapExec : Func := { name := "WithExecFuncAny.func", recv := "", params := ["ctx", "prepResult"], body := B[
  (.define ["val", "err"] E[(.call "fn" E[(.var "ctx"), (.mcall (.var "prepResult") "Value" E[])])]),
  (.ifS B[] (.bin "!=" (.var "err") (.var "nil")) B[
    (.ret E[(.lit "Result" E[]), (.var "err")])] B[]),
  (.ret E[(.call "NewResult" E[(.var "val")]), (.var "nil")])] }
def wrapPrep : Func := { name := "WithPrepFuncAny.func", recv := "", params := ["ctx", "shared"], body := B[
  (.define ["val", "err"] E[(.call "fn" E[(.var "ctx"), (.var "shared")])]),
  (.ifS B[] (.bin "!=" (.var "err") (.var "nil")) B[
    (.ret E[(.lit "Result" E[]), (.var "err")])] B[]),
  (.ret E[(.call "NewResult" E[(.var "val")]), (.var "nil")])] }
def wrapPost : Func := { name := "WithPostFuncAny.func", recv := "", params := ["ctx", "shared", "prepResult", "execResult"], body := B[
  (.ret E[(.call "fn" E[(.var "ctx"), (.var "shared"), (.mcall (.var "prepResult") "Value" E[]), (.mcall (.var "execResult") "Value" E[])])])] }

/-- closure 0 of `With…FuncAny` is the option closure `func(n *CustomNode)`, closure 1 the wrapper it installs -/
theorem closures_WithExecFuncAny : (closuresOf WithExecFuncAny)[1]? = some wrapExec := rfl
theorem closures_WithPrepFuncAny : (closuresOf WithPrepFuncAny)[1]? = some wrapPrep := rfl
theorem closures_WithPostFuncAny : (closuresOf WithPostFuncAny)[1]? = some wrapPost := rfl

theorem expr_lit_Result {Ω : Type} (W : World Ω) (f : Nat) (st : St Ω) :
    evalExpr W (f + 1) (.lit "Result" .nil) st = some ([.result ⟨Val.nil, none⟩], st) := rfl

end

/-- same receiver, parameters and body (the name of a closure records the enclosing function) -/
def sameCode (g g' : Func) : Prop := g.recv = g'.recv ∧ g.params = g'.params ∧ g.body = g'.body

theorem callFunc_sameCode {Ω : Type} (W : World Ω) (fuel : Nat) {g g' : Func} (hg : sameCode g g')
    (args : List GV) (h : Heap) (w : Ω) : callFunc W fuel g args h w = callFunc W fuel g' args h w := by
  obtain ⟨hr, hp, hb⟩ := hg
  unfold callFunc; rw [hr, hp, hb]

/-- the only closure of each builder method is, syntactically, the wrapper of the option of the same name -/
theorem closures_NodeBuilder_WithExecFuncAny :
    ∃ g, closuresOf NodeBuilder_WithExecFuncAny = [g] ∧ sameCode g wrapExec := ⟨_, rfl, rfl, rfl, rfl⟩
theorem closures_BatchNodeBuilder_WithExecFuncAny :
    ∃ g, closuresOf BatchNodeBuilder_WithExecFuncAny = [g] ∧ sameCode g wrapExec := ⟨_, rfl, rfl, rfl, rfl⟩
theorem closures_NodeBuilder_WithPrepFuncAny :
    ∃ g, closuresOf NodeBuilder_WithPrepFuncAny = [g] ∧ sameCode g wrapPrep := ⟨_, rfl, rfl, rfl, rfl⟩
theorem closures_NodeBuilder_WithPostFuncAny :
    ∃ g, closuresOf NodeBuilder_WithPostFuncAny = [g] ∧ sameCode g wrapPost := ⟨_, rfl, rfl, rfl, rfl⟩

theorem run_of_closure {G g g' : Func} (hG : ∃ g₀, closuresOf G = [g₀] ∧ sameCode g₀ g') (hg : g ∈ closuresOf G)
    (fuel : Nat) (c : Cfg) (args : List GV) : run fuel g c args = run fuel g' c args := by
  obtain ⟨g₀, hl, hc⟩ := hG
  rw [hl, List.mem_singleton] at hg
  rw [hg, run, callFunc_sameCode _ _ hc]; rfl

/-- `CustomNode.Exec` (flyt.go:1128): an absent exec function is `BaseNode.Exec`; otherwise the function is called once, with `execArg s pv`,
    and the method returns `execRet s x` of its answer `x`, or its error -/
theorem CustomNode_Exec_refines_of_le (c : Cfg) (ctx : GV) (pv : Val) (hd : c.execS ≠ .direct) (fuel : Nat) (hf : 14 ≤ fuel) :
    run fuel CustomNode_Exec c [cnH, ctx, GV.ofVal pv] =
      (match c.execS with
       | .absent => some ([.nil, .nil], ⟨[]⟩)
       | s => some ((match c.exec.res with | .ok x => [GV.ofVal (execRet s x), .nil] | .error e => [.nil, .err (.user e)]),
                    ⟨[("exec", [execArg s pv])]⟩)) := by
  obtain ⟨k, rfl⟩ := Nat.exists_eq_add_of_le' hf
  unfold run
  cases hs : c.execS
  case absent => adsimp [CustomNode_Exec, hs]
  case direct => exact absurd hs hd
  all_goals
    have run := @Exec_set k c ctx pv [] ⟨[]⟩ (by simp [hs])
    cases hx : c.exec.res with
    | error e =>
      rw [run (by simp only [execFuncSem, hx, hs]; rfl) (by simp)]
      cases pv <;> rfl
    | ok x =>
      rw [run (by simp only [execFuncSem, hx, hs]; rfl) (by simp)]
      cases pv <;> rcases x with _ | ⟨v, _ | e⟩ <;> rfl
theorem CustomNode_Exec_refines (c : Cfg) (pv : Val) (hd : c.execS ≠ .direct) :
    run F CustomNode_Exec c [cnH, ctxH, GV.ofVal pv] =
      (match c.execS with
       | .absent => some ([.nil, .nil], ⟨[]⟩)
       | s => some ((match c.exec.res with | .ok x => [GV.ofVal (execRet s x), .nil] | .error e => [.nil, .err (.user e)]),
                    ⟨[("exec", [execArg s pv])]⟩)) :=
  CustomNode_Exec_refines_of_le c ctxH pv hd F (by decide)

theorem CustomNode_Prep_refines_of_le (c : Cfg) (ctx sh : GV) (hd : c.prepS ≠ .direct) (fuel : Nat) (hf : 10 ≤ fuel) :
    run fuel CustomNode_Prep c [cnH, ctx, sh] =
      (match c.prepS with
       | .absent => some ([.nil, .nil], ⟨[]⟩)
       | s => some ((match c.prep.res with | .ok x => [GV.ofVal (prepRet s x), .nil] | .error e => [.nil, .err (.user e)]),
                    ⟨[("prep", [])]⟩)) := by
  obtain ⟨k, rfl⟩ := Nat.exists_eq_add_of_le' hf
  unfold run
  cases hs : c.prepS
  case absent => adsimp [CustomNode_Prep, hs]
  case direct => exact absurd hs hd
  all_goals
    have run := @Prep_set k c ctx sh [] ⟨[]⟩ (by simp [hs])
    cases hx : c.prep.res with
    | error e => rw [run (by simp only [prepFuncSem, hx]; rfl) (by simp)]; rfl
    | ok x =>
      rw [run (by simp only [prepFuncSem, hx, hs]; rfl) (by simp)]
      rcases x with _ | ⟨v, _ | e⟩ <;> rfl
theorem CustomNode_Prep_refines (c : Cfg) (sid : StoreId) (hd : c.prepS ≠ .direct) :
    run F CustomNode_Prep c [cnH, ctxH, storeH sid] =
      (match c.prepS with
       | .absent => some ([.nil, .nil], ⟨[]⟩)
       | s => some ((match c.prep.res with | .ok x => [GV.ofVal (prepRet s x), .nil] | .error e => [.nil, .err (.user e)]),
                    ⟨[("prep", [])]⟩)) :=
  CustomNode_Prep_refines_of_le c ctxH (storeH sid) hd F (by decide)

theorem CustomNode_Post_refines_of_le (c : Cfg) (ctx sh : GV) (pv ev : Val) (hd : c.postS ≠ .direct) (fuel : Nat) (hf : 14 ≤ fuel) :
    run fuel CustomNode_Post c [cnH, ctx, sh, GV.ofVal pv, GV.ofVal ev] =
      (match c.postS with
       | .absent => some ([.str defaultAction, .nil], ⟨[]⟩)
       | s => some ((match c.post.res with | .ok x => [.str x, .nil] | .error e => [.str (c.post.junk.getD ""), .err (.user e)]),
                    ⟨[("post", [(postArgs s pv ev).1, (postArgs s pv ev).2])]⟩)) := by
  obtain ⟨k, rfl⟩ := Nat.exists_eq_add_of_le' hf
  unfold run
  cases hs : c.postS
  case absent => adsimp [CustomNode_Post, hs]
  case direct => exact absurd hs hd
  all_goals
    rw [Post_set k c ctx sh pv ev [] ⟨[]⟩ (by simp [hs]), postFuncSem, hs]
    cases c.post.res <;> rfl
theorem CustomNode_Post_refines (c : Cfg) (sid : StoreId) (pv ev : Val) (hd : c.postS ≠ .direct) :
    run F CustomNode_Post c [cnH, ctxH, storeH sid, GV.ofVal pv, GV.ofVal ev] =
      (match c.postS with
       | .absent => some ([.str defaultAction, .nil], ⟨[]⟩)
       | s => some ((match c.post.res with | .ok x => [.str x, .nil] | .error e => [.str (c.post.junk.getD ""), .err (.user e)]),
                    ⟨[("post", [(postArgs s pv ev).1, (postArgs s pv ev).2])]⟩)) :=
  CustomNode_Post_refines_of_le c ctxH (storeH sid) pv ev hd F (by decide)

theorem CustomNode_ExecFallback_refines_of_le (c : Cfg) (pv : Val) (er : ErrRoot) (fuel : Nat) (hf : 9 ≤ fuel) :
    run fuel CustomNode_ExecFallback c [cnH, GV.ofVal pv, .err er] =
      (match c.fb with
       | .custom => some ((match c.fbOut.res with | .ok x => [GV.ofVal x, .nil] | .error e => [.nil, .err (.user e)]), ⟨[("fb", [pv])]⟩)
       | _ => some ([.nil, .err er], ⟨[]⟩)) := by
  obtain ⟨k, rfl⟩ := Nat.exists_eq_add_of_le' hf
  unfold run
  split
  · next hc => adsimp [CustomNode_ExecFallback, hc]
  · next hc => adsimp [CustomNode_ExecFallback, show ¬c.fb = .custom from hc]
theorem CustomNode_ExecFallback_refines (c : Cfg) (pv : Val) (er : ErrRoot) :
    run F CustomNode_ExecFallback c [cnH, GV.ofVal pv, .err er] =
      (match c.fb with
       | .custom => some ((match c.fbOut.res with | .ok x => [GV.ofVal x, .nil] | .error e => [.nil, .err (.user e)]), ⟨[("fb", [pv])]⟩)
       | _ => some ([.nil, .err er], ⟨[]⟩)) :=
  CustomNode_ExecFallback_refines_of_le c pv er F (by decide)

/-! Closure 1 of `With…FuncAny` computes the world's entry for an Any-style function. -/

theorem wrapExec_refines_of_le (c : Cfg) (hs : c.execS = .any) (ctx : GV) (r : Result) (fuel : Nat) (hf : 8 ≤ fuel) :
    run fuel wrapExec c [ctx, .result r] = some (execFuncSem c r ⟨[]⟩) := by
  obtain ⟨k, rfl⟩ := Nat.exists_eq_add_of_le' hf
  cases hx : c.exec.res <;> adsimp [run, wrapExec, execFuncSem, hs, hx, expr_lit_Result, mkNewResult]
theorem wrapPrep_refines_of_le (c : Cfg) (hs : c.prepS = .any) (ctx : GV) (sid : StoreId) (fuel : Nat) (hf : 8 ≤ fuel) :
    run fuel wrapPrep c [ctx, storeH sid] = some (prepFuncSem c ⟨[]⟩) := by
  obtain ⟨k, rfl⟩ := Nat.exists_eq_add_of_le' hf
  cases hx : c.prep.res <;> adsimp [run, storeH, wrapPrep, prepFuncSem, hs, hx, expr_lit_Result, mkNewResult]
theorem wrapPost_refines_of_le (c : Cfg) (hs : c.postS = .any) (ctx sh : GV) (p e : Result) (fuel : Nat) (hf : 10 ≤ fuel) :
    run fuel wrapPost c [ctx, sh, .result p, .result e] = some (postFuncSem c p e ⟨[]⟩) := by
  obtain ⟨k, rfl⟩ := Nat.exists_eq_add_of_le' hf
  cases hx : c.post.res <;> adsimp [run, wrapPost, postFuncSem, hs, hx]

theorem WithExecFuncAny_wrapper_refines_of_le (g : Func) (hg : (closuresOf WithExecFuncAny)[1]? = some g)
    (c : Cfg) (hs : c.execS = .any) (ctx : GV) (r : Result) (fuel : Nat) (hf : 8 ≤ fuel) :
    run fuel g c [ctx, .result r] = some (execFuncSem c r ⟨[]⟩) := by
  obtain rfl : wrapExec = g := Option.some.inj (closures_WithExecFuncAny.symm.trans hg)
  exact wrapExec_refines_of_le c hs ctx r fuel hf
theorem WithPrepFuncAny_wrapper_refines_of_le (g : Func) (hg : (closuresOf WithPrepFuncAny)[1]? = some g)
    (c : Cfg) (hs : c.prepS = .any) (ctx : GV) (sid : StoreId) (fuel : Nat) (hf : 8 ≤ fuel) :
    run fuel g c [ctx, storeH sid] = some (prepFuncSem c ⟨[]⟩) := by
  obtain rfl : wrapPrep = g := Option.some.inj (closures_WithPrepFuncAny.symm.trans hg)
  exact wrapPrep_refines_of_le c hs ctx sid fuel hf
theorem WithPostFuncAny_wrapper_refines_of_le (g : Func) (hg : (closuresOf WithPostFuncAny)[1]? = some g)
    (c : Cfg) (hs : c.postS = .any) (ctx sh : GV) (p e : Result) (fuel : Nat) (hf : 10 ≤ fuel) :
    run fuel g c [ctx, sh, .result p, .result e] = some (postFuncSem c p e ⟨[]⟩) := by
  obtain rfl : wrapPost = g := Option.some.inj (closures_WithPostFuncAny.symm.trans hg)
  exact wrapPost_refines_of_le c hs ctx sh p e fuel hf

/-- at the depth of the test, on the test's arguments -/
theorem WithExecFuncAny_wrapper_refines (g : Func) (hg : (closuresOf WithExecFuncAny)[1]? = some g)
    (c : Cfg) (hs : c.execS = .any) (r : Result) : run F g c [ctxH, .result r] = some (execFuncSem c r ⟨[]⟩) :=
  WithExecFuncAny_wrapper_refines_of_le g hg c hs ctxH r F (by decide)
theorem WithPrepFuncAny_wrapper_refines (g : Func) (hg : (closuresOf WithPrepFuncAny)[1]? = some g)
    (c : Cfg) (hs : c.prepS = .any) (sid : StoreId) : run F g c [ctxH, storeH sid] = some (prepFuncSem c ⟨[]⟩) :=
  WithPrepFuncAny_wrapper_refines_of_le g hg c hs ctxH sid F (by decide)
theorem WithPostFuncAny_wrapper_refines (g : Func) (hg : (closuresOf WithPostFuncAny)[1]? = some g)
    (c : Cfg) (hs : c.postS = .any) (sid : StoreId) (p e : Result) :
    run F g c [ctxH, storeH sid, .result p, .result e] = some (postFuncSem c p e ⟨[]⟩) :=
  WithPostFuncAny_wrapper_refines_of_le g hg c hs ctxH (storeH sid) p e F (by decide)

theorem NodeBuilder_WithExecFuncAny_wrapper_refines_of_le (g : Func) (hg : g ∈ closuresOf NodeBuilder_WithExecFuncAny)
    (c : Cfg) (hs : c.execS = .any) (ctx : GV) (r : Result) (fuel : Nat) (hf : 8 ≤ fuel) :
    run fuel g c [ctx, .result r] = some (execFuncSem c r ⟨[]⟩) := by
  rw [run_of_closure closures_NodeBuilder_WithExecFuncAny hg]; exact wrapExec_refines_of_le c hs ctx r fuel hf
theorem BatchNodeBuilder_WithExecFuncAny_wrapper_refines_of_le (g : Func) (hg : g ∈ closuresOf BatchNodeBuilder_WithExecFuncAny)
    (c : Cfg) (hs : c.execS = .any) (ctx : GV) (r : Result) (fuel : Nat) (hf : 8 ≤ fuel) :
    run fuel g c [ctx, .result r] = some (execFuncSem c r ⟨[]⟩) := by
  rw [run_of_closure closures_BatchNodeBuilder_WithExecFuncAny hg]; exact wrapExec_refines_of_le c hs ctx r fuel hf
theorem NodeBuilder_WithPrepFuncAny_wrapper_refines_of_le (g : Func) (hg : g ∈ closuresOf NodeBuilder_WithPrepFuncAny)
    (c : Cfg) (hs : c.prepS = .any) (ctx : GV) (sid : StoreId) (fuel : Nat) (hf : 8 ≤ fuel) :
    run fuel g c [ctx, storeH sid] = some (prepFuncSem c ⟨[]⟩) := by
  rw [run_of_closure closures_NodeBuilder_WithPrepFuncAny hg]; exact wrapPrep_refines_of_le c hs ctx sid fuel hf
theorem NodeBuilder_WithPostFuncAny_wrapper_refines_of_le (g : Func) (hg : g ∈ closuresOf NodeBuilder_WithPostFuncAny)
    (c : Cfg) (hs : c.postS = .any) (ctx sh : GV) (p e : Result) (fuel : Nat) (hf : 10 ≤ fuel) :
    run fuel g c [ctx, sh, .result p, .result e] = some (postFuncSem c p e ⟨[]⟩) := by
  rw [run_of_closure closures_NodeBuilder_WithPostFuncAny hg]; exact wrapPost_refines_of_le c hs ctx sh p e fuel hf

/-! The hypothesis `≠ .direct` is satisfiable (every style the test enumerates satisfies it) and necessary. -/

example : ∀ s ∈ [Style.absent, .res, .any], s ≠ .direct := by decide

/-- a `Cfg` all of whose functions have style `s` and answer `x` (the test's `mk`) -/
def cfgOf (s : Style) (x : Val) : Cfg :=
  { prepS := s, execS := s, postS := s, fb := .passThrough, prep := { res := .ok x }, exec := { res := .ok x },
    post := { res := .ok "a" }, fbOut := { res := .ok x } }

/-- `Exec` at `direct`: the function is handed `NewResult(pv)` boxed, not `pv` (= `execArg .direct pv`) -/
theorem Exec_direct_counterexample :
    run F CustomNode_Exec (cfgOf .direct (.tok 1)) [cnH, ctxH, GV.ofVal (.tok 5)]
        = some ([GV.ofVal (.tok 1), .nil], ⟨[("exec", [.res (.tok 5) none])]⟩)
      ∧ execArg .direct (.tok 5) = .tok 5 := by
  constructor
  · rw [run, adapterWorld_styles]
    exact CustomNode_Exec_refines (cfgOf .res (.tok 1)) (.tok 5) (by decide)
  · rfl
/-- `Exec` at `direct`: a boxed non-error `Result` answer is unwrapped (`execRet .res`), not returned as is (`execRet .direct`) -/
theorem Exec_direct_counterexample_ret :
    run F CustomNode_Exec (cfgOf .direct (.res (.tok 7) none)) [cnH, ctxH, GV.ofVal (.tok 5)]
        = some ([GV.ofVal (.tok 7), .nil], ⟨[("exec", [.res (.tok 5) none])]⟩)
      ∧ GV.ofVal (execRet .direct (.res (.tok 7) none)) = .result ⟨.tok 7, none⟩ := by
  constructor
  · rw [run, adapterWorld_styles]
    exact CustomNode_Exec_refines (cfgOf .res (.res (.tok 7) none)) (.tok 5) (by decide)
  · rfl
/-- `Prep` at `direct`: a boxed `Result` answer is unwrapped (`prepRet .res`) -/
theorem Prep_direct_counterexample :
    run F CustomNode_Prep (cfgOf .direct (.res (.tok 7) none)) [cnH, ctxH, storeH 5] = some ([GV.ofVal (.tok 7), .nil], ⟨[("prep", [])]⟩)
      ∧ GV.ofVal (prepRet .direct (.res (.tok 7) none)) = .result ⟨.tok 7, none⟩ := by
  constructor
  · rw [run, adapterWorld_styles]
    exact CustomNode_Prep_refines (cfgOf .res (.res (.tok 7) none)) 5 (by decide)
  · rfl
/-- `Post` at `direct`: the function is handed the boxed `NewResult`s, not the payloads (`postArgs .direct`) -/
theorem Post_direct_counterexample :
    run F CustomNode_Post (cfgOf .direct (.tok 1)) [cnH, ctxH, storeH 5, GV.ofVal (.tok 5), GV.ofVal (.tok 6)]
        = some ([.str "a", .nil], ⟨[("post", [.res (.tok 5) none, .res (.tok 6) none])]⟩)
      ∧ postArgs .direct (.tok 5) (.tok 6) = (.tok 5, .tok 6) := by
  constructor
  · rw [run, adapterWorld_styles]
    exact CustomNode_Post_refines (cfgOf .res (.tok 1)) 5 (.tok 5) (.tok 6) (by decide)
  · rfl

/-- the statements of the test, quantified over ALL styles, are false -/
theorem Exec_false_at_direct :
    ¬ ∀ (c : Cfg) (pv : Val), run F CustomNode_Exec c [cnH, ctxH, GV.ofVal pv] =
      (match c.execS with
       | .absent => some ([.nil, .nil], ⟨[]⟩)
       | s => some ((match c.exec.res with | .ok x => [GV.ofVal (execRet s x), .nil] | .error e => [.nil, .err (.user e)]),
                    ⟨[("exec", [execArg s pv])]⟩)) := by
  intro h
  have h' := h (cfgOf .direct (.tok 1)) (.tok 5)
  rw [Exec_direct_counterexample.1] at h'
  exact absurd h' (by decide)
theorem Prep_false_at_direct :
    ¬ ∀ (c : Cfg), run F CustomNode_Prep c [cnH, ctxH, storeH 5] =
      (match c.prepS with
       | .absent => some ([.nil, .nil], ⟨[]⟩)
       | s => some ((match c.prep.res with | .ok x => [GV.ofVal (prepRet s x), .nil] | .error e => [.nil, .err (.user e)]),
                    ⟨[("prep", [])]⟩)) := by
  intro h
  have h' := h (cfgOf .direct (.res (.tok 7) none))
  rw [Prep_direct_counterexample.1] at h'
  exact absurd h' (by decide)
theorem Post_false_at_direct :
    ¬ ∀ (c : Cfg) (pv ev : Val), run F CustomNode_Post c [cnH, ctxH, storeH 5, GV.ofVal pv, GV.ofVal ev] =
      (match c.postS with
       | .absent => some ([.str defaultAction, .nil], ⟨[]⟩)
       | s => some ((match c.post.res with | .ok x => [.str x, .nil] | .error e => [.str (c.post.junk.getD ""), .err (.user e)]),
                    ⟨[("post", [(postArgs s pv ev).1, (postArgs s pv ev).2])]⟩)) := by
  intro h
  have h' := h (cfgOf .direct (.tok 1)) (.tok 5) (.tok 6)
  rw [Post_direct_counterexample.1] at h'
  exact absurd h' (by decide)

/-! The depth bounds are the least ones: one step less and the interpreter is out of fuel. -/

example : run 13 CustomNode_Exec (cfgOf .res (.tok 1)) [cnH, ctxH, GV.ofVal (.tok 5)] = none := by decide
example : run 9 CustomNode_Prep { cfgOf .res (.tok 1) with prep := { res := .error 4 } } [cnH, ctxH, storeH 5] = none := by decide
example : run 13 CustomNode_Post (cfgOf .res (.tok 1)) [cnH, ctxH, storeH 5, GV.ofVal (.tok 5), GV.ofVal (.tok 6)] = none := by decide
example : run 8 CustomNode_ExecFallback { cfgOf .res (.tok 1) with fb := .custom } [cnH, GV.ofVal (.tok 5), .err (.user 3)] = none := by
  decide
example : run 7 wrapExec (cfgOf .any (.tok 1)) [ctxH, .result ⟨.tok 5, none⟩] = none := by decide
example : run 7 wrapPrep (cfgOf .any (.tok 1)) [ctxH, storeH 5] = none := by decide
example : run 9 wrapPost (cfgOf .any (.tok 1)) [ctxH, storeH 5, .result ⟨.tok 5, none⟩, .result ⟨.tok 6, none⟩] = none := by decide

end Flyt.Refine.Adapters
