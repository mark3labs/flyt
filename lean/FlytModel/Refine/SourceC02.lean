import FlytModel.Refine.SourceBase
import FlytModel.Props.C02
/-!
# C02 (retry budget and fallback are exact) stated about the interpreted source

Three subjects: the retry loop + fallback of `flyt.Run` (`runLeafIR`, `Run_refines_runLeaf_of_le`, depth `≥ effBudget + 43`); its
duplicate for batch items, `runExecWithRetries` (`runItemIR`, `runExecWithRetries_refines_runItem_of_le`, depth `≥ budget + 30`); every
item inside a whole `runBatch` (`runBatchIR`, `runBatch_refines_of_le`, depth `≥ (number of prepared items) + 21`). The hypotheses are
the model theorem's (about configuration and script, which the world shares with the model) plus the depth bound.

In the `runBatch` corollaries `batchWorld` takes the calls `runBatchSequential(…)` / `runBatchConcurrent(…)` to be the model's `itemsSeq` /
`itemsSerialPool` (their source: `Refine/Seq.lean`, `Refine/ConcSerial.lean`, the pool on its serial schedule only). "Per item of a whole
batch run" is therefore about the interpreted `runBatch` glue (prep normalisation, dispatch, post) around modelled executors.
-/
set_option autoImplicit false
namespace Flyt.Refine.Source
open Flyt Flyt.Spec Flyt.GoIR Flyt.Refine Flyt.Proofs.Attempts Flyt.Proofs.Leaf Flyt.Proofs.Item Flyt.Proofs.Retry Flyt.Proofs.LeafSpec

/-- **C02.** Never more than `N` attempts, and never an attempt after the first success, whatever is cancelled when.
    Mirrors `Props.C02.attempts_never_exceed`. -/
theorem C02_attempts_never_exceed_for_interpreted_source (kind : CtxKind) (n v sid : Nat) (cfg : LeafCfg) (scr : LeafScript)
    (fuel : Nat) (hf : runFuel cfg ≤ fuel) :
    ∃ evs ctx' out, runLeafIR fuel Flyt.Expected.IR.Run kind n v sid cfg scr .live = some (evs, ctx', out) ∧
      execCount evs ≤ cfg.effBudget ∧ ∀ k, FirstOk scr.exec k → execCount evs ≤ min (k + 1) cfg.effBudget :=
  transfer (Run_refines_runLeaf_of_le kind n v sid cfg scr .live fuel hf)
    (Props.C02.attempts_never_exceed kind n v sid cfg scr)

/-- **C02.** Without cancellation: exactly `min (k+1) N` attempts (`k` = 0-based index of the first succeeding attempt), exactly `N`
    when none of the first `N` succeeds. Mirrors `Props.C02.attempts_exact`. -/
theorem C02_attempts_exact_for_interpreted_source (kind : CtxKind) (n v sid : Nat) (cfg : LeafCfg) (scr : LeafScript)
    (hnc : NoCancel cfg scr) {pv : Val} (hd : PrepDone cfg scr pv) (hS : cfg.execS ≠ .absent) (fuel : Nat) (hf : runFuel cfg ≤ fuel) :
    ∃ evs ctx' out, runLeafIR fuel Flyt.Expected.IR.Run kind n v sid cfg scr .live = some (evs, ctx', out) ∧
      (∀ k, FirstOk scr.exec k → execCount evs = min (k + 1) cfg.effBudget) ∧
      (AllFail scr.exec cfg.effBudget → execCount evs = cfg.effBudget) :=
  transfer (Run_refines_runLeaf_of_le kind n v sid cfg scr .live fuel hf)
    (Props.C02.attempts_exact kind n v sid cfg scr hnc hd hS)

/-- **C02.** The attempts are numbered 0, 1, 2, … and each gets the prep value. Mirrors `Props.C02.attempts_numbered`. -/
theorem C02_attempts_numbered_for_interpreted_source (kind : CtxKind) (n v sid : Nat) (cfg : LeafCfg) (scr : LeafScript)
    {pv : Val} (hd : PrepDone cfg scr pv) (fuel : Nat) (hf : runFuel cfg ≤ fuel) :
    ∃ evs ctx' out, runLeafIR fuel Flyt.Expected.IR.Run kind n v sid cfg scr .live = some (evs, ctx', out) ∧
      evs.filter isExecEv = (List.range (execCount evs)).map (fun k => Ev.exec n v k (execArg cfg.execS pv)) :=
  transfer (Run_refines_runLeaf_of_le kind n v sid cfg scr .live fuel hf)
    (Props.C02.attempts_numbered kind n v sid cfg scr hd)

/-- **C02.** The fallback is invoked at most once, only by a node that has one, only after all `N` attempts were made and failed, and
    with the prep value and the error of the last attempt. Mirrors `Props.C02.fallback_only_after_exhaustion`. -/
theorem C02_fallback_only_after_exhaustion_for_interpreted_source (kind : CtxKind) (n v sid : Nat) (cfg : LeafCfg) (scr : LeafScript)
    (fuel : Nat) (hf : runFuel cfg ≤ fuel) :
    ∃ evs ctx' out, runLeafIR fuel Flyt.Expected.IR.Run kind n v sid cfg scr .live = some (evs, ctx', out) ∧
      (fbCalls evs = [] ∨
       (cfg.fb = .custom ∧ execCount evs = cfg.effBudget ∧ AllFail scr.exec cfg.effBudget ∧
         ∃ j e pv, cfg.effBudget = j + 1 ∧ (scr.exec j).res = .error e ∧ PrepDone cfg scr pv ∧
           fbCalls evs = [.fb n v pv (.user e)])) :=
  transfer (Run_refines_runLeaf_of_le kind n v sid cfg scr .live fuel hf)
    (Props.C02.fallback_only_after_exhaustion kind n v sid cfg scr)

/-- **C02.** Without cancellation the fallback is invoked iff all `N` attempts failed and the node has a fallback of its own.
    Mirrors `Props.C02.fallback_iff_all_failed`. -/
theorem C02_fallback_iff_all_failed_for_interpreted_source (kind : CtxKind) (n v sid : Nat) (cfg : LeafCfg) (scr : LeafScript)
    (hnc : NoCancel cfg scr) {pv : Val} (hd : PrepDone cfg scr pv) (hS : cfg.execS ≠ .absent) (hb : 1 ≤ cfg.effBudget)
    (fuel : Nat) (hf : runFuel cfg ≤ fuel) :
    ∃ evs ctx' out, runLeafIR fuel Flyt.Expected.IR.Run kind n v sid cfg scr .live = some (evs, ctx', out) ∧
      (fbCalls evs ≠ [] ↔ (cfg.fb = .custom ∧ AllFail scr.exec cfg.effBudget)) :=
  transfer (Run_refines_runLeaf_of_le kind n v sid cfg scr .live fuel hf)
    (Props.C02.fallback_iff_all_failed kind n v sid cfg scr hnc hd hS hb)

/-- **C02: the fallback's outcome replaces the exec outcome.** The post phase (`PostEnd`) is entered with the first success's value and
    no fallback call · the last attempt's error, no fallback call, and that error is the run's (no fallback of its own) · the fallback's
    value / error after exactly one call with the last error. Mirrors `Props.C02.outcome_after_retries`. -/
theorem C02_outcome_after_retries_for_interpreted_source (kind : CtxKind) (n v sid : Nat) (cfg : LeafCfg) (scr : LeafScript)
    (hnc : NoCancel cfg scr) {pv : Val} (hd : PrepDone cfg scr pv) (hS : cfg.execS ≠ .absent) (hb : 1 ≤ cfg.effBudget)
    (fuel : Nat) (hf : runFuel cfg ≤ fuel) :
    ∃ evs ctx' out, runLeafIR fuel Flyt.Expected.IR.Run kind n v sid cfg scr .live = some (evs, ctx', out) ∧
      ∃ res, PostEnd n v sid cfg scr pv res (postCalls evs) out ∧
        (∀ k y, FirstOk scr.exec k → k < cfg.effBudget → (scr.exec k).res = .ok y →
            res = .ok (execRet cfg.execS y) ∧ fbCalls evs = []) ∧
        (AllFail scr.exec cfg.effBudget → cfg.fb ≠ .custom →
            ∃ e, (scr.exec (cfg.effBudget - 1)).res = .error e ∧ res = .error (.user e) ∧ fbCalls evs = [] ∧
              out = .err (.user e)) ∧
        (AllFail scr.exec cfg.effBudget → cfg.fb = .custom →
            ∃ e, (scr.exec (cfg.effBudget - 1)).res = .error e ∧ fbCalls evs = [.fb n v pv (.user e)] ∧
              res = (match scr.fb.res with | .ok x => .ok x | .error e' => .error (.user e'))) :=
  transfer (Run_refines_runLeaf_of_le kind n v sid cfg scr .live fuel hf)
    (Props.C02.outcome_after_retries kind n v sid cfg scr hnc hd hS hb)

/-- **C02.** A node that does not expose retry settings gets exactly one attempt (prep done, exec present), whatever is cancelled when.
    Mirrors `Props.C02.nonretryable_single_attempt`. -/
theorem C02_nonretryable_single_attempt_for_interpreted_source (kind : CtxKind) (n v sid : Nat) (cfg : LeafCfg) (scr : LeafScript)
    (hr : cfg.retryable = false) {pv : Val} (hd : PrepDone cfg scr pv) (hS : cfg.execS ≠ .absent)
    (fuel : Nat) (hf : runFuel cfg ≤ fuel) :
    ∃ evs ctx' out, runLeafIR fuel Flyt.Expected.IR.Run kind n v sid cfg scr .live = some (evs, ctx', out) ∧ execCount evs = 1 :=
  transfer (Run_refines_runLeaf_of_le kind n v sid cfg scr .live fuel hf)
    (Props.C02.nonretryable_single_attempt kind n v sid cfg scr hr hd hS)

/-- **C02 for `runExecWithRetries`.** Never more than `N` attempts on an item, never one after its first success, on every context.
    Mirrors `Props.C02.item_attempts_never_exceed`. -/
theorem C02_item_attempts_never_exceed_for_interpreted_source (kind : CtxKind) (n v : Nat) (cfg : BatchCfg) (i : Nat) (item : Result)
    (scr : ItemScript) (c : Ctx) (fuel : Nat) (hf : itemFuel cfg ≤ fuel) :
    ∃ evs ctx' res, runItemIR fuel Flyt.Expected.IR.runExecWithRetries kind n v cfg i item scr c = some (evs, ctx', res) ∧
      bexecCount i evs ≤ cfg.budget ∧ ∀ k, FirstOk scr.exec k → bexecCount i evs ≤ min (k + 1) cfg.budget :=
  transfer (runExecWithRetries_refines_runItem_of_le kind n v cfg i item scr c fuel hf)
    (Props.C02.item_attempts_never_exceed kind n v cfg i item scr c)

/-- Without cancellation: exactly `min (k+1) N` attempts on an item, exactly `N` when all fail. Mirrors `Props.C02.item_attempts_exact`. -/
theorem C02_item_attempts_exact_for_interpreted_source (kind : CtxKind) (n v : Nat) (cfg : BatchCfg) (i : Nat) (item : Result)
    (scr : ItemScript) (hnc : Flyt.Proofs.Item.NoCancel cfg scr) (hS : cfg.execS ≠ .absent) (fuel : Nat) (hf : itemFuel cfg ≤ fuel) :
    ∃ evs ctx' res, runItemIR fuel Flyt.Expected.IR.runExecWithRetries kind n v cfg i item scr .live = some (evs, ctx', res) ∧
      (∀ k, FirstOk scr.exec k → bexecCount i evs = min (k + 1) cfg.budget) ∧
      (AllFail scr.exec cfg.budget → bexecCount i evs = cfg.budget) :=
  transfer (runExecWithRetries_refines_runItem_of_le kind n v cfg i item scr .live fuel hf)
    (Props.C02.item_attempts_exact kind n v cfg i item scr hnc hS)

/-- The item's attempts are numbered 0, 1, 2, … and each receives the item. Mirrors `Props.C02.item_attempts_numbered`. -/
theorem C02_item_attempts_numbered_for_interpreted_source (kind : CtxKind) (n v : Nat) (cfg : BatchCfg) (i : Nat) (item : Result)
    (scr : ItemScript) (fuel : Nat) (hf : itemFuel cfg ≤ fuel) :
    ∃ evs ctx' res, runItemIR fuel Flyt.Expected.IR.runExecWithRetries kind n v cfg i item scr .live = some (evs, ctx', res) ∧
      evs.filter (isBexecOf i) = (List.range (bexecCount i evs)).map (fun k => Ev.bexec n v i k (execArg cfg.execS item.box)) :=
  transfer (runExecWithRetries_refines_runItem_of_le kind n v cfg i item scr .live fuel hf)
    (Props.C02.item_attempts_numbered kind n v cfg i item scr)

/-- The item's fallback: at most once, only after all `N` attempts failed, with the item and the last error, on every context.
    Mirrors `Props.C02.item_fallback_only_after_exhaustion`. -/
theorem C02_item_fallback_only_after_exhaustion_for_interpreted_source (kind : CtxKind) (n v : Nat) (cfg : BatchCfg) (i : Nat)
    (item : Result) (scr : ItemScript) (c : Ctx) (fuel : Nat) (hf : itemFuel cfg ≤ fuel) :
    ∃ evs ctx' res, runItemIR fuel Flyt.Expected.IR.runExecWithRetries kind n v cfg i item scr c = some (evs, ctx', res) ∧
      (bfbCalls i evs = [] ∨
       (cfg.fb = .custom ∧ bexecCount i evs = cfg.budget ∧ AllFail scr.exec cfg.budget ∧
         ∃ j e, cfg.budget = j + 1 ∧ (scr.exec j).res = .error e ∧ bfbCalls i evs = [.bfb n v i item.box (.user e)])) :=
  transfer (runExecWithRetries_refines_runItem_of_le kind n v cfg i item scr c fuel hf)
    (Props.C02.item_fallback_only_after_exhaustion kind n v cfg i item scr c)

/-- Without cancellation the item's fallback is invoked iff all `N` attempts failed and the node has a fallback.
    Mirrors `Props.C02.item_fallback_iff_all_failed`. -/
theorem C02_item_fallback_iff_all_failed_for_interpreted_source (kind : CtxKind) (n v : Nat) (cfg : BatchCfg) (i : Nat) (item : Result)
    (scr : ItemScript) (hnc : Flyt.Proofs.Item.NoCancel cfg scr) (hS : cfg.execS ≠ .absent) (hb : 1 ≤ cfg.budget)
    (fuel : Nat) (hf : itemFuel cfg ≤ fuel) :
    ∃ evs ctx' res, runItemIR fuel Flyt.Expected.IR.runExecWithRetries kind n v cfg i item scr .live = some (evs, ctx', res) ∧
      (bfbCalls i evs ≠ [] ↔ (cfg.fb = .custom ∧ AllFail scr.exec cfg.budget)) :=
  transfer (runExecWithRetries_refines_runItem_of_le kind n v cfg i item scr .live fuel hf)
    (Props.C02.item_fallback_iff_all_failed kind n v cfg i item scr hnc hS hb)

/-- What `runExecWithRetries` hands back for the item (`itemResOf` of its two return values): the first success's value, the last error,
    or the fallback's outcome. Mirrors `Props.C02.item_outcome_after_retries`. -/
theorem C02_item_outcome_after_retries_for_interpreted_source (kind : CtxKind) (n v : Nat) (cfg : BatchCfg) (i : Nat) (item : Result)
    (scr : ItemScript) (hnc : Flyt.Proofs.Item.NoCancel cfg scr) (hS : cfg.execS ≠ .absent) (hb : 1 ≤ cfg.budget)
    (fuel : Nat) (hf : itemFuel cfg ≤ fuel) :
    ∃ evs ctx' res, runItemIR fuel Flyt.Expected.IR.runExecWithRetries kind n v cfg i item scr .live = some (evs, ctx', res) ∧
      (∀ k y, FirstOk scr.exec k → k < cfg.budget → (scr.exec k).res = .ok y →
          res = .slot (slotOfVal (execRet cfg.execS y)) ∧ bfbCalls i evs = []) ∧
      (AllFail scr.exec cfg.budget → cfg.fb ≠ .custom →
          ∃ e, (scr.exec (cfg.budget - 1)).res = .error e ∧ res = .error (.user e) ∧ bfbCalls i evs = []) ∧
      (AllFail scr.exec cfg.budget → cfg.fb = .custom →
          ∃ e, (scr.exec (cfg.budget - 1)).res = .error e ∧ bfbCalls i evs = [.bfb n v i item.box (.user e)] ∧
            res = (match scr.fb.res with | .ok x => .slot (slotOfVal x) | .error e' => .error (.user e'))) :=
  transfer (runExecWithRetries_refines_runItem_of_le kind n v cfg i item scr .live fuel hf)
    (Props.C02.item_outcome_after_retries kind n v cfg i item scr hnc hS hb)

/-- **C02 inside `runBatch`: no counter is shared between items.** In the trace of the interpreted `runBatch` the events of item `i` are
    either none or exactly the events of the interpreted `runExecWithRetries` (at any sufficient depth `ifuel`) on the `i`-th item that
    prep produced, with item `i`'s own script. Mirrors `Props.C02.batch_item_own_loop`, with both sides interpreted. -/
theorem C02_batch_item_own_loop_for_interpreted_source (kind : CtxKind) (n v sid : Nat) (cfg : BatchCfg) (scr : BatchScript) (ctx : Ctx)
    (i : Nat) (fuel : Nat) (hf : batchFuel scr ≤ fuel) (ifuel : Nat) (hif : itemFuel cfg ≤ ifuel) :
    ∃ evs ctx' out, runBatchIR fuel Flyt.Expected.IR.runBatch kind n v sid cfg scr ctx = some (evs, ctx', out) ∧
      (evs.filter (isItemEv i) = [] ∨
       ∃ l it c ievs ictx ires, scr.prep.res = .ok l ∧ (normItems cfg.shape l)[i]? = some it ∧
         runItemIR ifuel Flyt.Expected.IR.runExecWithRetries kind n v cfg i it (scr.item i) c = some (ievs, ictx, ires) ∧
         evs.filter (isItemEv i) = ievs) := by
  refine transfer (runBatch_refines_of_le kind n v sid cfg scr ctx fuel hf) ?_
  rcases Props.C02.batch_item_own_loop kind n v sid cfg scr ctx i with h | ⟨l, it, c, h1, h2, h3⟩
  · exact .inl h
  · exact .inr ⟨l, it, c, _, _, _, h1, h2,
      runExecWithRetries_refines_runItem_of_le kind n v cfg i it (scr.item i) c ifuel hif, h3⟩

/-- Per item of an interpreted `runBatch`: never more than `N` attempts, never one after the item's first success, fallback at most once
    and only after the item's `N` failures. Mirrors `Props.C02.batch_item_bounds`. -/
theorem C02_batch_item_bounds_for_interpreted_source (kind : CtxKind) (n v sid : Nat) (cfg : BatchCfg) (scr : BatchScript) (ctx : Ctx)
    (i : Nat) (fuel : Nat) (hf : batchFuel scr ≤ fuel) :
    ∃ evs ctx' out, runBatchIR fuel Flyt.Expected.IR.runBatch kind n v sid cfg scr ctx = some (evs, ctx', out) ∧
      bexecCount i evs ≤ cfg.budget ∧
      (∀ k, FirstOk (scr.item i).exec k → bexecCount i evs ≤ min (k + 1) cfg.budget) ∧
      (bfbCalls i evs = [] ∨
        (cfg.fb = .custom ∧ bexecCount i evs = cfg.budget ∧ AllFail (scr.item i).exec cfg.budget ∧ (bfbCalls i evs).length = 1)) :=
  transfer (runBatch_refines_of_le kind n v sid cfg scr ctx fuel hf)
    (Props.C02.batch_item_bounds kind n v sid cfg scr ctx i)

/-- Per item of an interpreted `runBatch` that was executed and not disturbed by cancellation: exactly `min (k+1) N` attempts, fallback
    iff all `N` failed. Mirrors `Props.C02.batch_item_exact`; its hypothesis `hrun` ("item `i` has events in the trace") is about the
    run's own trace and so sits inside the conclusion, as an implication on the interpreted trace. -/
theorem C02_batch_item_exact_for_interpreted_source (kind : CtxKind) (n v sid : Nat) (cfg : BatchCfg) (scr : BatchScript) (ctx : Ctx)
    (i : Nat) (hnc : Flyt.Proofs.Item.NoCancel cfg (scr.item i)) (hS : cfg.execS ≠ .absent) (hb : 1 ≤ cfg.budget)
    (fuel : Nat) (hf : batchFuel scr ≤ fuel) :
    ∃ evs ctx' out, runBatchIR fuel Flyt.Expected.IR.runBatch kind n v sid cfg scr ctx = some (evs, ctx', out) ∧
      (evs.filter (isItemEv i) ≠ [] →
        (∀ k, FirstOk (scr.item i).exec k → bexecCount i evs = min (k + 1) cfg.budget) ∧
        (AllFail (scr.item i).exec cfg.budget → bexecCount i evs = cfg.budget) ∧
        (bfbCalls i evs ≠ [] ↔ (cfg.fb = .custom ∧ AllFail (scr.item i).exec cfg.budget))) :=
  transfer (runBatch_refines_of_le kind n v sid cfg scr ctx fuel hf)
    (fun hrun => Props.C02.batch_item_exact kind n v sid cfg scr ctx i hrun hnc hS hb)

-- non-vacuity: the scenarios of `Props/C02.lean` (budget 3, so `46 = 3 + 43`, `33 = 3 + 30`)
example : ∃ evs ctx' out, runLeafIR 46 Flyt.Expected.IR.Run .canceled 4 0 1 Props.C02.exCfg (Props.C02.exScr 1) .live
      = some (evs, ctx', out) ∧ execCount evs = 2 :=
  ⟨_, _, _, Run_refines_runLeaf_of_le _ _ _ _ _ _ _ 46 (by decide), by decide⟩
example : ∃ evs ctx' out, runLeafIR 46 Flyt.Expected.IR.Run .canceled 4 0 1 Props.C02.exCfg (Props.C02.exScr 7) .live
      = some (evs, ctx', out) ∧ execCount evs = 3 ∧ fbCalls evs = [.fb 4 0 (.tok 7) (.user 102)] :=
  ⟨_, _, _, Run_refines_runLeaf_of_le _ _ _ _ _ _ _ 46 (by decide), by decide⟩
example : runItemIR 33 Flyt.Expected.IR.runExecWithRetries .canceled 2 0 Props.C02.exBatch 1 (newResult (.tok 3))
      (Props.C02.exItem 7) .live =
    some ([.bexec 2 0 1 0 (.tok 3), .bexec 2 0 1 1 (.tok 3), .bexec 2 0 1 2 (.tok 3), .bfb 2 0 1 (.res (.tok 3) none) (.user 102)],
      .live, .slot (newResult (.tok 5))) := by
  rw [runExecWithRetries_refines_runItem_of_le _ _ _ _ _ _ _ _ 33 (by decide)]; decide

/-!
Not carried over:
* `concurrent_item_bounds`, `concurrent_item_exact` — subject is the LTS `Flyt.Conc` of the worker pool (every schedule). The only
  refinement theorem for `runBatchConcurrent` is for its serial schedule (`Refine/ConcSerial.lean`); for general schedules the tie to the
  source is the per-task theorem of `Refine/Task.lean` plus the LTS, not an equation with a model function.
* `c02Visit_bridge`, `c02Visit_flow_bridge`, `c02Bounds_bridge`, `c02Bounds_flow_bridge`, `runSchedule_reachable`, `ex_*` — bridges to the
  driver's executable predicates and example facts, not the property.
* `Props/C02Flow.lean` (a flow whose embedded `BaseNode` was given a retry budget) — subject is `runFlowRetried` / `retryLoop` of
  `Model/FlowRetry.lean`. `flowNodeWorld` answers `GetMaxRetries()` with 1 (a flow built by `NewFlow`), and no refinement theorem has
  `retryLoop` as its right-hand side.
-/

end Flyt.Refine.Source
