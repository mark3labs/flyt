import FlytModel.Refine.Submit
import FlytModel.Refine.Task
import FlytModel.Refine.Pool
import FlytModel.Refine.BridgePool
import FlytModel.Proofs.BatchConc
import FlytModel.Props.C06
import FlytModel.Props.C07
import FlytModel.Props.C09
import FlytModel.Props.C11
/-!
# `runBatchConcurrent`, interpreted goroutine by goroutine, against the LTS of `Model/BatchConc.lean`

The submitter (`Refine/Submit.lean`), each task closure (`Refine/Task.lean`), the pool's methods and workers (`Refine/Pool.lean`) are
each run by the interpreter in a world of their own; here their traces are mapped to labels of `Conc.apply`. FROM THE SOURCE: order,
number and effects of ONE goroutine's actions (`hsrc` of `SourceRun`). ASSUMED with the LTS (`hacc`: an action completes only when
`Conc.apply` accepts its label): the interleaving, the buffered channel, the WaitGroup, `sync.Mutex` (a critical section is one atomic
`step i`; `Task.task_discipline`: the source brackets exactly those actions by `Lock` / `Unlock`), `cancel` at any moment, the inside
of `runExecWithRetries` (`ItemRun`; refined sequentially in `Refine/Item.lean`). The invariants (`StateOK`) hold of ANY accepted label
list; `hsrc` says the program's runs are among those. The LTS accepts more than the runtime produces (it does not tie a `step i` to
the worker whose `take` dequeued `i`, nor count workers or submitters): for invariants the safe direction.
-/
namespace Flyt.Refine.ConcAssembly
open Flyt Flyt.GoIR Flyt.Refine
open Flyt.Conc (Cfg Pc BState Label apply init Reachable Path Trans trans_of_apply ids pcOf setPc finish setSlot)
open Flyt.GoIR.SubmitW (SAct SW submitterTrace bodyTrace submitsFrom runSubmitter submitterArgs)
open Flyt.GoIR.TaskW (TAct TW ItemOut runTask taskOf taskTrace secStop secCtx secStore slotOf)
open Flyt.Refine.Task (TSeg taskSegs effectL StoreForm)
set_option autoImplicit false
set_option linter.unusedSimpArgs false
set_option linter.unusedVariables false

/-- apply the labels one after the other; `none` as soon as one is not accepted -/
def runLabels (c : Cfg) (s : BState) : List Label → Option BState
  | [] => some s
  | l :: ls => (apply c s l).bind fun t => runLabels c t ls

theorem runLabels_eq_foldlM (c : Cfg) (s : BState) (ls : List Label) : runLabels c s ls = ls.foldlM (apply c) s := by
  induction ls generalizing s with
  | nil => rfl
  | cons l t ih => exact congrArg _ (funext ih)

theorem path_of_runLabels {c : Cfg} {s s' : BState} {ls : List Label} (h : runLabels c s ls = some s') : Path c s s' :=
  Bridges.foldlM_invariant (fun _ l _ hp hl => .step hp ⟨l, hl⟩) (.refl s) (runLabels_eq_foldlM c s ls ▸ h)

theorem accepted_run_reachable {c : Cfg} {s s' : BState} {ls : List Label} (hs : Reachable c s) (h : runLabels c s ls = some s') :
    Reachable c s' := hs.path (path_of_runLabels h)

theorem runLabels_prefix {c : Cfg} {s s' : BState} {a b : List Label} (h : runLabels c s (a ++ b) = some s') :
    ∃ p, runLabels c s a = some p ∧ runLabels c p b = some s' := by
  simp only [runLabels_eq_foldlM] at h ⊢; exact Bridges.foldlM_append_eq_some.1 h

/-! The submitter's `submit k item` is a CALL of the pool method `Submit`, whose body does `wg.Add(1)`, then the send (`poolActsOf_sound`):
the labels `add k, send k` of the POOL LTS (`Model/Pool.lean`; C12 / C08 in `Refine/BridgePool.lean`). The batch LTS is a coarser view
of the same pool for ONE submitting goroutine (`concOfPool`): `send k ↦ submit` (completion of the send); `add k ↦` nothing (between
`Add` and the send the task is not submitted yet, `next` is unchanged; the guard of `waitRet`, `next = n ∧ queue = [] ∧ running = []`, is
"counter zero" for a single submitter that has made all its `Add`s); `finish t ↦` nothing (`Conc.finish` is part of task `t`'s last
`step t`); `waitRet` is the return of `wg.Wait()`; `callWait`, `close`, `exit` are no steps. `NewWorkerPool` (run in `Refine/NewPool.lean`)
is no step either: it is `Conc.init c` with `c.w = workersOf concurrency` idle workers. -/

/-- the synchronisation actions of the pool method the submitter calls (`Refine/Pool.lean`) -/
def poolActsOf : SAct → List PoolW.Act
  | .submit _ _ => [.wgAdd 1, .send .tasks (.ref "closure" 0)]
  | .wait => [.wgWait]
  | .close => [.closeCh .done, .closeCh .tasks]
  | _ => []

/-- **`poolActsOf` is what the interpreted pool methods do**: the translated `Submit` / `Wait` / `Close`, run in `poolWorld` from any
    state, with any task value, at any depth `≥ 7` (`Close` needs 7, the others 5), append exactly `poolActsOf` to the trace -/
theorem poolActsOf_sound (k : Nat) (r : Result) (task : GV) (w : PoolW.PW) (fuel : Nat) (hf : 7 ≤ fuel) :
    PoolW.view (PoolW.run fuel Flyt.Expected.IR.WorkerPool_Submit [PoolW.poolH, task] w) =
      some ([], w.trace ++ poolActsOf (.submit k r), w.script, w.defers) ∧
    PoolW.view (PoolW.run fuel Flyt.Expected.IR.WorkerPool_Wait [PoolW.poolH] w) =
      some ([], w.trace ++ poolActsOf .wait, w.script, w.defers) ∧
    PoolW.view (PoolW.run fuel Flyt.Expected.IR.WorkerPool_Close [PoolW.poolH] w) =
      some ([], w.trace ++ poolActsOf .close, w.script, w.defers) :=
  ⟨Pool.WorkerPool_Submit_refines_of_le (by omega) task w, Pool.WorkerPool_Wait_refines_of_le (by omega) w,
   Pool.WorkerPool_Close_refines_of_le hf w⟩

/-- in which role (`Refine/Pool.lean`) the submitter performs an action -/
def poolRoleOf : SAct → Pool.Role
  | .submit k _ => .submitter k
  | .wait => .waiter
  | _ => .closer

/-- the labels of the POOL LTS an action of the submitter contributes -/
def poolLabelsOf (a : SAct) : List Flyt.Pool.Label := Pool.labelsOf (poolRoleOf a) (poolActsOf a)

/-- pool LTS → batch LTS -/
def concOfPool : Flyt.Pool.Label → List Label
  | .send _ => [.submit]
  | .take => [.take]
  | .waitRet => [.waitRet]
  | _ => []

/-- the labels of the batch LTS the submitter's trace contributes -/
def submitterLabels (tr : List SAct) : List Label := (tr.flatMap poolLabelsOf).flatMap concOfPool

theorem poolLabelsOf_submit (k : Nat) (r : Result) : poolLabelsOf (.submit k r) = [.add k, .send k] := rfl
theorem poolLabelsOf_wait : poolLabelsOf .wait = [.callWait, .waitRet] := rfl
theorem poolLabelsOf_close : poolLabelsOf .close = [.close] := rfl

/-- the pool LTS labels of the whole call: `add k, send k` per item in index order, `callWait, waitRet`, `close` -/
theorem pool_labels_submitterTrace (conc : Int) (items : List Result) :
    (submitterTrace conc items).flatMap poolLabelsOf =
      ((List.range items.length).flatMap fun k => [Flyt.Pool.Label.add k, .send k]) ++ [.callWait, .waitRet, .close] := by
  have h : ∀ (i : Nat) (l : List Result), (submitsFrom i l).flatMap poolLabelsOf =
      (List.range' i l.length).flatMap fun k => [Flyt.Pool.Label.add k, .send k] := by
    intro i l
    induction l generalizing i with
    | nil => rfl
    | cons x t ih => simp [submitsFrom, poolLabelsOf_submit, ih, List.range'_succ]
  have e1 : [SAct.newPool conc, SAct.deferClose].flatMap poolLabelsOf = [] := rfl
  have e2 : [SAct.wait].flatMap poolLabelsOf = [.callWait, .waitRet] := rfl
  have e3 : [SAct.close].flatMap poolLabelsOf = [.close] := rfl
  simp only [submitterTrace, bodyTrace, List.flatMap_append, h, e1, e2, e3, List.range_eq_range']
  simp

theorem submitter_labels (conc : Int) (items : List Result) :
    submitterLabels (submitterTrace conc items) = List.replicate items.length .submit ++ [.waitRet] := by
  rw [submitterLabels, pool_labels_submitterTrace]
  simp [List.flatMap_append, List.flatMap_assoc, concOfPool, ← List.map_eq_flatMap, List.map_const']

/-- `NewWorkerPool(conc)` starts `max 1 conc` workers (`Refine/Pool.lean: NewWorkerPool_clamp_first`, `clamp_exec`) -/
def workersOf (conc : Int) : Nat := if conc ≤ 0 then 1 else conc.toNat

/-- **what the interpreted source yields for the submitter**: `ls` is the label list of a run of the interpreter on the translated
    `runBatchConcurrent` (in a fresh `submitWorld`, at a sufficient depth) on `c.n` items found anywhere in the heap, with a
    `concurrency` that gives `c.w` workers; the other arguments are arbitrary -/
def SubmitterSource (c : Cfg) (ls : List Label) : Prop :=
  ∃ (fuel : Nat) (ctx node results eh : GV) (conc : Int) (ia : Nat) (pre items post : List Result) (h : Heap),
    items.length + 11 ≤ fuel ∧ h[ia]? = some (pre ++ items ++ post) ∧ items.length = c.n ∧ workersOf conc = c.w ∧
    (runSubmitter fuel Flyt.Expected.IR.runBatchConcurrent
        (submitterArgs ctx node ia pre.length items.length results conc eh) h { ia := ia, off := pre.length }).map
      (fun r => submitterLabels r.2.2.trace) = some ls

theorem submitterRun_labels (ctx node results eh : GV) (ia : Nat) (conc : Int) (pre items post : List Result) (h : Heap)
    (hc : h[ia]? = some (pre ++ items ++ post)) (fuel : Nat) (hf : items.length + 11 ≤ fuel) :
    (runSubmitter fuel Flyt.Expected.IR.runBatchConcurrent
        (submitterArgs ctx node ia pre.length items.length results conc eh) h { ia := ia, off := pre.length }).map
      (fun r => submitterLabels r.2.2.trace) = some (List.replicate items.length .submit ++ [.waitRet]) := by
  rw [Submit.submitter_refines_of_le ctx node results eh ia pre.length conc items h (Submit.hget_window h ia pre items post hc)
    _ rfl rfl rfl fuel hf]
  exact congrArg some (submitter_labels conc items)

theorem submitterSource_iff (c : Cfg) (hw : 0 < c.w) (ls : List Label) :
    SubmitterSource c ls ↔ ls = List.replicate c.n .submit ++ [.waitRet] := by
  constructor
  · rintro ⟨fuel, ctx, node, results, eh, conc, ia, pre, items, post, h, hf, hc, hn, _, hrun⟩
    rw [submitterRun_labels ctx node results eh ia conc pre items post h hc fuel hf, hn] at hrun
    exact (Option.some.inj hrun).symm
  · rintro rfl
    refine ⟨c.n + 11, .nil, .nil, .nil, .nil, (c.w : Int), 0, [], List.replicate c.n ⟨Val.nil, none⟩, [],
      [List.replicate c.n ⟨Val.nil, none⟩], by simp, by simp, by simp, ?_, ?_⟩
    · simp only [workersOf]; split <;> omega
    · rw [submitterRun_labels .nil .nil .nil .nil 0 (c.w : Int) [] _ [] _ (by simp) _ (by simp), List.length_replicate]

/-! `Task.task_labels` cuts the trace of the task closure into segments, each `step` segment being ONE `Label.step i` of the LTS at its
program counter (`Task.SegOK`). Read off the trace, a segment is the action that ends it: the `unlock` of a critical section
(`stopCheck`, `store`), the context test `ctxErr` (`ctxCheck`; the write of the cancelled slot belongs to the same step). `callItem` —
the call of `runExecWithRetries`, made with `mu` free — is the LTS's walk from `loopTop 0 none` to `store r failed`: a list `mid` of
`step i` / `ret i` labels (`ret i`: the exec callback of item `i` returns), of which the closure-level trace sees only the outcome. -/

/-- the labels of the inside of `runExecWithRetries` for item `i`: only task `i`'s own `step` / `ret` -/
def ItemRun (i : Nat) (mid : List Label) : Prop := ∀ l ∈ mid, l = .step i ∨ l = .ret i

def labelOfTAct (i : Nat) (mid : List Label) : TAct → List Label
  | .unlock => [.step i]
  | .ctxErr _ => [.step i]
  | .callItem _ _ => mid
  | _ => []

def taskLabelsOf (i : Nat) (mid : List Label) (tr : List TAct) : List Label := tr.flatMap (labelOfTAct i mid)

/-- the labels of a segment of `Refine/Task.lean` -/
def segLabels (i : Nat) (mid : List Label) : TSeg → List Label
  | .step _ _ _ => [.step i]
  | .item _ _ _ => mid

/-- reading the labels off the trace = one `step i` per `step` segment of `task_labels`, `mid` for the item segment -/
theorem taskLabelsOf_segs (sm b1 : Bool) (i : Nat) (item : Result) (ctx : Ctx) (o : ItemOut) (mid : List Label) :
    taskLabelsOf i mid (taskTrace sm b1 i item ctx o) = (taskSegs sm b1 i item ctx o).flatMap (segLabels i mid) := by
  have hstore : taskLabelsOf i mid (secStore sm i o) = [.step i] := by unfold secStore; split <;> rfl
  cases h1 : (b1 && sm) <;> cases h2 : ctx.isDone <;>
    simp [taskLabelsOf, taskTrace, taskSegs, h1, h2, secStop, secCtx, labelOfTAct, segLabels]
  -- what is left is the path through the item call
  exact hstore

/-- the label sequences of the task of item `i`, one constructor per path through the closure -/
inductive TaskShape (c : Cfg) (i : Nat) : List Label → Prop
  /-- flag up at the stop check, mode `"stop"`: one step (the stopped slot) -/
  | stopped : c.stop = true → TaskShape c i [.step i]
  /-- context done at the context check: stop check, context check (the cancelled slot) -/
  | cancelled : TaskShape c i [.step i, .step i]
  /-- stop check, context check, the item call, the store -/
  | ran (mid : List Label) : ItemRun i mid → TaskShape c i (.step i :: .step i :: (mid ++ [.step i]))

/-- **what the interpreted source yields for the task of item `i`** (the closure `Submit` is handed, `Refine/Task.lean`): the labels of
    a run of the interpreter on it, from ANY world with `mu` free — any flag, interference, context, item outcome — in the mode of `c` -/
def TaskSource (c : Cfg) (i : Nat) (ls : List Label) : Prop :=
  ∃ (fuel : Nat) (eh : String) (item : Result) (nd : GV) (w : TW) (mid : List Label),
    15 ≤ fuel ∧ w.held = false ∧ w.trace = [] ∧ i < w.slots.length ∧ c.stop = (eh == "stop") ∧ ItemRun i mid ∧
    (runTask fuel (taskOf Flyt.Expected.IR.runBatchConcurrent) eh i item nd w).map (fun r => taskLabelsOf i mid r.2.trace) = some ls

theorem taskRun_labels (eh : String) (i : Nat) (item : Result) (nd : GV) (w : TW) (mid : List Label) (hh : w.held = false)
    (htr : w.trace = []) (hi : i < w.slots.length) (fuel : Nat) (hf : 15 ≤ fuel) :
    (runTask fuel (taskOf Flyt.Expected.IR.runBatchConcurrent) eh i item nd w).map (fun r => taskLabelsOf i mid r.2.trace) =
      some ((taskSegs (eh == "stop") w.flagAtLock i item w.ctx w.out).flatMap (segLabels i mid)) := by
  rw [Task.task_closure_refines_of_le eh i item nd w hh hi fuel hf, Option.map_some, Task.taskSem_trace, htr, List.nil_append,
    taskLabelsOf_segs]

theorem taskSource_iff (c : Cfg) (i : Nat) (ls : List Label) : TaskSource c i ls ↔ TaskShape c i ls := by
  constructor
  · rintro ⟨fuel, eh, item, nd, w, mid, hf, hh, htr, hi, hstop, hmid, hrun⟩
    rw [taskRun_labels eh i item nd w mid hh htr hi fuel hf] at hrun
    cases hrun
    unfold taskSegs
    split
    · rename_i hb
      exact .stopped (hstop.trans (Bool.and_eq_true _ _ ▸ hb).2)
    split
    · exact .cancelled
    · exact .ran mid hmid
  · -- witness: a world with the flag `b` and the context `cx`, in the mode of `c`
    have hsrc : ∀ (b : Bool) (cx : Ctx) (mid : List Label), ItemRun i mid →
        TaskSource c i ((taskSegs c.stop b i ⟨Val.nil, none⟩ cx ⟨Val.nil, none⟩).flatMap (segLabels i mid)) := by
      intro b cx mid hmid
      have hstop : c.stop = ((if c.stop then "stop" else "continue") == "stop") := by cases c.stop <;> decide
      refine ⟨15, if c.stop then "stop" else "continue", ⟨Val.nil, none⟩, .nil,
        { stop := b, ctx := cx, slots := List.replicate (i + 1) ⟨Val.nil, none⟩ }, mid, Nat.le_refl _, rfl, rfl, by simp, hstop,
        hmid, ?_⟩
      rw [taskRun_labels _ _ _ _ _ _ rfl rfl (by simp) _ (Nat.le_refl _), ← hstop]; rfl
    intro h
    cases h with
    | stopped hs => simpa [taskSegs, hs, segLabels] using hsrc true .live [] (by intro l hl; cases hl)
    | cancelled => simpa [taskSegs, segLabels, Ctx.isDone] using hsrc false (.done .canceled) [] (by intro l hl; cases hl)
    | ran mid hmid => simpa [taskSegs, segLabels, Ctx.isDone] using hsrc false .live mid hmid

/-! A receive that delivered a task is the batch LTS's `take`. `run (wrapper t)` is the call of the closure `Submit` wrapped around the
task closure of item `t`; it does `deferDone, run (user t), wgDone` (`Pool.WorkerPool_Submit_wrapper_runWithDefers`), so it contributes
the labels `tl t` of that task (`wrapper_inline_conc`). `wg.Done()` is no step of its own (`Conc.finish` is part of the task's last
`step t`: the worker is idle again, the task no longer `running`, which is what `waitRet` looks at), nor is leaving after `Close`. -/

def workerLabelOf (tl : Nat → List Label) : PoolW.Act → List Label
  | .recv (some _) => [.take]
  | .run (.wrapper t) => tl t
  | _ => []

def workerLabelsOf (tl : Nat → List Label) (tr : List PoolW.Act) : List Label := tr.flatMap (workerLabelOf tl)

/-- the same map inside the wrapper closure: its call of the user's task `t` is where the task's labels come from -/
def wrapperLabelOf (tl : Nat → List Label) : PoolW.Act → List Label
  | .run (.user t) => tl t
  | _ => []

/-- inlining the wrapper's own actions (`Pool.WorkerPool_Submit_wrapper_runWithDefers`) into the worker's trace does not change the
    labels -/
theorem wrapper_inline_conc (tl : Nat → List Label) (t : Nat) :
    workerLabelsOf tl [.run (.wrapper t)] = [PoolW.Act.deferDone, .run (.user t), .wgDone].flatMap (wrapperLabelOf tl) := by
  simp [workerLabelsOf, workerLabelOf, wrapperLabelOf]

theorem workerLabelsOf_workerActs (tl : Nat → List Label) (ts : List Nat) (stop : PoolW.Obs) (hstop : stop.isStop = true) :
    workerLabelsOf tl (PoolW.workerActs ts ++ [PoolW.finalAct stop]) = ts.flatMap fun t => .take :: tl t := by
  cases stop <;> simp [PoolW.Obs.isStop] at hstop <;>
    simp [workerLabelsOf, PoolW.workerActs, PoolW.finalAct, List.flatMap_assoc, workerLabelOf]

/-- **what the interpreted source yields for a worker**: the labels of a run of the interpreter on the translated `WorkerPool.worker`
    with ANY script of observations, at ANY depth at which it returns, each task's labels being ones the interpreted task closure yields -/
def WorkerSource (c : Cfg) (ls : List Label) : Prop :=
  ∃ (fuel : Nat) (w : PoolW.PW) (tl : Nat → List Label), w.trace = [] ∧ (∀ t, TaskSource c t (tl t)) ∧
    (PoolW.run fuel Flyt.Expected.IR.WorkerPool_worker [PoolW.poolH] w).map (fun r => workerLabelsOf tl r.2.trace) = some ls

/-- `take, ⟨task t₁⟩, take, ⟨task t₂⟩, …` for ANY list of delivered tasks, each task in one of its three shapes -/
def WorkerShape (c : Cfg) (ls : List Label) : Prop :=
  ∃ (ts : List Nat) (tl : Nat → List Label), (∀ t, TaskShape c t (tl t)) ∧ ls = ts.flatMap fun t => .take :: tl t

theorem workerSource_iff (c : Cfg) (ls : List Label) : WorkerSource c ls ↔ WorkerShape c ls := by
  constructor
  · rintro ⟨fuel, w, tl, hw, htl, h⟩
    obtain ⟨x, hr, rfl⟩ := Option.map_eq_some_iff.1 h
    obtain ⟨ts, stop, rest, g, hstop, hg, hx⟩ := Bridges.worker_returns hr
    have hl := Pool.WorkerPool_worker_refines_of_le ts hg stop hstop rest w
    rw [hx] at hl
    simp only [PoolW.view, Option.map_some, Option.some.injEq, Prod.mk.injEq] at hl
    exact ⟨ts, tl, fun t => (taskSource_iff c t _).1 (htl t), by
      rw [hl.2.1, hw, List.nil_append, workerLabelsOf_workerActs tl ts stop hstop]⟩
  · rintro ⟨ts, tl, htl, rfl⟩
    have hl := Pool.WorkerPool_worker_refines_of_le ts (Nat.le_refl _) .doneClosed rfl [] {}
    obtain ⟨x, hr, hx⟩ := Option.map_eq_some_iff.1 hl
    simp only [Prod.mk.injEq] at hx
    refine ⟨11 + 1 * ts.length, { script := ts.map .task ++ [.doneClosed] }, tl, rfl, fun t => (taskSource_iff c t _).2 (htl t), ?_⟩
    rw [hr, Option.map_some, hx.2.1]
    exact congrArg some (workerLabelsOf_workerActs tl ts .doneClosed rfl)

/-- the goroutines of a run of `runBatchConcurrent`: the one that executes it, the pool's workers (each running the tasks it
    receives), and — not part of the source — whoever cancels the caller's context -/
inductive Role | submitter | worker | canceller
  deriving DecidableEq, Repr

/-- **the label sequences the INTERPRETED SOURCE contributes**, role by role (a canceller contributes the one label `cancel`: from
    anywhere, at any moment) -/
def SourceLabels (c : Cfg) : Role → List Label → Prop
  | .submitter, ls => SubmitterSource c ls
  | .worker, ls => WorkerSource c ls
  | .canceller, ls => ls = [.cancel]

/-- the same sets, explicitly: the label shapes the LTS has -/
def RoleLabels (c : Cfg) : Role → List Label → Prop
  | .submitter, ls => ls = List.replicate c.n .submit ++ [.waitRet]
  | .worker, ls => WorkerShape c ls
  | .canceller, ls => ls = [.cancel]

/-- **The per-goroutine label sequences of the interpreted source are exactly `RoleLabels`.** -/
theorem sourceLabels_iff (c : Cfg) (hw : 0 < c.w) (r : Role) (ls : List Label) : SourceLabels c r ls ↔ RoleLabels c r ls := by
  cases r with
  | submitter => exact submitterSource_iff c hw ls
  | worker => exact workerSource_iff c ls
  | canceller => exact Iff.rfl

structure Goroutine where
  role : Role
  labels : List Label

/-- **a run of the program** `runBatchConcurrent` under configuration `c`, with label list `ls`, ending in `s`: `hsrc` each goroutine
    contributes a label sequence the interpreted source yields for its role, `hint` interleaved in some way (each consumed front to
    back, not necessarily to its end), `hacc` each label accepted by `Conc.apply` when its turn comes (the runtime) -/
def SourceRun (c : Cfg) (ls : List Label) (s : BState) : Prop :=
  ∃ gs : List Goroutine, (∀ g ∈ gs, SourceLabels c g.role g.labels) ∧ Bridges.Interleave (gs.map (·.labels)) ls ∧
    runLabels c (init c) ls = some s

/-- every prefix of a run of the program is a run of the program -/
theorem SourceRun.prefix {c : Cfg} {a b : List Label} {s : BState} (h : SourceRun c (a ++ b) s) :
    ∃ p, SourceRun c a p ∧ runLabels c p b = some s := by
  obtain ⟨gs, hsrc, hint, hacc⟩ := h
  obtain ⟨p, hp, hrest⟩ := runLabels_prefix hacc
  exact ⟨p, ⟨gs, hsrc, hint.prefix, hp⟩, hrest⟩

def isSubmitterLabel : Label → Bool
  | .submit => true
  | .waitRet => true
  | _ => false

def submitterSeq (s : BState) : List Label := List.replicate s.next .submit ++ (if s.posted then [.waitRet] else [])

/-- `submit` is enabled by `next < n`, `waitRet` by `next = n ∧ ¬ posted`: the source's program order -/
theorem submitterSeq_step {c : Cfg} {s s' : BState} {l : Label} (hr : Reachable c s) (h : apply c s l = some s') :
    submitterSeq s' = if isSubmitterLabel l then submitterSeq s ++ [l] else submitterSeq s := by
  cases trans_of_apply h with
  | submit hn hc =>
    have hp : s.posted = false := by
      cases hp : s.posted with
      | false => rfl
      | true => have := ((Conc.flagInv_reachable hr).postedDone hp).1; omega
    simp [submitterSeq, hp, isSubmitterLabel, List.replicate_succ']
  | waitRet hn hq hr hp => simp [submitterSeq, hp, isSubmitterLabel]
  | advance i pc b evs pc' l hpc hm hl => rcases hl with rfl | rfl <;> rfl
  | _ => rfl

theorem submitterSeq_run {c : Cfg} {ls : List Label} : ∀ {s0 s : BState}, Reachable c s0 → runLabels c s0 ls = some s →
    submitterSeq s0 ++ ls.filter isSubmitterLabel = submitterSeq s := by
  induction ls with
  | nil => intro s0 s _ h; cases h; simp
  | cons l t ih =>
    intro s0 s hr h
    obtain ⟨s1, hl, h⟩ := Option.bind_eq_some_iff.1 h
    rw [← ih (hr.step ⟨l, hl⟩) h, submitterSeq_step hr hl]
    cases hp : isSubmitterLabel l <;> simp [hp]

theorem submitter_projection {c : Cfg} {ls : List Label} {s : BState} (h : runLabels c (init c) ls = some s) :
    ls.filter isSubmitterLabel = List.replicate s.next .submit ++ (if s.posted then [.waitRet] else []) ∧
    s.next ≤ c.n ∧ (s.posted = true → s.next = c.n) := by
  have hr := accepted_run_reachable .init h
  exact ⟨submitterSeq_run .init h, (Conc.inv_reachable hr).nextLe, fun hp => ((Conc.flagInv_reachable hr).postedDone hp).1⟩

/-- the `submit` / `waitRet` labels of ANY accepted run, in their order, are a prefix of what the interpreted submitter yields
    (`submitterSource_iff`) -/
theorem submitter_projection_prefix {c : Cfg} {ls : List Label} {s : BState} (h : runLabels c (init c) ls = some s) :
    ∃ rest, List.replicate c.n Label.submit ++ [.waitRet] = ls.filter isSubmitterLabel ++ rest := by
  obtain ⟨h1, h2, h3⟩ := submitter_projection h
  rw [h1]
  cases hp : s.posted with
  | true => exact ⟨[], by simp [h3 hp]⟩
  | false =>
    refine ⟨List.replicate (c.n - s.next) .submit ++ [.waitRet], ?_⟩
    simp only [Bool.false_eq_true, if_false, List.append_nil, ← List.append_assoc, List.replicate_append_replicate]
    rw [show s.next + (c.n - s.next) = c.n from by omega]

/-- so that `Task.segOK_store` (the source's second critical section) applies to every `store` counter the LTS ever holds -/
theorem reachable_store_forms {c : Cfg} {s : BState} (hr : Reachable c s) (i : Nat) (r : Result) (f : Bool)
    (hin : (i, Pc.store r f) ∈ s.running) : ∃ o : ItemOut, r = slotOf o ∧ f = o.err.isSome := by
  suffices h : StoreForm r f from Task.store_forms r f h
  induction hr with
  | init => simp [init] at hin
  | step _ hs ih =>
    obtain ⟨l, hl⟩ := hs
    rcases Task.apply_store_forms c _ _ l hl i r f hin with h | h
    · exact ih h
    · exact h

/-- every step the LTS takes at a task's own program counter has the effect of the source's segment on `(shouldStop, results)`;
    `loopTop` / `inExec` are left out: the inside of `runExecWithRetries` (`Refine/Item.lean`) -/
theorem step_is_source_segment {c : Cfg} {s s' : BState} (hr : Reachable c s) (i : Nat) (h : apply c s (.step i) = some s') :
    (pcOf s i = some .stopCheck →
      (s'.shouldStop, s'.slots) = effectL (secStop c.stop s.shouldStop i) (s.shouldStop, s.slots)) ∧
    (pcOf s i = some .ctxCheck →
      (s'.shouldStop, s'.slots) = effectL (secCtx s.cancelled i) (s.shouldStop, s.slots)) ∧
    (∀ r f, pcOf s i = some (.store r f) → ∃ o : ItemOut, r = slotOf o ∧ f = o.err.isSome ∧
      (s'.shouldStop, s'.slots) = effectL (secStore c.stop i o) (s.shouldStop, s.slots)) := by
  refine ⟨fun hpc => ?_, fun hpc => ?_, fun r f hpc => ?_⟩
  · obtain ⟨s1, h1, h2, _⟩ := Task.segOK_stopCheck c i c.stop s.shouldStop s.cancelled rfl s hpc (fun _ => rfl) (fun hc => by cases hc)
    rw [h] at h1; cases h1; exact h2
  · obtain ⟨s1, h1, h2, _⟩ := Task.segOK_ctxCheck c i s.shouldStop s.cancelled s hpc (fun hc => by cases hc) (fun _ => rfl)
    rw [h] at h1; cases h1; exact h2
  · obtain ⟨o, rfl, rfl⟩ := reachable_store_forms hr i r f (Conc.pcOf_mem hpc)
    refine ⟨o, rfl, rfl, ?_⟩
    obtain ⟨s1, h1, h2, _⟩ := Task.segOK_store c i c.stop s.shouldStop s.cancelled o rfl s hpc (fun hc => by cases hc) (fun hc => by cases hc)
    rw [h] at h1; cases h1; exact h2

theorem stop_raised_only_by_failed_store {c : Cfg} {s s' : BState} {l : Label} (h : apply c s l = some s')
    (h0 : s.shouldStop = false) (h1 : s'.shouldStop = true) :
    c.stop = true ∧ ∃ i r, l = .step i ∧ pcOf s i = some (.store r true) := by
  cases trans_of_apply h with
  | finish i pc r b hpc hf =>
    cases hf with
    | stopHit hs _ => rw [h0] at hs; cases hs
    | ctxHit => simp [h0] at h1
    | store r failed =>
      simp only [Conc.finish_shouldStop, h0, Bool.false_or, Bool.and_eq_true] at h1
      obtain ⟨rfl, hs⟩ := h1
      exact ⟨hs, i, r, rfl, hpc⟩
  | _ => simp [h0] at h1

/-- the function literal in the `Submit` statement of the loop body is closure number 0 of `runBatchConcurrent` — the task closure
    `Refine/Task.lean` is about (`taskOf`, there with what it captures as leading parameters) -/
theorem submitted_closure_is_task :
    Submit.submitStmt = .expr (.mcall (.var "pool") "Submit" E[(.funcLit [] (taskOf Flyt.Expected.IR.runBatchConcurrent).body)]) ∧
    (closuresOf Flyt.Expected.IR.runBatchConcurrent).length = 1 := ⟨rfl, rfl⟩

/-- **Task `k` is the closure of the `k`-th `Submit`, run on ITS OWN index and item.** In ANY world whose `Submit` does not run the
    closure: iteration `k` of the loop (item `item`) is one `mcall pool "Submit" [closure]` made in an environment in which the variables
    the closure captures have the values `taskArgs results eh k item node` — the arguments `Refine/Task.lean` runs the task of item `k`
    with (`runTask` / `runTaskHeap`) — and `shouldStop` is `false`. -/
theorem kth_submit_creates_task_k {Ω : Type} (W : World Ω) (node results p : GV) (ia off n : Nat) (conc : Int) (eh : String)
    (k : Nat) (item : Result) (h : Heap) (w : Ω) (hinv : W.invokes p "Submit" = false) (f : Nat) :
    execBlock W (f + 5) concBody
        ⟨("item", .result item) :: ("i", .int k) :: Submit.sEnv TaskW.ctxRef node ia off n results conc (.str eh) p, h, w⟩ =
      (match W.mcall p "Submit" [.ref "closure" 0] h w with
       | some (_, h', w') =>
         some (.next, ⟨Submit.submitEnv TaskW.ctxRef node ia off n results conc (.str eh) p k item, h', w'⟩)
       | none => none) ∧
    TaskW.captured.map (Submit.submitEnv TaskW.ctxRef node ia off n results conc (.str eh) p k item).get =
      (TaskW.taskArgs results eh k item node).map some ∧
    (Submit.submitEnv TaskW.ctxRef node ia off n results conc (.str eh) p k item).get "shouldStop" = some (.bool false) := by
  refine ⟨?_, Submit.captured_at_submit node results p ia off n conc eh k item⟩
  rw [Submit.concBody_env, Submit.submitStmt_exec W f _ h w p rfl hinv]
  cases W.mcall p "Submit" [.ref "closure" 0] h w with
  | none => rfl
  | some x => rfl

/-- the headline invariants (`Proofs/BatchConc.lean`, `Props/C06 / C07 / C09`) in a state `p` of a run that goes on to `s` -/
structure StateOK (c : Cfg) (p s : BState) : Prop where
  reach : Reachable c p
  /-- POSITIONAL RESULTS: `n` slots; slot `j` is changed only by the last step of task `j` itself … -/
  slotsLen : p.slots.length = c.n
  ownWriter : ∀ (l : Label) (p' : BState) (j : Nat), apply c p l = some p' → p'.slots[j]? ≠ p.slots[j]? →
    l = .step j ∧ j ∈ ids p ∧ j ∉ ids p'
  /-- … once: a written slot is never rewritten … -/
  writtenOnce : ∀ (j : Nat) (r : Result), p.slots[j]? = some (some r) → s.slots[j]? = some (some r)
  /-- … and holds the outcome of item `j`'s own processing -/
  ownOutcome : ∀ (j : Nat) (r : Result), p.slots[j]? = some (some r) → Conc.Origin c p.cancelled (Conc.hist p) j r
  /-- each index is in exactly one place: not yet submitted, queued, held by a worker, or finished with its slot written -/
  onePlace : (p.queue ++ ids p).Nodup ∧ ∀ i : Nat, (∃ r : Result, p.slots[i]? = some (some r)) ↔ (i < p.next ∧ i ∉ p.queue ∧ i ∉ ids p)
  /-- AT MOST `w` TASKS RUNNING; the channel never overflows -/
  bound : p.running.length ≤ c.w ∧ p.running.length + p.idle = c.w ∧ p.queue.length ≤ c.cap
  /-- STOP FLAG: never raised in continue mode … -/
  stopOff : c.stop = false → p.shouldStop = false
  /-- … raised only by the store step of a task whose `runExecWithRetries` failed, in stop mode … -/
  stopRaise : ∀ (l : Label) (p' : BState), apply c p l = some p' → p.shouldStop = false → p'.shouldStop = true →
    c.stop = true ∧ ∃ (i : Nat) (r : Result), l = .step i ∧ pcOf p i = some (.store r true)
  /-- … once raised it stays; no task passes the stop check any more; only tasks that had passed it still start exec calls … -/
  stopSticky : c.stop = true → p.shouldStop = true →
    s.shouldStop = true ∧ (∀ j : Nat, Conc.pastStopCheck s j → Conc.pastStopCheck p j) ∧
    ∃ new, s.log = new ++ p.log ∧ ∀ j k : Nat, Conc.Obs.start j k ∈ new → Conc.pastStopCheck p j ∧ j ∈ ids p
  /-- … and a task at its stop check gets the "batch stopped" error slot and ends -/
  stopped : c.stop = true → p.shouldStop = true → ∀ (i : Nat) (p' : BState), pcOf p i = some .stopCheck → apply c p (.step i) = some p' →
    p'.slots = setSlot p.slots i Conc.stoppedSlot ∧ i ∉ ids p'
  /-- `Wait` returns only when all `n` tasks have been submitted and have finished: every slot is written -/
  waitBarrier : ∀ p' : BState, apply c p .waitRet = some p' →
    p.next = c.n ∧ p.queue = [] ∧ p.running = [] ∧ ∀ i : Nat, i < c.n → ∃ r : Result, p'.slots[i]? = some (some r)
  /-- every step of a task at its own program counters is the interpreted closure's segment -/
  steps : ∀ (i : Nat) (p' : BState), apply c p (.step i) = some p' →
    (pcOf p i = some .stopCheck →
      (p'.shouldStop, p'.slots) = effectL (secStop c.stop p.shouldStop i) (p.shouldStop, p.slots)) ∧
    (pcOf p i = some .ctxCheck →
      (p'.shouldStop, p'.slots) = effectL (secCtx p.cancelled i) (p.shouldStop, p.slots)) ∧
    (∀ (r : Result) (f : Bool), pcOf p i = some (.store r f) → ∃ o : ItemOut, r = slotOf o ∧ f = o.err.isSome ∧
      (p'.shouldStop, p'.slots) = effectL (secStore c.stop i o) (p.shouldStop, p.slots))

theorem stateOK_of_reachable {c : Cfg} {p s : BState} (hr : Reachable c p) (hp : Path c p s) : StateOK c p s := by
  have inv := Conc.inv_reachable hr
  refine
    { reach := hr
      slotsLen := inv.slotsLen
      ownWriter := fun l p' j hl => (Props.C06.slot_written_by_own_task_once hr hl).1
      writtenOnce := fun j r h => Conc.slot_stable hr hp h
      ownOutcome := fun j r h => Props.C06.slot_is_own_outcome hr h
      onePlace := ⟨inv.nodup, inv.slotIff⟩
      bound := ⟨by have := inv.workers; omega, inv.workers, inv.qcap⟩
      stopOff := Props.C07.stop_flag_untouched hr
      stopRaise := fun l p' hl => stop_raised_only_by_failed_store hl
      stopSticky := fun hstop hs => by
        obtain ⟨a, b, d, _, _⟩ := Props.C09.after_failure_only_committed_items_run hr hp hstop hs
        exact ⟨a, b, d⟩
      stopped := fun hstop hs i p' hpc hl => by
        obtain ⟨a, _, b, _⟩ := Props.C09.stopped_task_gets_error hstop hs hpc hl
        exact ⟨a, b⟩
      waitBarrier := fun p' hw => by
        obtain ⟨a, b, d, _, _, e⟩ := Props.C06.post_after_all_settled hr hw
        exact ⟨a, b, d, fun i hi => by obtain ⟨r, hr', _⟩ := e i hi; exact ⟨r, hr'⟩⟩
      steps := fun i p' hl => step_is_source_segment hr i hl }

/-- **Every label list the LTS accepts.** For every list of labels that `Conc.apply` accepts step by step from `Conc.init c`, in
    EVERY state `p` on the way (after every prefix `l₁`): the headline invariants hold (`StateOK`), and the submitter's labels so far
    are, in order, `submit × p.next` (then `waitRet` if post has run) — a prefix of the interpreted submitter's sequence. -/
theorem accepted_run_ok {c : Cfg} {ls : List Label} {s : BState} (h : runLabels c (init c) ls = some s) :
    ∀ l₁ l₂, ls = l₁ ++ l₂ → ∃ p, runLabels c (init c) l₁ = some p ∧ runLabels c p l₂ = some s ∧ StateOK c p s ∧
      l₁.filter isSubmitterLabel = List.replicate p.next .submit ++ (if p.posted then [.waitRet] else []) ∧ p.next ≤ c.n := by
  rintro l₁ l₂ rfl
  obtain ⟨p, hp, hrest⟩ := runLabels_prefix h
  obtain ⟨h1, h2, _⟩ := submitter_projection hp
  exact ⟨p, hp, hrest, stateOK_of_reachable (accepted_run_reachable .init hp) (path_of_runLabels hrest), h1, h2⟩

/-- **Assembly: `runBatchConcurrent`, interpreted goroutine by goroutine, against the LTS.** For a run of the program (`SourceRun`):
    (1) every prefix of it is a run of the program and ends in a state `p` in which the headline invariants hold (`StateOK`), the
        submitter's labels so far being `submit × p.next (, waitRet)`;
    (2) the label sequences its goroutines contribute have the label shapes of the LTS (`RoleLabels`): `submit × n, waitRet` for the
        submitter; `take, ⟨task⟩, take, ⟨task⟩, …` for a worker, each `⟨task t⟩` one of `TaskShape`; `cancel`. -/
theorem batch_assembly {c : Cfg} (hw : 0 < c.w) {ls : List Label} {s : BState} (h : SourceRun c ls s) :
    (∀ l₁ l₂, ls = l₁ ++ l₂ → ∃ p, SourceRun c l₁ p ∧ runLabels c p l₂ = some s ∧ StateOK c p s ∧
      l₁.filter isSubmitterLabel = List.replicate p.next .submit ++ (if p.posted then [.waitRet] else []) ∧ p.next ≤ c.n) ∧
    (∃ gs : List Goroutine, (∀ g ∈ gs, RoleLabels c g.role g.labels) ∧ Bridges.Interleave (gs.map (·.labels)) ls) := by
  obtain ⟨gs, hsrc, hint, hacc⟩ := h
  refine ⟨?_, gs, fun g hg => (sourceLabels_iff c hw g.role g.labels).1 (hsrc g hg), hint⟩
  rintro l₁ l₂ rfl
  obtain ⟨p, hp, hrest, hok⟩ := accepted_run_ok hacc l₁ l₂ rfl
  exact ⟨p, ⟨gs, hsrc, hint.prefix, hp⟩, hrest, hok⟩

/-- conversely, goroutines with the LTS's label shapes, interleaved and accepted, ARE a run of the interpreted program -/
theorem sourceRun_of_shapes {c : Cfg} (hw : 0 < c.w) {ls : List Label} {s : BState} (gs : List Goroutine)
    (hsh : ∀ g ∈ gs, RoleLabels c g.role g.labels) (hint : Bridges.Interleave (gs.map (·.labels)) ls)
    (hacc : runLabels c (init c) ls = some s) : SourceRun c ls s :=
  ⟨gs, fun g hg => (sourceLabels_iff c hw g.role g.labels).2 (hsh g hg), hint, hacc⟩

/-! Non-vacuity. Two items, ONE worker, stop mode, budget 1, no fallback; item 0's exec fails. The submitter submits both and waits; the
worker takes task 0 — stop check, context check, into the exec call, its return (error 7), out of the retry loop, store: the flag goes
up — then takes task 1, which is stopped at its stop check; `Wait` returns. -/

def exC : Cfg :=
  { n := 2, w := 1, cap := 2, stop := true, budget := 1, fb := .passThrough, execS := .any,
    exec := fun i _ => if i = 0 then { res := .error 7 } else { res := .ok (.tok 1) }, fbOut := fun _ => { res := .error 0 },
    kind := .canceled }

def exLabels : List Label :=
  [.submit, .submit, .take, .step 0, .step 0, .step 0, .ret 0, .step 0, .step 0, .take, .step 1, .waitRet]

def exTasks (t : Nat) : List Label := if t = 0 then [.step 0, .step 0, .step 0, .ret 0, .step 0, .step 0] else [.step t]

theorem exLabels_accepted : (runLabels exC (init exC) exLabels).map (fun q => (q.posted, q.shouldStop, q.slots)) =
    some (true, true, [some (newErrorResult (.user 7)), some Conc.stoppedSlot]) := by decide

example : ∃ q, SourceRun exC exLabels q ∧ q.posted = true ∧ q.shouldStop = true ∧
    q.slots = [some (newErrorResult (.user 7)), some Conc.stoppedSlot] := by
  obtain ⟨q, hq, hacc⟩ := Option.map_eq_some_iff.1 exLabels_accepted
  simp only [Prod.mk.injEq] at hacc
  refine ⟨q, sourceRun_of_shapes (by decide)
    [⟨.submitter, [.submit, .submit, .waitRet]⟩, ⟨.worker, [.take] ++ exTasks 0 ++ [.take] ++ exTasks 1⟩] ?_ ?_ hq, hacc⟩
  · intro g hg
    simp only [List.mem_cons, List.not_mem_nil, or_false] at hg
    rcases hg with rfl | rfl
    · rfl
    · refine ⟨[0, 1], exTasks, fun t => ?_, rfl⟩
      by_cases ht : t = 0
      · subst ht
        exact .ran [.step 0, .ret 0, .step 0] (by intro l hl; simp at hl; rcases hl with rfl | rfl | rfl <;> simp)
      · simp only [exTasks, ht, if_false]; exact .stopped rfl
  · exact .step _ 0 _ _ _ rfl (.step _ 0 _ _ _ rfl (.step _ 1 _ _ _ rfl (.step _ 1 _ _ _ rfl (.step _ 1 _ _ _ rfl
      (.step _ 1 _ _ _ rfl (.step _ 1 _ _ _ rfl (.step _ 1 _ _ _ rfl (.step _ 1 _ _ _ rfl (.step _ 1 _ _ _ rfl
      (.step _ 1 _ _ _ rfl (.step _ 0 _ _ _ rfl (.stop _))))))))))))

/-- `hacc` bites: `Wait` returning while task 1 is still queued is not accepted; nor is a third `Submit` -/
example : runLabels exC (init exC) [.submit, .submit, .take, .step 0, .step 0, .step 0, .ret 0, .step 0, .step 0, .waitRet] = none ∧
    runLabels exC (init exC) [.submit, .submit, .submit] = none := by
  constructor <;> decide

end Flyt.Refine.ConcAssembly
