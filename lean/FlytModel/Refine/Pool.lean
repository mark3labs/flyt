import FlytModel.GoIR.PoolWorld
import FlytModel.Model.Pool
import FlytModel.Expected.IR
import FlytModel.Refine.RunNode
/-!
# The `WorkerPool` methods (`Flyt.Expected.IR`), run in `poolWorld` (`GoIR/PoolWorld.lean`), perform exactly the synchronisation
actions the LTS of `Model/Pool.lean` assumes of them (C12 / C08)

The interpreter follows ONE goroutine; `poolWorld` records what it does to `tasks`, `done` and the WaitGroup as a trace of `Act`, and
its script says what each `select` sees. Every theorem holds for every initial world state `w` (its trace is a prefix of the result's;
script rest and pending deferred actions untouched) and every depth `≥ K` (`…_refines_of_le`); `…_refines` is the same at the depth
`F` of the executable test `GoIR/PoolTest.lean`. `Submit` does `wg.Add(1)` BEFORE the send, `Close` closes `done` first; the closure in
`Submit` is run as `wrapTask`, with what it captures as leading parameters. Then the map to labels of the LTS, and syntactic facts
about `NewWorkerPool` (which is run in `Refine/NewPool.lean`).
-/
namespace Flyt.Refine.Pool
open Flyt Flyt.GoIR Flyt.GoIR.PoolW Flyt.Expected.IR Flyt.Refine

section steps
variable {Ω : Type} (W : World Ω)
theorem stmt_expr_mcall_nil (f : Nat) (r : Expr) (m : String) (st : St Ω) :
    execStmt W (f + 1) (.expr (.mcall r m .nil)) st = (evalExpr W f (.mcall r m .nil) st).map fun (_, st1) => (.next, st1) := rfl
theorem stmt_expr_mcall_int (f : Nat) (r : Expr) (m : String) (n : Nat) (st : St Ω) :
    execStmt W (f + 1) (.expr (.mcall r m (.cons (.int n) .nil))) st =
      (evalExpr W f (.mcall r m (.cons (.int n) .nil)) st).map fun (_, st1) => (.next, st1) := rfl
theorem stmt_expr_call (f : Nat) (fn : String) (args : Exprs) (st : St Ω) :
    execStmt W (f + 1) (.expr (.call fn args)) st = (evalExpr W f (.call fn args) st).map fun (_, st1) => (.next, st1) := rfl
theorem stmt_defer (f : Nat) (r : Expr) (m : String) (st : St Ω) :
    execStmt W (f + 1) (.deferS (.mcall r m .nil)) st =
      (match evalExpr W f r st with
       | some ([x], st1) =>
         (match W.mcall x ("defer:" ++ m) [] st1.heap st1.w with
          | some (_, h, w) => some (.next, { st1 with heap := h, w := w })
          | none => none)
       | _ => none) := rfl
theorem stmt_send (f : Nat) (ch v : Expr) (st : St Ω) :
    execStmt W (f + 1) (.send ch v) st =
      (match evalExpr W f ch st with
       | some ([c], st1) =>
         (match evalExpr W f v st1 with
          | some ([x], st2) =>
            (match W.call "chan:send" [c, x] st2.heap st2.w with
             | some (_, h, w) => some (.next, { st2 with heap := h, w := w })
             | none => none)
          | _ => none)
       | _ => none) := rfl
theorem expr_funcLit (f : Nat) (ps : List String) (b : Block) (st : St Ω) :
    evalExpr W (f + 1) (.funcLit ps b) st = some ([.ref "closure" 0], st) := rfl
theorem expr_not (f : Nat) (a : Expr) (st : St Ω) :
    evalExpr W (f + 1) (.un "!" a) st =
      match evalExpr W f a st with
      | some ([.bool p], st1) => some ([.bool !p], st1)
      | _ => none := rfl
end steps

/-! Projections of `poolWorld`, by `by rfl`, not the term `rfl`: a lemma whose proof is the term `rfl` is applied by `simp` as a
definitional step that leaves no proof term, and the kernel then evaluates the world's match on the call name (string comparisons)
again at every use. -/

theorem W_tasks (i : Nat) (w : PW) : poolWorld.field (.ref "pool" i) "tasks" w = some (.ref "chan" 0) := by rfl
theorem W_done (i : Nat) (w : PW) : poolWorld.field (.ref "pool" i) "done" w = some (.ref "chan" 1) := by rfl
theorem W_wg (i : Nat) (w : PW) : poolWorld.field (.ref "pool" i) "wg" w = some (.ref "wg" 0) := by rfl

theorem W_Add (i : Nat) (n : Int) (h : Heap) (w : PW) :
    poolWorld.mcall (.ref "wg" i) "Add" [.int n] h w = some ([], h, emit w (.wgAdd n)) := by rfl
theorem W_Wait (i : Nat) (h : Heap) (w : PW) : poolWorld.mcall (.ref "wg" i) "Wait" [] h w = some ([], h, emit w .wgWait) := by rfl
theorem W_deferDone (i : Nat) (h : Heap) (w : PW) :
    poolWorld.mcall (.ref "wg" i) "defer:Done" [] h w = some ([], h, { emit w .deferDone with defers := .wgDone :: w.defers }) := by rfl

theorem W_send_tasks (v : GV) (h : Heap) (w : PW) :
    poolWorld.call "chan:send" [.ref "chan" 0, v] h w = some ([], h, emit w (.send .tasks v)) := by rfl
theorem W_close_tasks (h : Heap) (w : PW) : poolWorld.call "close" [.ref "chan" 0] h w = some ([], h, emit w (.closeCh .tasks)) := by rfl
theorem W_close_done (h : Heap) (w : PW) : poolWorld.call "close" [.ref "chan" 1] h w = some ([], h, emit w (.closeCh .done)) := by rfl
/-- `poolWorld` does not set `callVar`: a call through a local function variable (`task()`) is answered by name -/
theorem W_callVar (fn : String) (fv : GV) : poolWorld.callVar fn fv = poolWorld.call fn := by rfl
theorem W_task (h : Heap) (w : PW) :
    poolWorld.call "task" [] h w = (match w.cur with | some f => some ([], h, emit w (.run f)) | none => none) := by rfl
theorem W_recvd (h : Heap) (w : PW) :
    poolWorld.call "chan:recvd" [.ref "chan" 0] h w =
      (match w.got with
       | some (some t) => some ([.ref "wrapper" t, .bool true], h, { w with got := none, cur := some (.wrapper t) })
       | some none => some ([.nil, .bool false], h, { w with got := none, cur := none })
       | none => none) := by rfl
theorem W_select (w : PW) :
    poolWorld.select [.ref "chan" 0, .ref "chan" 1] w =
      (match w.script with
       | .task t :: rest => some (0, { emit w (.recv (some t)) with script := rest, got := some (some t) })
       | .tasksClosed :: rest => some (0, { emit w (.recv none) with script := rest, got := some none })
       | .doneClosed :: rest => some (1, { emit w .doneSignal with script := rest })
       | [] => none) := by rfl

macro "poolsimp" " [" ts:Lean.Parser.Tactic.simpLemma,* "]" : tactic =>
  `(tactic| gosimp [PoolW.run, PoolW.runWithDefers, PoolW.view, PoolW.exitDefers, callFunc, expr_sel, expr_funcLit, expr_not,
      stmt_expr_mcall_nil, stmt_expr_mcall_int, stmt_expr_call, stmt_defer, stmt_send,
      W_tasks, W_done, W_wg, W_Add, W_Wait, W_deferDone, W_send_tasks, W_close_tasks, W_close_done, W_callVar, W_task, W_recvd, W_select,
      emit, poolH, $ts,*])

theorem WorkerPool_Submit_refines_of_le {fuel : Nat} (hf : 5 ≤ fuel) (task : GV) (w : PW) :
    view (run fuel WorkerPool_Submit [poolH, task] w) =
      some ([], w.trace ++ [.wgAdd 1, .send .tasks (.ref "closure" 0)], w.script, w.defers) := by
  obtain ⟨f, rfl⟩ := Nat.exists_eq_add_of_le' hf
  poolsimp [WorkerPool_Submit]

/-- the function literal in `Submit`, as a function of its own -/
def submitClosure : Func := { name := "WorkerPool.Submit.func", recv := "", params := [], body :=
  B[(.deferS (.mcall (.sel (.var "p") "wg") "Done" E[])),
    (.expr (.call "task" E[]))] }

theorem closuresOf_Submit : closuresOf WorkerPool_Submit = [submitClosure] := rfl
theorem closuresOf_Submit_0 : (closuresOf WorkerPool_Submit)[0]? = some submitClosure := by rw [closuresOf_Submit]; rfl

/-- … with the two variables it captures (`p`, `task`) as leading parameters -/
def wrapTask : Func := withCaptured submitClosure ["p", "task"]

def workerBody : Block := B[
    (.selectS (Cases.ofList [
      ((.un "<-" (.sel (.var "p") "tasks")), B[
        (.define ["task", "ok"] E[(.call "chan:recvd" E[(.sel (.var "p") "tasks")])]),
        (.ifS B[] (.un "!" (.var "ok")) B[
          (.ret E[])] B[]),
        (.expr (.call "task" E[]))]),
      ((.un "<-" (.sel (.var "p") "done")), B[
        (.ret E[])])]))]

theorem worker_body : WorkerPool_worker.body = B[(.forS B[] (.var "true") B[] workerBody)] := rfl
theorem worker_recv : WorkerPool_worker.recv = "p" := rfl
theorem worker_params : WorkerPool_worker.params = [] := rfl

theorem body_unfold (f : Nat) (st : St PW) : execBlock poolWorld f workerBody st = execBlock poolWorld f B[
    (.selectS (Cases.ofList [
      ((.un "<-" (.sel (.var "p") "tasks")), B[
        (.define ["task", "ok"] E[(.call "chan:recvd" E[(.sel (.var "p") "tasks")])]),
        (.ifS B[] (.un "!" (.var "ok")) B[
          (.ret E[])] B[]),
        (.expr (.call "task" E[]))]),
      ((.un "<-" (.sel (.var "p") "done")), B[
        (.ret E[])])]))] st := rfl

theorem body_task (f : Nat) (tr : List Act) (t : Nat) (sc : List Obs) (g : Option (Option Nat)) (c : Option Fn) (ds : List Act) :
    execBlock poolWorld (f + 9) workerBody ⟨[("p", poolH)], [], ⟨tr, .task t :: sc, g, c, ds⟩⟩ =
      some (.next, ⟨[("p", poolH)], [], ⟨tr ++ [.recv (some t), .run (.wrapper t)], sc, none, some (.wrapper t), ds⟩⟩) := by
  poolsimp [body_unfold]

theorem cond_true (k : Nat) (w : PW) :
    evalExpr poolWorld (k + 1) (.var "true") ⟨[("p", poolH)], [], w⟩ = some ([.bool true], ⟨[("p", poolH)], [], w⟩) := by
  simp [expr_var, Env.get]

theorem worker_loop (stop : Obs) (hstop : stop.isStop = true) (rest : List Obs) (ds : List Act) (ts : List Nat) :
    ∀ (f : Nat) (tr : List Act) (g : Option (Option Nat)) (c : Option Fn),
      ∃ g' c', loopFor poolWorld (f + ts.length + 9) (.var "true") .nil workerBody
          ⟨[("p", poolH)], [], ⟨tr, ts.map .task ++ stop :: rest, g, c, ds⟩⟩ =
        some (.ret [], ⟨[("p", poolH)], [], ⟨tr ++ workerActs ts ++ [finalAct stop], rest, g', c', ds⟩⟩) := by
  induction ts with
  | nil =>
    intro f tr g c
    cases stop with
    | task t => simp [Obs.isStop] at hstop
    | tasksClosed => rw [loopFor_succ]; poolsimp [body_unfold, workerActs, finalAct]
    | doneClosed => rw [loopFor_succ]; poolsimp [body_unfold, workerActs, finalAct]
  | cons t ts ih =>
    intro f tr g c
    obtain ⟨g', c', h⟩ := ih f (tr ++ [.recv (some t), .run (.wrapper t)]) none (some (.wrapper t))
    rw [show f + (t :: ts).length + 9 = (f + ts.length + 9) + 1 by simp; omega, loopFor_succ]
    exact ⟨g', c', by simpa [cond_true, body_task, block_nil, popSt, Env.popTo, workerActs, List.append_assoc] using h⟩

theorem WorkerPool_worker_refines_of_le {fuel : Nat} (ts : List Nat) (hf : 11 + 1 * ts.length ≤ fuel) (stop : Obs)
    (hstop : stop.isStop = true) (rest : List Obs) (w : PW) :
    view (run fuel WorkerPool_worker [poolH] { w with script := ts.map .task ++ stop :: rest }) =
      some ([], w.trace ++ workerActs ts ++ [finalAct stop], rest, w.defers) := by
  obtain ⟨f, rfl⟩ : ∃ f, fuel = f + ts.length + 11 := ⟨fuel - (11 + ts.length), by omega⟩
  obtain ⟨tr, sc, g, c, ds⟩ := w
  obtain ⟨g', c', h⟩ := worker_loop stop hstop rest ds ts f tr g c
  simp only [poolH] at h
  poolsimp [worker_body, worker_recv, worker_params, h]

theorem body_blocked (f : Nat) (tr : List Act) (g : Option (Option Nat)) (c : Option Fn) (ds : List Act) :
    execBlock poolWorld (f + 9) workerBody ⟨[("p", poolH)], [], ⟨tr, [], g, c, ds⟩⟩ = none := by
  poolsimp [body_unfold]

theorem loop_blocks (ds : List Act) : ∀ (fuel : Nat) (ts : List Nat) (tr : List Act) (g : Option (Option Nat)) (c : Option Fn),
    loopFor poolWorld fuel (.var "true") .nil workerBody ⟨[("p", poolH)], [], ⟨tr, ts.map .task, g, c, ds⟩⟩ = none := by
  intro fuel
  induction fuel with
  | zero => intros; rfl
  | succ fuel ih =>
    intro ts tr g c
    rw [loopFor_succ]
    cases fuel with
    | zero => rfl
    | succ k =>
      rw [cond_true]
      dsimp only
      cases hb : execBlock poolWorld (k + 1) workerBody ⟨[("p", poolH)], [], ⟨tr, ts.map .task, g, c, ds⟩⟩ with
      | none => rfl
      | some x =>
        have hm := mono_execBlock poolWorld (show k + 1 ≤ k + 9 by omega) hb
        cases ts with
        | nil => rw [List.map_nil, body_blocked] at hm; cases hm
        | cons t ts =>
          rw [List.map_cons, body_task] at hm
          cases hm
          simp only [block_nil, popSt, Env.popTo, List.length_cons, List.length_nil, Nat.sub_self, List.drop_zero]
          exact ih ts _ _ _

/-- A worker whose script has no terminating observation never returns: no result at ANY depth — after the last task the goroutine
    stays blocked in its `select`. -/
theorem WorkerPool_worker_blocks (fuel : Nat) (ts : List Nat) (w : PW) :
    run fuel WorkerPool_worker [poolH] { w with script := ts.map .task } = none := by
  obtain ⟨tr, sc, g, c, ds⟩ := w
  have hl := fun k => loop_blocks ds k ts tr g c
  rcases fuel with _ | _ | _ | k
  · simp [run, callFunc, worker_recv, worker_params, Env.pushAll, Env.push, execBlock]
  · simp [run, callFunc, worker_recv, worker_params, worker_body, Env.pushAll, Env.push, block_cons, execStmt]
  · simp [run, callFunc, worker_recv, worker_params, worker_body, Env.pushAll, Env.push, stmt_for, execBlock]
  · simp only [poolH] at hl
    simp [run, callFunc, worker_recv, worker_params, worker_body, Env.pushAll, Env.push, block_cons, stmt_for, block_nil, poolH, hl]

theorem WorkerPool_Submit_wrapper_refines_of_le {fuel : Nat} (hf : 5 ≤ fuel) (task : GV) (c : Fn) (w : PW) :
    view (run fuel wrapTask [poolH, task] { w with cur := some c }) =
      some ([], w.trace ++ [.deferDone, .run c], w.script, .wgDone :: w.defers) := by
  obtain ⟨f, rfl⟩ := Nat.exists_eq_add_of_le' hf
  obtain ⟨tr, sc, g, c', ds⟩ := w
  poolsimp [wrapTask, withCaptured, submitClosure]

/-- With Go's defer semantics (`runWithDefers`: the pending deferred calls happen at function exit) the wrapper closure does exactly:
    run the user's task, then `wg.Done()` — once. (`deferDone` marks the registration and is no action on the WaitGroup.) -/
theorem WorkerPool_Submit_wrapper_runWithDefers {fuel : Nat} (hf : 5 ≤ fuel) (task : GV) (c : Fn) (w : PW) (hd : w.defers = []) :
    view (runWithDefers fuel wrapTask [poolH, task] { w with cur := some c }) =
      some ([], w.trace ++ [.deferDone, .run c, .wgDone], w.script, []) := by
  have h := WorkerPool_Submit_wrapper_refines_of_le hf task c w
  simp only [view, Option.map_eq_some_iff, runWithDefers, exitDefers] at h ⊢
  obtain ⟨⟨vs, w'⟩, hr, he⟩ := h
  simp only [Prod.mk.injEq] at he
  obtain ⟨h1, h2, h3, h4⟩ := he
  exact ⟨(vs, exitDefers w'), ⟨(vs, w'), hr, rfl⟩, by simp [exitDefers, h1, h2, h3, h4, hd]⟩

/-- the closure cannot be run around a `nil` task: Go panics, the interpreter is stuck -/
theorem WorkerPool_Submit_wrapper_nil (fuel : Nat) (task : GV) (w : PW) :
    run fuel wrapTask [poolH, task] { w with cur := none } = none := by
  obtain ⟨tr, sc, g, c', ds⟩ := w
  cases h : run fuel wrapTask [poolH, task] ⟨tr, sc, g, none, ds⟩ with
  | none => rfl
  | some r =>
    have hm : run (fuel + 5) wrapTask [poolH, task] ⟨tr, sc, g, none, ds⟩ = some r := by
      simp only [run, Option.map_eq_some_iff] at h ⊢
      obtain ⟨x, hx, rfl⟩ := h
      exact ⟨x, mono_callFunc poolWorld (by omega) hx, rfl⟩
    revert hm
    poolsimp [wrapTask, withCaptured, submitClosure]

theorem WorkerPool_Wait_refines_of_le {fuel : Nat} (hf : 5 ≤ fuel) (w : PW) :
    view (run fuel WorkerPool_Wait [poolH] w) = some ([], w.trace ++ [.wgWait], w.script, w.defers) := by
  obtain ⟨f, rfl⟩ := Nat.exists_eq_add_of_le' hf
  poolsimp [WorkerPool_Wait]

theorem WorkerPool_Close_refines_of_le {fuel : Nat} (hf : 7 ≤ fuel) (w : PW) :
    view (run fuel WorkerPool_Close [poolH] w) = some ([], w.trace ++ [.closeCh .done, .closeCh .tasks], w.script, w.defers) := by
  obtain ⟨f, rfl⟩ := Nat.exists_eq_add_of_le' hf
  poolsimp [WorkerPool_Close]

/-- the recursion depth of the executable test (`GoIR/PoolTest.lean`) -/
def F : Nat := 40

theorem WorkerPool_Submit_refines (task : GV) (w : PW) :
    view (run F WorkerPool_Submit [poolH, task] w) =
      some ([], w.trace ++ [.wgAdd 1, .send .tasks (.ref "closure" 0)], w.script, w.defers) :=
  WorkerPool_Submit_refines_of_le (by decide) task w
theorem WorkerPool_Wait_refines (w : PW) :
    view (run F WorkerPool_Wait [poolH] w) = some ([], w.trace ++ [.wgWait], w.script, w.defers) :=
  WorkerPool_Wait_refines_of_le (by decide) w
theorem WorkerPool_Close_refines (w : PW) :
    view (run F WorkerPool_Close [poolH] w) = some ([], w.trace ++ [.closeCh .done, .closeCh .tasks], w.script, w.defers) :=
  WorkerPool_Close_refines_of_le (by decide) w
theorem WorkerPool_worker_refines (ts : List Nat) (stop : Obs) (hstop : stop.isStop = true) (rest : List Obs) (w : PW) :
    view (run (F + ts.length) WorkerPool_worker [poolH] { w with script := ts.map .task ++ stop :: rest }) =
      some ([], w.trace ++ workerActs ts ++ [finalAct stop], rest, w.defers) :=
  WorkerPool_worker_refines_of_le ts (by simp [F]) stop hstop rest w

/-! `labelOf r a`: the labels of the LTS of `Model/Pool.lean` that action `a` contributes when the goroutine that performs it acts in role
`r`. It says nothing about how the label sequences of different goroutines interleave (`Pool.Reachable` quantifies over that), only
the ORDER within one goroutine, which is what the LTS builds in: `add t` before `send t` (state component `pend`), `take` before
`finish t` (`running`), a worker's `exit` last, `callWait` before `waitRet` (`waiters`).

* a blocking operation that completed is the label of its completion: `send` (the channel had room), `take` (the queue was non-empty),
  `waitRet` (the counter was zero); the interpreter records the action when the world lets the operation return;
* `Wait` contributes two labels for its single action: the call (`callWait`) and the return (`waitRet`) of `wg.Wait()`;
* `Close` contributes ONE label for its two actions: `close(p.done)` is the LTS's `close` (from then on a worker may `exit`), the
  following `close(p.tasks)` enables nothing the LTS distinguishes (`exit` is already enabled) and contributes no label;
* the worker's call of the function it received, `run (.wrapper t)`, is `finish t`: by `WorkerPool_Submit_wrapper_runWithDefers` the
  callee's own actions are the user's task and then `wg.Done()`, which is what `finish t` does to the counter (`wrapper_inline`).
-/

/-- in which capacity a goroutine executes pool code; `t` is the LTS's name of the task concerned -/
inductive Role
  | submitter (t : Nat)      -- a goroutine inside `Submit(task)`
  | worker                   -- a goroutine started by `NewWorkerPool`, inside `worker()`
  | wrapper (t : Nat)        -- the body of the closure `Submit` built around task `t` (run by a worker, inside its `run (.wrapper t)`)
  | waiter                   -- a goroutine inside `Wait()`
  | closer                   -- a goroutine inside `Close()`
  deriving DecidableEq, Repr

open Flyt.Pool (Label) in
def labelOf : Role → Act → List Label
  | .submitter t, .wgAdd n => if n = 1 then [.add t] else []
  | .submitter t, .send .tasks _ => [.send t]
  | .worker, .recv (some _) => [.take]
  | .worker, .run (.wrapper t) => [.finish t]
  | .worker, .recv none => [.exit]
  | .worker, .doneSignal => [.exit]
  | .wrapper t, .wgDone => [.finish t]
  | .waiter, .wgWait => [.callWait, .waitRet]
  | .closer, .closeCh .done => [.close]
  | _, _ => []

open Flyt.Pool (Label) in
def labelsOf (r : Role) (tr : List Act) : List Label := tr.flatMap (labelOf r)

/-- the labels of the trace a run produced -/
def labelsOfRun (r : Role) (res : Option (List GV × PW)) : Option (List Flyt.Pool.Label) := res.map fun x => labelsOf r x.2.trace

theorem labels_workerActs (ts : List Nat) (stop : Obs) (hstop : stop.isStop = true) :
    labelsOf .worker (workerActs ts ++ [finalAct stop]) = (ts.flatMap fun t => [.take, .finish t]) ++ [.exit] := by
  induction ts with
  | nil => cases stop <;> first | rfl | simp [Obs.isStop] at hstop
  | cons t ts ih =>
    simp only [labelsOf, workerActs, List.flatMap_cons, List.flatMap_append, List.append_assoc] at ih ⊢
    rw [ih]; rfl

theorem labelsOfRun_of_view {r : Role} {res : Option (List GV × PW)} {vs : List GV} {tr : List Act} {sc : List Obs} {ds : List Act}
    (h : view res = some (vs, tr, sc, ds)) : labelsOfRun r res = some (labelsOf r tr) := by
  cases res with
  | none => simp [view] at h
  | some x => simp only [view, Option.map_some, Option.some.injEq, Prod.mk.injEq] at h; simp [labelsOfRun, h.2.1]

/-- `Submit`, started with an empty trace, contributes `add t` and then `send t` -/
theorem Submit_labels {fuel : Nat} (hf : 5 ≤ fuel) (t : Nat) (task : GV) (w : PW) (hw : w.trace = []) :
    labelsOfRun (.submitter t) (run fuel WorkerPool_Submit [poolH, task] w) = some [.add t, .send t] := by
  rw [labelsOfRun_of_view (WorkerPool_Submit_refines_of_le hf task w), hw]; rfl

/-- `Wait` contributes `callWait`, `waitRet` -/
theorem Wait_labels {fuel : Nat} (hf : 5 ≤ fuel) (w : PW) (hw : w.trace = []) :
    labelsOfRun .waiter (run fuel WorkerPool_Wait [poolH] w) = some [.callWait, .waitRet] := by
  rw [labelsOfRun_of_view (WorkerPool_Wait_refines_of_le hf w), hw]; rfl

/-- `Close` contributes `close` -/
theorem Close_labels {fuel : Nat} (hf : 7 ≤ fuel) (w : PW) (hw : w.trace = []) :
    labelsOfRun .closer (run fuel WorkerPool_Close [poolH] w) = some [.close] := by
  rw [labelsOfRun_of_view (WorkerPool_Close_refines_of_le hf w), hw]; rfl

/-- a worker that is delivered the tasks `ts` and then sees a closed channel contributes `take, finish t` per task, in the order of
    delivery, and then `exit` -/
theorem worker_labels {fuel : Nat} (ts : List Nat) (hf : 11 + 1 * ts.length ≤ fuel) (stop : Obs) (hstop : stop.isStop = true)
    (rest : List Obs) (w : PW) (hw : w.trace = []) :
    labelsOfRun .worker (run fuel WorkerPool_worker [poolH] { w with script := ts.map .task ++ stop :: rest }) =
      some ((ts.flatMap fun t => [.take, .finish t]) ++ [.exit]) := by
  rw [labelsOfRun_of_view (WorkerPool_worker_refines_of_le ts hf stop hstop rest w), hw, List.nil_append,
    labels_workerActs ts stop hstop]

/-- one iteration of the worker: `take`, then `finish t` -/
theorem worker_iteration_labels (t : Nat) : labelsOf .worker (workerActs [t]) = [.take, .finish t] := rfl

/-- the wrapper closure of task `t`, run to its exit, contributes `finish t` — exactly what the worker's call of it is mapped to: inlining
    the callee's actions into the worker's trace does not change the labels -/
theorem wrapper_labels {fuel : Nat} (hf : 5 ≤ fuel) (t : Nat) (task : GV) (w : PW) (hw : w.trace = []) (hd : w.defers = []) :
    labelsOfRun (.wrapper t) (runWithDefers fuel wrapTask [poolH, task] { w with cur := some (.user t) }) = some [.finish t] := by
  rw [labelsOfRun_of_view (WorkerPool_Submit_wrapper_runWithDefers hf task (.user t) w hd), hw]; rfl

theorem wrapper_inline (t : Nat) :
    labelsOf .worker [.run (.wrapper t)] = labelsOf (.wrapper t) [.deferDone, .run (.user t), .wgDone] := rfl

/-- The label sequences are ones the LTS can take: after `add t` the task is pending and `send t` is enabled as soon as the queue has
    room; after `take` of a queue headed by `t`, `finish t` is enabled. -/
theorem lts_submit_order {p q : Flyt.Pool.Pool} {t : Nat} (h : Flyt.Pool.apply p (.add t) = some q) (hroom : p.queue.length < p.cap) :
    (Flyt.Pool.apply q (.send t)).isSome = true := by
  simp only [Flyt.Pool.apply] at h
  split at h <;> simp at h
  subst h
  simp [Flyt.Pool.apply, hroom]

theorem lts_worker_order {p q : Flyt.Pool.Pool} {t : Nat} {rest : List Nat} (hq : p.queue = t :: rest)
    (h : Flyt.Pool.apply p .take = some q) : (Flyt.Pool.apply q (.finish t)).isSome = true := by
  simp only [Flyt.Pool.apply, hq] at h
  split at h <;> simp at h
  subst h
  simp [Flyt.Pool.apply]

/-- `send t` is NOT enabled before `add t`: in the LTS as in the source the counter is raised first -/
theorem lts_no_send_before_add {p : Flyt.Pool.Pool} {t : Nat} (h : Flyt.Pool.fresh p t = true) : Flyt.Pool.apply p (.send t) = none := by
  simp only [Flyt.Pool.fresh, Bool.not_eq_true', Bool.or_eq_false_iff] at h
  have hp : t ∉ p.pend := by simpa using h.1.1.1
  simp [Flyt.Pool.apply, hp]

end Flyt.Refine.Pool

/-! `NewWorkerPool` starts goroutines: `go p.worker()` is an event of the world, which `poolWorld` does not have; it is run in
`Refine/NewPool.lean`. Here its SHAPE, read off the translated source by `rfl`: the clamp comes first, the capacity of `tasks` is
`workers * 2`, `done` is unbuffered, there is exactly one `go` statement — directly inside `for i := 0; i < workers; i++`, spawning
`p.worker()` — and none in the pool's methods. The clamp is also run (`clamp_exec`, in any world). -/
namespace Flyt.GoIR

mutual
/-- number of `go` statements, function literals included -/
def Expr.goCount : Expr → Nat
  | .bin _ a b => a.goCount + b.goCount
  | .un _ a => a.goCount
  | .call _ args => args.goCount
  | .mcall r _ args => r.goCount + args.goCount
  | .sel a _ => a.goCount
  | .index a i => a.goCount + i.goCount
  | .sliceFrom a lo => a.goCount + lo.goCount
  | .assert a _ => a.goCount
  | .lit _ elts => elts.goCount
  | .conv _ a => a.goCount
  | .funcLit _ body => body.goCount
  | _ => 0
def Exprs.goCount : Exprs → Nat
  | .nil => 0
  | .cons e es => e.goCount + es.goCount
def Stmt.goCount : Stmt → Nat
  | .define _ rhs => rhs.goCount
  | .assign lhs rhs => lhs.goCount + rhs.goCount
  | .ifS i c t e => i.goCount + c.goCount + t.goCount + e.goCount
  | .forS i c p b => i.goCount + c.goCount + p.goCount + b.goCount
  | .rangeS _ _ x b => x.goCount + b.goCount
  | .selectS cs => cs.goCount
  | .typeSwitch _ x cs => x.goCount + cs.goCount
  | .ret es => es.goCount
  | .expr e => e.goCount
  | .deferS e => e.goCount
  | .goS e => 1 + e.goCount
  | .send c v => c.goCount + v.goCount
  | _ => 0
def Block.goCount : Block → Nat
  | .nil => 0
  | .cons s b => s.goCount + b.goCount
def Cases.goCount : Cases → Nat
  | .nil => 0
  | .cons g b rest => g.goCount + b.goCount + rest.goCount
end

/-- the initialiser of field `k` in the element list of a keyed composite literal -/
def litField? : Exprs → String → Option Expr
  | .nil, _ => none
  | .cons (.bin ":" (.var k') e) rest, k => if k' == k then some e else litField? rest k
  | .cons _ rest, k => litField? rest k

end Flyt.GoIR

namespace Flyt.Refine.Pool
open Flyt Flyt.GoIR Flyt.Expected.IR Flyt.Refine

/-- `if workers <= 0 { workers = 1 }` -/
def clampStmt : Stmt :=
  .ifS B[] (.bin "<=" (.var "workers") (.int 0)) B[(.assign E[(.var "workers")] E[(.int 1)])] B[]

/-- the fields of `&WorkerPool{…}` -/
def poolFields : Exprs :=
  E[(.bin ":" (.var "workers") (.var "workers")),
    (.bin ":" (.var "tasks") (.call "make" E[(.var "chan func()"), (.bin "*" (.var "workers") (.int 2))])),
    (.bin ":" (.var "done") (.call "make" E[(.var "chan struct{}")]))]

/-- `for i := 0; i < workers; i++ { go p.worker() }` -/
def spawnLoop : Stmt :=
  .forS B[(.define ["i"] E[(.int 0)])] (.bin "<" (.var "i") (.var "workers")) B[(.incr "i")] B[(.goS (.mcall (.var "p") "worker" E[]))]

/-- the whole body: clamp; `p := &WorkerPool{…}`; spawn loop; `return p` -/
theorem NewWorkerPool_body :
    NewWorkerPool.body = B[clampStmt, (.define ["p"] E[(.un "&" (.lit "WorkerPool" poolFields))]), spawnLoop, (.ret E[(.var "p")])] := rfl
theorem NewWorkerPool_params : NewWorkerPool.recv = "" ∧ NewWorkerPool.params = ["workers"] := ⟨rfl, rfl⟩

/-- the clamp is the first statement -/
theorem NewWorkerPool_clamp_first : NewWorkerPool.body.toList.head? = some clampStmt := rfl

/-- the capacity expression of `tasks` is `workers * 2`; `done` is unbuffered -/
theorem NewWorkerPool_tasks_cap :
    litField? poolFields "tasks" = some (.call "make" E[(.var "chan func()"), (.bin "*" (.var "workers") (.int 2))]) := rfl
theorem NewWorkerPool_done_unbuffered : litField? poolFields "done" = some (.call "make" E[(.var "chan struct{}")]) := rfl
theorem NewWorkerPool_lit : NewWorkerPool.body.toList[1]? = some (.define ["p"] E[(.un "&" (.lit "WorkerPool" poolFields))]) := rfl

/-- exactly one `go` statement in `NewWorkerPool` — the one in the body of the spawn loop, which is the third statement; none in
    `Submit`, `Wait`, `Close`, `worker` (closures included) -/
theorem NewWorkerPool_one_go : NewWorkerPool.body.goCount = 1 := by decide
theorem NewWorkerPool_spawnLoop : NewWorkerPool.body.toList[2]? = some spawnLoop := rfl
theorem spawnLoop_go : spawnLoop.goCount = 1 := by decide
theorem pool_methods_no_go :
    [WorkerPool_Submit, WorkerPool_Wait, WorkerPool_Close, WorkerPool_worker].map (·.body.goCount) = [0, 0, 0, 0] := by decide
/-- the clamp and the literal are evaluated before the loop and contain no `go` -/
theorem NewWorkerPool_prefix_no_go : clampStmt.goCount = 0 ∧ poolFields.goCount = 0 := by decide

/-- the clamp, executed in ANY world: `workers` becomes the `w` of `Pool.init` (`clamp_matches_init`) -/
theorem clamp_exec {Ω : Type} (W : World Ω) (f : Nat) (n : Int) (env : GoIR.Env) (h : Heap) (w : Ω) :
    execStmt W (f + 5) clampStmt ⟨("workers", .int n) :: env, h, w⟩ =
      some (.next, ⟨("workers", .int (if n ≤ 0 then 1 else n)) :: env, h, w⟩) := by
  by_cases hn : n ≤ 0 <;> gosimp [clampStmt, hn]

theorem clamp_matches_init (cap : Nat) (n : Int) : ((Flyt.Pool.init cap n).w : Int) = if n ≤ 0 then 1 else n := by
  by_cases hn : n ≤ 0 <;> simp [Flyt.Pool.init, hn]; omega

end Flyt.Refine.Pool
