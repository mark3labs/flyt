import FlytModel.GoIR.BatchStackWorld
import FlytModel.Refine.Item
import FlytModel.Refine.Seq
import FlytModel.Refine.Batch
import FlytModel.Refine.ConcSerial
/-!
# The batch path with callees as INTERPRETED SOURCE instead of model functions

The refinement theorems of `Item.lean` / `Seq.lean` / `ConcSerial.lean` / `Batch.lean` are layered: each world gives the callee
the meaning of the MODEL function. Here the seams are closed (worlds: `GoIR/BatchStackWorld.lean`):

* `runBatchSequential → runExecWithRetries` (`runBatchSequential_over_interpreted_items`): in `stackSeqWorld` (= `seqWorld` except
  that the call `runExecWithRetries(…)` is `callFunc (itemWorld …) fi Expected.IR.runExecWithRetries` on the caller's heap and
  argument values, return values passed through untouched) `runBatchSequential` is the model's `itemsSeq`;
* `runBatchConcurrent → runExecWithRetries` (`runBatchConcurrent_serial_over_interpreted_items`): the same for
  `runBatchConcurrent` on the serial schedule (`stackConcSerialWorld`), against the model's `itemsSerialPool`;
* `runBatch → runBatchSequential` (`runBatch_over_interpreted_sequential`): in `stackBatchWorld` (= `batchWorld` except that the
  call `runBatchSequential(…)` is `callFunc (stackSeqWorld …) fs Expected.IR.runBatchSequential` on the caller's heap) `runBatch`
  is the model's `runBatch`: three levels of interpreted source, down to the scripted `Exec` / `ExecFallback`.
  (`runBatch → runBatchConcurrent` is closed in `Refine/FullConc.lean`.)

The composed worlds do NOT agree pointwise with the layered ones: the source of `runExecWithRetries` returns Go's untyped `nil`
where `seqWorld` returns `GV.ofVal Val.nil` (a node without `Exec`: `BaseNode.Exec` returns the literal `nil`), so the layered
theorems do not transfer by `funext`. Instead (1) `item_raw` (`Item.lean`): the raw return values, heap and recording of the
interpreted `runExecWithRetries` on ANY heap against `runItemRaw` (`RetOK` / `RawVal`: the value itself, not only what the caller
makes of it: `runExecWithRetries_refines_runItem` reads it through `itemResOf`); (2) the body lemmas and loop inductions of
`Seq.lean` / `ConcSerial.lean` speak of any world whose item calls are `runItemRaw` up to `RawVal` (`ItemCalls`): the composed
worlds are such worlds by `itemCall_spec`; (3) `Batch.refines_in` speaks of any world that agrees with `batchWorld` off the executor
calls (`Batch.Agrees`: for `stackBatchWorld` by `rfl`), given what those calls return: here `SB_seq`, from `stackSeq_call`.
-/
namespace Flyt.Refine.BatchStack
open Flyt Flyt.GoIR Flyt.Refine
set_option linter.unusedSimpArgs false

/-- the interpreted item call, in the caller's terms -/
theorem itemCall_spec (kind : CtxKind) (n : NodeId) (v : Nat) (cfg : BatchCfg) (i : Nat) (item : Result) (scr : ItemScript)
    (fi : Nat) (hfi : itemFuel cfg ≤ fi) (h : Heap) (evs : List Ev) (ctx : Ctx) :
    ∃ rs, itemCallIR fi Flyt.Expected.IR.runExecWithRetries kind n v cfg i scr [.ref "ctx" 0, .node n, .result item] h ⟨evs, ctx⟩
        = some (rs, h, ⟨evs ++ (runItemRaw kind n v cfg i item scr ctx).1, (runItemRaw kind n v cfg i item scr ctx).2.1⟩)
      ∧ RetOK rs (runItemRaw kind n v cfg i item scr ctx).2.2 := by
  obtain ⟨rs, c', h1, h2⟩ := item_raw kind n v cfg i item scr fi hfi h ctx
  refine ⟨rs, ?_, h2⟩
  simp only [ctxH] at h1
  simp [itemCallIR, h1]

section
variable (fi : Nat) (kind : CtxKind) (n : NodeId) (v : Nat) (cfg : BatchCfg) (scr : BatchScript) (idxOf : Result → Nat)

local notation "SW" => stackSeqWorld fi Flyt.Expected.IR.runExecWithRetries kind n v cfg scr idxOf

theorem stackSeq_caller : ItemCaller SW :=
  ⟨fun _ _ _ => rfl, fun _ _ => rfl, fun _ _ => rfl, fun _ => rfl, fun _ _ _ _ _ _ => rfl⟩

theorem stackSeq_calls (hfi : itemFuel cfg ≤ fi) (items : List Result) (hidx : ∀ i (h : i < items.length), idxOf items[i] = i) :
    ItemCalls kind n v cfg scr SW n items := by
  intro i hi res evs
  obtain ⟨rs, h1, h2⟩ := itemCall_spec kind n v cfg i items[i] (scr.item i) fi hfi [items, res] evs .live
  refine ⟨rs, ?_, h2⟩
  simpa [stackSeqWorld, hidx i hi, ctxH] using h1

theorem stackSeq_call (hfi : itemFuel cfg ≤ fi) (items : List Result) (evs : List Ev) (ctx : Ctx)
    (hidx : ∀ i (h : i < items.length), idxOf items[i] = i) (fs : Nat) (hfs : items.length + 23 ≤ fs) :
    callFunc SW fs Flyt.Expected.IR.runBatchSequential
        [ctxH, .node n, .slice 0 0 items.length, .slice 1 0 items.length, .str (ehOf cfg)]
        [items, List.replicate items.length ⟨Val.nil, none⟩] ⟨evs, ctx⟩
      = some ([], [items, (itemsSeq kind n v cfg scr items 0 ctx).2.2],
          ⟨evs ++ (itemsSeq kind n v cfg scr items 0 ctx).1, (itemsSeq kind n v cfg scr items 0 ctx).2.1⟩) :=
  seq_call kind n v cfg scr (stackSeq_caller fi kind n v cfg scr idxOf) items (stackSeq_calls fi kind n v cfg scr idxOf hfi items hidx)
    evs ctx fs hfs

end

/-- The translated `runBatchSequential`, with every per-item call `runExecWithRetries(ctx, node, item)` executed by
    the interpreter on the translated source of `runExecWithRetries` in the item's own world (user `Exec` / `ExecFallback`
    scripts, retry budget, wait, timers, cancellation) — no model function anywhere below `runBatchSequential` — yields exactly
    the model's sequential loop `itemsSeq`: for all items, configurations, scripts and contexts, every inner fuel from
    `itemFuel cfg` on and every outer fuel from `items.length + 23` on. This is the statement of
    `runBatchSequential_refines_of_le` with `seqWorld`'s modelled callee replaced by interpreted source. -/
theorem runBatchSequential_over_interpreted_items (kind : CtxKind) (n : NodeId) (v : Nat) (cfg : BatchCfg) (scr : BatchScript)
    (idxOf : Result → Nat) (items : List Result) (ctx : Ctx)
    (hidx : ∀ i (h : i < items.length), idxOf items[i] = i)
    (fi : Nat) (hfi : itemFuel cfg ≤ fi) (fuel : Nat) (hf : items.length + 23 ≤ fuel) :
    GoIR.stackSeqIR fuel fi Flyt.Expected.IR.runBatchSequential Flyt.Expected.IR.runExecWithRetries
        kind n v cfg scr idxOf items ctx
      = some (itemsSeq kind n v cfg scr items 0 ctx) := by
  have h := stackSeq_call fi kind n v cfg scr idxOf hfi items [] ctx hidx fuel hf
  simp only [ehOf] at h
  simp [stackSeqIR, h]

/-- the composed interpretation and the layered one (`itemsSeqIR` in `seqWorld`) are the same function of the inputs -/
theorem stackSeqIR_eq_itemsSeqIR (kind : CtxKind) (n : NodeId) (v : Nat) (cfg : BatchCfg) (scr : BatchScript)
    (idxOf : Result → Nat) (items : List Result) (ctx : Ctx)
    (hidx : ∀ i (h : i < items.length), idxOf items[i] = i)
    (fi : Nat) (hfi : itemFuel cfg ≤ fi) (fuel : Nat) (hf : items.length + 23 ≤ fuel) :
    GoIR.stackSeqIR fuel fi Flyt.Expected.IR.runBatchSequential Flyt.Expected.IR.runExecWithRetries
        kind n v cfg scr idxOf items ctx
      = GoIR.itemsSeqIR fuel Flyt.Expected.IR.runBatchSequential kind n v cfg scr idxOf items ctx := by
  rw [runBatchSequential_over_interpreted_items kind n v cfg scr idxOf items ctx hidx fi hfi fuel hf,
    runBatchSequential_refines_of_le kind n v cfg scr idxOf items ctx hidx fuel hf]

section
variable (fs fi : Nat) (kind : CtxKind) (n : NodeId) (v : Nat) (sid : StoreId) (cfg : BatchCfg) (scr : BatchScript)
  (idxOf : Result → Nat)

local notation "W" => batchWorld kind n v cfg scr
local notation "SBW" =>
  stackBatchWorld fs fi Flyt.Expected.IR.runBatchSequential Flyt.Expected.IR.runExecWithRetries kind n v cfg scr idxOf

/-! every entry of the composed world except the call `runBatchSequential` IS `batchWorld`'s -/
theorem SB_mcall : (SBW).mcall = (W).mcall := rfl
theorem SB_assert : (SBW).assert = (W).assert := rfl
theorem SB_global : (SBW).global = (W).global := rfl
theorem SB_toSlice (a : GV) (h : Heap) (w : SeqW) : (SBW).call "ToSlice" [a] h w = (W).call "ToSlice" [a] h w := rfl
theorem SB_pool (args : List GV) (h : Heap) (w : SeqW) :
    (SBW).call "runBatchConcurrent" args h w = (W).call "runBatchConcurrent" args h w := rfl

theorem SB_agrees : Batch.Agrees kind n v cfg scr SBW := ⟨rfl, rfl, rfl, fun _ _ _ => rfl⟩

/-- that call, at the site where `runBatch` makes it: the interpreted `runBatchSequential` over interpreted items -/
theorem SB_seq (hfi : itemFuel cfg ≤ fi) (items : List Result) (hfs : items.length + 23 ≤ fs)
    (hidx : ∀ i (h : i < items.length), idxOf items[i] = i) :
    Batch.Calls n SBW "runBatchSequential" [.str (ehOf cfg)] items (itemsSeq kind n v cfg scr items 0) := by
  intro w
  have h := stackSeq_call fi kind n v cfg scr idxOf hfi items w.evs w.ctx hidx fs hfs
  simpa [stackBatchWorld, ctxH] using h

theorem normItems_length_le (shape : PrepShape) (l : List Val) : (normItems shape l).length ≤ l.length := by
  cases shape <;> simp [normItems] <;> omega

end

/-- fuel for the interpreted sequential executor inside `runBatch`: one level per item plus a constant -/
def stackSeqFuel (scr : BatchScript) : Nat := Batch.prepLen scr + 23

/-- The translated `runBatch` in a world that is `batchWorld` except that the call
    `runBatchSequential(ctx, node, items, results, errorHandling)` is the composed interpretation above — translated
    `runBatchSequential` on the caller's heap, whose item calls are the translated `runExecWithRetries` down to the user's
    `Exec` / `ExecFallback` scripts — returns exactly the model's `runBatch`. The model takes the sequential path when
    `¬ cfg.conc > 0`; only then is `idxOf` (the item world's way to tell which item it is handed) constrained. For
    `cfg.conc > 0` the concurrent executor is still `batchWorld`'s modelled serial schedule and the statement is
    `runBatch_refines_of_le`'s. -/
theorem runBatch_over_interpreted_sequential (kind : CtxKind) (n : NodeId) (v : Nat) (sid : StoreId) (cfg : BatchCfg)
    (scr : BatchScript) (idxOf : Result → Nat) (ctx : Ctx)
    (hidx : ¬ cfg.conc > 0 → ∀ l, scr.prep.res = .ok l →
      ∀ i (h : i < (normItems cfg.shape l).length), idxOf (normItems cfg.shape l)[i] = i)
    (fi : Nat) (hfi : itemFuel cfg ≤ fi) (fs : Nat) (hfs : stackSeqFuel scr ≤ fs) (fuel : Nat) (hf : batchFuel scr ≤ fuel) :
    GoIR.stackBatchIR fuel fs fi Flyt.Expected.IR.runBatch Flyt.Expected.IR.runBatchSequential
        Flyt.Expected.IR.runExecWithRetries kind n v sid cfg scr idxOf ctx
      = some (Flyt.runBatch kind n v sid cfg scr ctx) := by
  obtain ⟨c, rfl⟩ := Nat.exists_eq_add_of_le hf
  rw [show batchFuel scr + c = Batch.prepLen scr + c + 21 from by unfold batchFuel; omega]
  refine (Batch.obs_callFunc _ _ n sid ctx).trans (Batch.refines_in sid (SB_agrees fs fi kind n v cfg scr idxOf) ?_ ?_ ctx c)
  · intro hc l hp
    have hle := normItems_length_le cfg.shape l
    have hL : Batch.prepLen scr = l.length := by simp [Batch.prepLen, hp]
    exact SB_seq fs fi kind n v cfg scr idxOf hfi _ (by unfold stackSeqFuel at hfs; omega) (hidx hc l hp)
  · intro _ l _ w
    exact (SB_pool fs fi kind n v cfg scr idxOf _ _ w).trans (Batch.W_pool kind n v cfg scr _ w)

section
variable (fi : Nat) (kind : CtxKind) (n : NodeId) (v : Nat) (cfg : BatchCfg) (scr : BatchScript) (idxOf : Result → Nat)

local notation "CW" => stackConcSerialWorld fi Flyt.Expected.IR.runExecWithRetries kind n v cfg scr idxOf

theorem scw_pool (c : Int) (h : Heap) (w : SeqW) :
    (CW).call "NewWorkerPool" [.int c] h w = some ([.ref "pool" c.toNat], h, w) := rfl

theorem stackConc_serial : SerialPool CW where
  toItemCaller := ⟨fun _ _ _ => rfl, fun _ _ => rfl, fun _ _ => rfl, fun _ => rfl, fun _ _ _ _ _ _ => rfl⟩
  invokes _ := rfl
  lock _ _ := rfl
  unlock _ _ := rfl
  newPool _ _ _ := rfl
  close _ _ _ := rfl
  wait _ _ _ := rfl

theorem stackConc_calls (hfi : itemFuel cfg ≤ fi) (items : List Result) (hidx : ∀ i (h : i < items.length), idxOf items[i] = i) :
    ItemCalls kind n v cfg scr CW n items :=
  fun i hi res evs => stackSeq_calls fi kind n v cfg scr idxOf hfi items hidx i hi res evs

end

/-- The translated `runBatchConcurrent` on the serial schedule of the pool (`concSerialWorld`'s `Submit` / `Wait` /
    `Close` / mutex), with every task's call `runExecWithRetries(ctx, node, itm)` executed by the interpreter on the translated
    source in the item's own world, yields exactly the model's `itemsSerialPool`: the statement of
    `runBatchConcurrent_serial_refines_of_le` with the modelled callee replaced by interpreted source. -/
theorem runBatchConcurrent_serial_over_interpreted_items (kind : CtxKind) (n : NodeId) (v : Nat) (cfg : BatchCfg)
    (scr : BatchScript) (idxOf : Result → Nat) (items : List Result) (ctx : Ctx)
    (hidx : ∀ i (h : i < items.length), idxOf items[i] = i)
    (fi : Nat) (hfi : itemFuel cfg ≤ fi) (fuel : Nat) (hf : items.length + 37 ≤ fuel) :
    GoIR.stackConcSerialIR fuel fi Flyt.Expected.IR.runBatchConcurrent Flyt.Expected.IR.runExecWithRetries
        kind n v cfg scr idxOf items ctx
      = some (itemsSerialPool kind n v cfg scr items 0 false ctx) := by
  have h := conc_call kind n v cfg scr (stackConc_serial fi kind n v cfg scr idxOf) items
    (stackConc_calls fi kind n v cfg scr idxOf hfi items hidx) [] ctx fuel hf
  simp only [ehOf] at h
  simp [stackConcSerialIR, h]

/-! a concrete instance: the hypotheses are satisfiable (`GoIR/BatchStackTest.lean` evaluates both sides on generated batches) -/

def exCfg : BatchCfg :=
  { budget := 2, wait := 5, fb := .custom, conc := 0, stop := true, execS := .res, hasPost := true, shape := .results }
/-- item 0: first attempt fails, the retry (after a wait) succeeds; item 1: both attempts fail, the fallback fails too and
    cancels the context; item 2 is never run (`stop`) -/
def exScr : BatchScript :=
  { prep := { res := .ok [] },
    item := fun i => { exec := fun k => if i == 0 ∧ k == 1 then { res := .ok (.tok 7) } else { res := .error (10 * i + k) },
                       waitCancel := fun _ => false, fb := { res := .error 99, cancels := true } },
    post := { res := .ok "a" } }
def exIdx (r : Result) : Nat := match r.value with | .tok n => n - 100 | _ => 0
def exItems : List Result := [newResult (.tok 100), newResult (.tok 101), newResult (.tok 102)]

example :
    GoIR.stackSeqIR 26 32 Flyt.Expected.IR.runBatchSequential Flyt.Expected.IR.runExecWithRetries
        .canceled 3 1 exCfg exScr exIdx exItems .live
      = some (itemsSeq .canceled 3 1 exCfg exScr exItems 0 .live) :=
  runBatchSequential_over_interpreted_items .canceled 3 1 exCfg exScr exIdx exItems .live
    (by intro i h
        rcases i with _ | _ | _ | i
        · rfl
        · rfl
        · rfl
        · exact absurd h (by simp [exItems]))
    32 (by decide) 26 (by decide)

/-- the common value: retry with a wait, fallback, an error slot, a cancellation, the `stop` marking -/
example :
    itemsSeq .canceled 3 1 exCfg exScr exItems 0 .live =
      ([.bexec 3 1 0 0 (.res (.tok 100) none), .bwait 3 1 0 1 5 true, .bexec 3 1 0 1 (.res (.tok 100) none),
        .bexec 3 1 1 0 (.res (.tok 101) none), .bwait 3 1 1 1 5 true, .bexec 3 1 1 1 (.res (.tok 101) none),
        .bfb 3 1 1 (.res (.tok 101) none) (.user 11)],
       .done .canceled,
       [⟨.tok 7, none⟩, ⟨.tok 0, some (.user 99)⟩, ⟨.tok 0, some (.fw .batchStopped)⟩]) := by
  decide

#print axioms runBatchSequential_over_interpreted_items
#print axioms stackSeqIR_eq_itemsSeqIR
#print axioms runBatch_over_interpreted_sequential
#print axioms runBatchConcurrent_serial_over_interpreted_items

end Flyt.Refine.BatchStack
