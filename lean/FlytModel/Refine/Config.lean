import FlytModel.GoIR.ConfigWorld
import FlytModel.Expected.IR
import FlytModel.Refine.RunNode
/-!
# Refinement: the configuration getters, option closures and builder chain methods (flyt.go, builder.go, batch.go) compute the
configuration model of `Model/Config.lean` (property C19)

One theorem per `#eval` line of `GoIR/ConfigTest.lean` (36), in `configWorld tag` (`GoIR/ConfigWorld.lean`), for EVERY node
`n : Config.Node`, integer, boolean, world tag and user function handle `userfn k` (Any-style setters: every argument `v : GV`; it is
captured by the wrapper closure and never looked at), without side condition: getters vs. `getMaxRetries`, …; `NodeOption` /
`CustomNodeOption` closures (`optClo`) vs. `applyNodeOption` / `applyCustomOption`; `NodeBuilder` / `BatchNodeBuilder` chain methods
vs. `nodeBuilderCall` / `batchBuilderCall`.

Which tag the model's `Step.tag` refers to: a Result-style setter stores the user function itself, `fnOf` reads `⟨k, false⟩` off
`userfn k` — the step's tag is `k`, the world's `tag` is irrelevant; an Any-style setter stores a fresh wrapper closure (the
interpreter's opaque `.ref "closure" 0`), which the world records as `⟨tag, true⟩` — the step's tag is the world's `tag`, the
argument is irrelevant. Scalar settings ignore both.

Fuel: the bound of each `…_of_le` (3 … 8) is the LEAST depth at which the run is not stuck (`depths_tight`); `…_refines` is the
instance at the test's `F = 30`.
-/
namespace Flyt.Refine.Config
open Flyt Flyt.GoIR Flyt.Config Flyt.GoIR.ConfigW Flyt.Expected.IR Flyt.Refine

/-- the recursion depth of the executable test -/
def F : Nat := 30

/-- a builder-form step (the test's `step`) -/
def bldStep (s : Setting) (t : Nat) : Step := { setting := s, form := .bld, tag := t }
/-- an option-form step -/
def optStep (s : Setting) (t : Nat) : Step := { setting := s, form := .opt, tag := t }

/-- the test's `default : Func` -/
def noFunc : Func := { name := "", recv := "", params := [], body := .nil }

/-- The closure an option constructor returns, as a function of its own: the first function literal of the constructor's body, with
    the variable it captures (`cap`, the constructor's parameter) as an additional leading parameter. Same as the test's
    `withCaptured ((closuresOf f)[0]!) [cap]` (`optClo_eq_getElem!`); the default is never used (`optClo_defined`). -/
def optClo (f : Func) (cap : String) : Func := withCaptured ((closuresOf f)[0]?.getD noFunc) [cap]

theorem optClo_eq_getElem! (f : Func) (cap : String) :
    optClo f cap = (letI : Inhabited Func := ⟨noFunc⟩; withCaptured ((closuresOf f)[0]!) [cap]) := by
  simp [optClo]

theorem optClo_defined :
    ([WithMaxRetries, WithWait, WithBatchConcurrency, WithBatchErrorHandling, WithPrepFunc, WithExecFunc, WithPostFunc,
      WithExecFallbackFunc, WithPrepFuncAny, WithExecFuncAny, WithPostFuncAny].all fun f => (closuresOf f)[0]?.isSome) = true := by rfl

section steps
variable {Ω : Type} (W : World Ω)
theorem stmt_expr_mcall_nil (f : Nat) (r : Expr) (m : String) (st : St Ω) :
    execStmt W (f + 1) (.expr (.mcall r m .nil)) st = (evalExpr W f (.mcall r m .nil) st).map fun (_, st1) => (.next, st1) := rfl
theorem stmt_expr_mcall_sel (f : Nat) (r : Expr) (m : String) (a : Expr) (fl : String) (st : St Ω) :
    execStmt W (f + 1) (.expr (.mcall r m (.cons (.sel a fl) .nil))) st =
      (evalExpr W f (.mcall r m (.cons (.sel a fl) .nil)) st).map fun (_, st1) => (.next, st1) := rfl
theorem stmt_defer (f : Nat) (r : Expr) (m : String) (st : St Ω) :
    execStmt W (f + 1) (.deferS (.mcall r m .nil)) st =
      (match evalExpr W f r st with
       | some ([x], st1) =>
         (match W.mcall x ("defer:" ++ m) [] st1.heap st1.w with
          | some (_, h, w) => some (.next, { st1 with heap := h, w := w })
          | none => none)
       | _ => none) := rfl
theorem expr_funcLit (f : Nat) (ps : List String) (b : Block) (st : St Ω) :
    evalExpr W (f + 1) (.funcLit ps b) st = some ([.ref "closure" 0], st) := rfl
end steps

/- `by rfl`, not the term `rfl`: a lemma whose proof is the term `rfl` is applied by `simp` as a definitional step that leaves no
   proof term, and the kernel then evaluates the world's match on the field / call name (string comparisons) again at every use. -/

section world
variable (tag : Nat)
local notation "W" => configWorld tag

theorem W_BaseNode (i : Nat) (w : CW) : (W).field (.ref "node" i) "BaseNode" w = some (.ref "node" i) := by rfl
theorem W_CustomNode (i : Nat) (w : CW) : (W).field (.ref "node" i) "CustomNode" w = some (.ref "node" i) := by rfl
theorem W_mu (i : Nat) (w : CW) : (W).field (.ref "node" i) "mu" w = some (.ref "mutex" 0) := by rfl
theorem W_maxRetries (i : Nat) (w : CW) : (W).field (.ref "node" i) "maxRetries" w = some (.int w.node.base.maxRetries) := by rfl
theorem W_wait (i : Nat) (w : CW) : (W).field (.ref "node" i) "wait" w = some (.int w.node.base.wait) := by rfl
theorem W_batchConcurrency (i : Nat) (w : CW) :
    (W).field (.ref "node" i) "batchConcurrency" w = some (.int w.node.base.batchConcurrency) := by rfl
theorem W_batchErrorHandling (i : Nat) (w : CW) :
    (W).field (.ref "node" i) "batchErrorHandling" w = some (.str (ehStr w.node.base.batchErrorHandling)) := by rfl

theorem W_RLock (i : Nat) (h : Heap) (w : CW) : (W).mcall (.ref "mutex" i) "RLock" [] h w = some ([], h, w) := by rfl
theorem W_RUnlock (i : Nat) (h : Heap) (w : CW) : (W).mcall (.ref "mutex" i) "defer:RUnlock" [] h w = some ([], h, w) := by rfl
theorem W_GetMaxRetries (i : Nat) (h : Heap) (w : CW) :
    (W).mcall (.ref "node" i) "GetMaxRetries" [] h w = some ([.int (getMaxRetries w.node)], h, w) := by rfl
theorem W_GetWait (i : Nat) (h : Heap) (w : CW) :
    (W).mcall (.ref "node" i) "GetWait" [] h w = some ([.int (getWait w.node)], h, w) := by rfl

theorem W_WithMaxRetries (r : Int) (h : Heap) (w : CW) :
    (W).call "WithMaxRetries" [.int r] h w = some ([.ref "opt" 0], h, { w with pending := some (.maxRetries r) }) := by rfl
theorem W_WithWait (r : Int) (h : Heap) (w : CW) :
    (W).call "WithWait" [.int r] h w = some ([.ref "opt" 0], h, { w with pending := some (.wait r) }) := by rfl
theorem W_apply (i j : Nat) (h : Heap) (nd : Node) (s : Setting) :
    (W).mcall (.ref "opt" i) "()" [.ref "node" j] h { node := nd, pending := some s } =
      some ([], h, { node := { nd with base := applyNodeOption s nd.base }, pending := none }) := by rfl

theorem W_set_maxRetries (i : Nat) (r : Int) (w : CW) :
    (W).setField (.ref "node" i) "maxRetries" (.int r) w =
      some { w with node := { w.node with base := { w.node.base with maxRetries := r } } } := by rfl
theorem W_set_wait (i : Nat) (r : Int) (w : CW) :
    (W).setField (.ref "node" i) "wait" (.int r) w =
      some { w with node := { w.node with base := { w.node.base with wait := r } } } := by rfl
theorem W_set_batchConcurrency (i : Nat) (r : Int) (w : CW) :
    (W).setField (.ref "node" i) "batchConcurrency" (.int r) w =
      some { w with node := { w.node with base := { w.node.base with batchConcurrency := r } } } := by rfl
theorem W_set_eh_cont (i : Nat) (w : CW) :
    (W).setField (.ref "node" i) "batchErrorHandling" (.str "continue") w =
      some { w with node := { w.node with base := { w.node.base with batchErrorHandling := .cont } } } := by rfl
theorem W_set_eh_stop (i : Nat) (w : CW) :
    (W).setField (.ref "node" i) "batchErrorHandling" (.str "stop") w =
      some { w with node := { w.node with base := { w.node.base with batchErrorHandling := .stop } } } := by rfl

/-- what a function field receives: the user function itself, or a wrapper closure (recorded under the world's tag) -/
theorem fnOf_userfn (k : Nat) : fnOf tag (userfn k) = some ⟨k, false⟩ := by rfl
theorem fnOf_closure (j : Nat) : fnOf tag (.ref "closure" j) = some ⟨tag, true⟩ := by rfl

theorem W_set_prepFunc (i : Nat) (v : GV) (w : CW) :
    (W).setField (.ref "node" i) "prepFunc" v w = (fnOf tag v).map fun g => { w with node := { w.node with prepFunc := some g } } := by rfl
theorem W_set_execFunc (i : Nat) (v : GV) (w : CW) :
    (W).setField (.ref "node" i) "execFunc" v w = (fnOf tag v).map fun g => { w with node := { w.node with execFunc := some g } } := by rfl
theorem W_set_postFunc (i : Nat) (v : GV) (w : CW) :
    (W).setField (.ref "node" i) "postFunc" v w = (fnOf tag v).map fun g => { w with node := { w.node with postFunc := some g } } := by rfl
theorem W_set_execFallbackFunc (i : Nat) (v : GV) (w : CW) :
    (W).setField (.ref "node" i) "execFallbackFunc" v w =
      (fnOf tag v).map fun g => { w with node := { w.node with execFallbackFunc := some g } } := by rfl
theorem W_set_batchPrepFunc (i : Nat) (v : GV) (w : CW) :
    (W).setField (.ref "node" i) "batchPrepFunc" v w =
      (fnOf tag v).map fun g => { w with node := { w.node with batchPrepFunc := some g } } := by rfl
theorem W_set_batchPostFunc (i : Nat) (v : GV) (w : CW) :
    (W).setField (.ref "node" i) "batchPostFunc" v w =
      (fnOf tag v).map fun g => { w with node := { w.node with batchPostFunc := some g } } := by rfl
end world

/-! Every setter is one statement that acts on the world only — a field write, a field write under an `if`, or the application of an
option value — run under one of two calling conventions: a chain method `func (b *T) M(p) *T { s; return b }`, or an option closure
`func(q *T) { s }` with the variable it captures as leading parameter. -/

section shapes
variable {Ω : Type} {W : World Ω} {f : Nat}

theorem get_top (p : String) (a : GV) (env : GoIR.Env) : Env.get ((p, a) :: env) p = some a := by
  simp [Env.get]
theorem get_snd {p q : String} (a b : GV) (env : GoIR.Env) (h : p ≠ q := by simp) :
    Env.get ((p, a) :: (q, b) :: env) q = some b := by
  simp [Env.get, h]

theorem eval_var {p : String} {st : St Ω} {a : GV} (h : st.env.get p = some a) :
    evalExpr W (f + 1) (.var p) st = some ([a], st) := by
  simp [expr_var, h]

/-- `q.fld = e`, `e` without effect -/
theorem stmt_assign_field {q fld : String} {e : Expr} {st : St Ω} {x v : GV} {w' : Ω}
    (hq : st.env.get q = some x) (he : evalExpr W (f + 1) e st = some ([v], st))
    (hs : W.setField x fld v st.w = some w') :
    execStmt W (f + 2) (.assign E[.sel (.var q) fld] E[e]) st = some (.next, { st with w := w' }) := by
  gosimp [he, hq, hs]

/-- `if c { q.fld = s₁ } else { q.fld = s₂ }` with string constants -/
theorem stmt_if_assign_field {c q fld s₁ s₂ : String} {st : St Ω} {x : GV} {b : Bool} {w' : Ω}
    (hc : st.env.get c = some (.bool b)) (hq : st.env.get q = some x)
    (hs : W.setField x fld (.str (if b then s₁ else s₂)) st.w = some w') :
    execStmt W (f + 4)
        (.ifS B[] (.var c) B[.assign E[.sel (.var q) fld] E[.str s₁]] B[.assign E[.sel (.var q) fld] E[.str s₂]]) st =
      some (.next, { st with w := w' }) := by
  have h₁ := stmt_assign_field (W := W) (f := f) (fld := fld) (e := .str s₁) hq rfl (w' := w')
  have h₂ := stmt_assign_field (W := W) (f := f) (fld := fld) (e := .str s₂) hq rfl (w' := w')
  cases b
  · gosimp [hc, h₂ hs]
  · gosimp [hc, h₁ hs]

/-- `opt(p)(q.fld)`: the option value that the constructor `opt` returns is applied to the embedded struct `q.fld` -/
theorem stmt_apply_option {opt p q fld : String} {st : St Ω} {x y o : GV} {w₁ w₂ : Ω}
    (hopt : evalExpr W (f + 3) (.call opt E[.var p]) st = some ([o], { st with w := w₁ }))
    (hq : st.env.get q = some x) (hfld : W.field x fld w₁ = some y)
    (happ : W.mcall o "()" [y] st.heap w₁ = some ([], st.heap, w₂)) :
    execStmt W (f + 5) (.expr (.mcall (.call opt E[.var p]) "()" E[.sel (.var q) fld])) st =
      some (.next, { st with w := w₂ }) := by
  simp [stmt_expr_mcall_sel, expr_mcall, hopt, args_one, expr_sel, expr_var, hq, hfld, happ]

theorem call_chain_method {nm p : String} {s : Stmt} {x a : GV} {h : Heap} {w w' : Ω}
    (hs : execStmt W (f + 4) s ⟨[(p, a), ("b", x)], h, w⟩ = some (.next, ⟨[(p, a), ("b", x)], h, w'⟩))
    (hp : p ≠ "_" := by simp) (hpb : p ≠ "b" := by simp) :
    callFunc W (f + 5) ⟨nm, "b", [p], B[s, .ret E[.var "b"]]⟩ [x, a] h w = some ([x], h, w') := by
  simp [callFunc, Env.pushAll, Env.push, Env.get, hp, hpb, block_cons, hs, stmt_ret_cons, args_one, expr_var]

theorem call_option_closure {nm cap q : String} {s : Stmt} {x a : GV} {h : Heap} {w w' : Ω}
    (hs : execStmt W (f + 2) s ⟨[(q, x), (cap, a)], h, w⟩ = some (.next, ⟨[(q, x), (cap, a)], h, w'⟩))
    (hc : cap ≠ "_" := by simp) (hq : q ≠ "_" := by simp) :
    callFunc W (f + 3) ⟨nm, "", [cap, q], B[s]⟩ [a, x] h w = some ([], h, w') := by
  simp [callFunc, Env.pushAll, Env.push, hc, hq, block_cons, block_nil, hs]

theorem ret_field {q fld : String} {st : St Ω} {x v : GV} (hq : st.env.get q = some x) (hf : W.field x fld st.w = some v) :
    execBlock W (f + 5) B[.ret E[.sel (.var q) fld]] st = some (.ret [v], st) := by
  simp [block_cons, stmt_ret_cons, args_one, expr_sel, expr_var, hq, hf]

theorem ret_field_or {q fld d s : String} {x : GV} {h : Heap} {w : Ω} (hf : W.field x fld w = some (.str s)) :
    execBlock W (f + 6) B[.ifS B[] (.bin "==" (.sel (.var q) fld) (.str "")) B[.ret E[.str d]] B[], .ret E[.sel (.var q) fld]]
        ⟨[(q, x)], h, w⟩ = some (.ret [.str (if s = "" then d else s)], ⟨[(q, x)], h, w⟩) := by
  cases hb : s == ""
  · gosimp [expr_sel, hf, hb, ne_of_beq_false hb]
  · gosimp [expr_sel, hf, eq_of_beq hb]

theorem call_delegate {nm fld m k : String} {i : Nat} {x : GV} {vs : List GV} {h h' : Heap} {w w' : Ω}
    (hf : W.field x fld w = some (.ref k i)) (hm : W.mcall (.ref k i) m [] h w = some (vs, h', w')) :
    callFunc W (f + 6) ⟨nm, "b", [], B[.ret E[.mcall (.sel (.var "b") fld) m E[]]]⟩ [x] h w = some (vs, h', w') := by
  simp [callFunc, Env.pushAll, Env.push, Env.get, block_cons, stmt_ret_cons, args_one, args_nil, expr_mcall, expr_sel, expr_var,
    hf, hm]

end shapes

theorem run_eq {fuel : Nat} {fn : Func} {tag : Nat} {args vs : List GV} {n n' : Node}
    (h : callFunc (configWorld tag) fuel fn args [] ⟨n, none⟩ = some (vs, [], ⟨n', none⟩)) :
    run fuel fn tag args n = some (vs, n') := by
  unfold run; rw [h]; rfl

theorem set_fn {tag : Nat} {x v : GV} {fld : String} {w : CW} {g : Fn} {F : Fn → CW}
    (hs : (configWorld tag).setField x fld v w = (fnOf tag v).map F) (hg : fnOf tag v = some g) :
    (configWorld tag).setField x fld v w = some (F g) := by
  rw [hs, hg]; rfl

theorem run_rlocked {f i tag : Nat} {nm : String} {tail : Block} {vs : List GV} {n : Node}
    (ht : execBlock (configWorld tag) (f + 3) tail ⟨[("n", .ref "node" i)], [], ⟨n, none⟩⟩ =
      some (.ret vs, ⟨[("n", .ref "node" i)], [], ⟨n, none⟩⟩)) :
    run (f + 5) ⟨nm, "n", [], .cons (.expr (.mcall (.sel (.var "n") "mu") "RLock" E[]))
        (.cons (.deferS (.mcall (.sel (.var "n") "mu") "RUnlock" E[])) tail)⟩ tag [.ref "node" i] n = some (vs, n) := by
  simp [ConfigW.run, callFunc, Env.pushAll, Env.push, Env.get, block_cons, stmt_expr_mcall_nil, stmt_defer, expr_mcall, args_nil,
    expr_sel, expr_var, W_mu, W_RLock, W_RUnlock, ht]

/-- `WithMaxRetries(retries)` / `WithWait(wait)` inside the chain method of the same name -/
theorem eval_WithMaxRetries (f : Nat) (r : Int) (n : Node) (tag : Nat) :
    evalExpr (configWorld tag) (f + 3) (.call "WithMaxRetries" E[.var "retries"]) ⟨[("retries", .int r), ("b", nodeH)], [], ⟨n, none⟩⟩ =
      some ([.ref "opt" 0], ⟨[("retries", .int r), ("b", nodeH)], [], ⟨n, some (.maxRetries r)⟩⟩) := by
  gosimp [W_WithMaxRetries]
theorem eval_WithWait (f : Nat) (r : Int) (n : Node) (tag : Nat) :
    evalExpr (configWorld tag) (f + 3) (.call "WithWait" E[.var "wait"]) ⟨[("wait", .int r), ("b", nodeH)], [], ⟨n, none⟩⟩ =
      some ([.ref "opt" 0], ⟨[("wait", .int r), ("b", nodeH)], [], ⟨n, some (.wait r)⟩⟩) := by
  gosimp [W_WithWait]

theorem BaseNode_GetMaxRetries_refines_of_le (n : Node) (tag : Nat) (fuel : Nat) (h : 7 ≤ fuel) :
    run fuel BaseNode_GetMaxRetries tag [nodeH] n = some ([.int (getMaxRetries n)], n) := by
  obtain ⟨f, rfl⟩ := Nat.exists_eq_add_of_le' h
  exact run_rlocked (ret_field (get_top ..) (W_maxRetries tag 0 _))
theorem BaseNode_GetMaxRetries_refines (n : Node) (tag : Nat) :
    run F BaseNode_GetMaxRetries tag [nodeH] n = some ([.int (getMaxRetries n)], n) :=
  BaseNode_GetMaxRetries_refines_of_le n tag F (by decide)

theorem BaseNode_GetWait_refines_of_le (n : Node) (tag : Nat) (fuel : Nat) (h : 7 ≤ fuel) :
    run fuel BaseNode_GetWait tag [nodeH] n = some ([.int (getWait n)], n) := by
  obtain ⟨f, rfl⟩ := Nat.exists_eq_add_of_le' h
  exact run_rlocked (ret_field (get_top ..) (W_wait tag 0 _))
theorem BaseNode_GetWait_refines (n : Node) (tag : Nat) :
    run F BaseNode_GetWait tag [nodeH] n = some ([.int (getWait n)], n) :=
  BaseNode_GetWait_refines_of_le n tag F (by decide)

theorem BaseNode_GetBatchConcurrency_refines_of_le (n : Node) (tag : Nat) (fuel : Nat) (h : 7 ≤ fuel) :
    run fuel BaseNode_GetBatchConcurrency tag [nodeH] n = some ([.int (getBatchConcurrency n)], n) := by
  obtain ⟨f, rfl⟩ := Nat.exists_eq_add_of_le' h
  exact run_rlocked (ret_field (get_top ..) (W_batchConcurrency tag 0 _))
theorem BaseNode_GetBatchConcurrency_refines (n : Node) (tag : Nat) :
    run F BaseNode_GetBatchConcurrency tag [nodeH] n = some ([.int (getBatchConcurrency n)], n) :=
  BaseNode_GetBatchConcurrency_refines_of_le n tag F (by decide)

theorem BaseNode_GetBatchErrorHandling_refines_of_le (n : Node) (tag : Nat) (fuel : Nat) (h : 8 ≤ fuel) :
    run fuel BaseNode_GetBatchErrorHandling tag [nodeH] n = some ([.str (getBatchErrorHandling n)], n) := by
  obtain ⟨f, rfl⟩ := Nat.exists_eq_add_of_le' h
  have hm : getBatchErrorHandling n =
      if ehStr n.base.batchErrorHandling = "" then "continue" else ehStr n.base.batchErrorHandling := by
    unfold getBatchErrorHandling; cases n.base.batchErrorHandling <;> rfl
  rw [hm]
  exact run_rlocked (ret_field_or (W_batchErrorHandling tag 0 _))
theorem BaseNode_GetBatchErrorHandling_refines (n : Node) (tag : Nat) :
    run F BaseNode_GetBatchErrorHandling tag [nodeH] n = some ([.str (getBatchErrorHandling n)], n) :=
  BaseNode_GetBatchErrorHandling_refines_of_le n tag F (by decide)

theorem NodeBuilder_GetMaxRetries_refines_of_le (n : Node) (tag : Nat) (fuel : Nat) (h : 6 ≤ fuel) :
    run fuel NodeBuilder_GetMaxRetries tag [nodeH] n = some ([.int (getMaxRetries n)], n) := by
  obtain ⟨f, rfl⟩ := Nat.exists_eq_add_of_le' h
  exact run_eq (call_delegate (W_CustomNode tag 0 _) (W_GetMaxRetries tag 0 [] _))
theorem NodeBuilder_GetMaxRetries_refines (n : Node) (tag : Nat) :
    run F NodeBuilder_GetMaxRetries tag [nodeH] n = some ([.int (getMaxRetries n)], n) :=
  NodeBuilder_GetMaxRetries_refines_of_le n tag F (by decide)

theorem NodeBuilder_GetWait_refines_of_le (n : Node) (tag : Nat) (fuel : Nat) (h : 6 ≤ fuel) :
    run fuel NodeBuilder_GetWait tag [nodeH] n = some ([.int (getWait n)], n) := by
  obtain ⟨f, rfl⟩ := Nat.exists_eq_add_of_le' h
  exact run_eq (call_delegate (W_CustomNode tag 0 _) (W_GetWait tag 0 [] _))
theorem NodeBuilder_GetWait_refines (n : Node) (tag : Nat) :
    run F NodeBuilder_GetWait tag [nodeH] n = some ([.int (getWait n)], n) :=
  NodeBuilder_GetWait_refines_of_le n tag F (by decide)

theorem WithMaxRetries_closure_refines_of_le (n : Node) (r : Int) (tag : Nat) (fuel : Nat) (h : 3 ≤ fuel) :
    run fuel (optClo WithMaxRetries "retries") tag [.int r, nodeH] n =
      some ([], { n with base := applyNodeOption (.maxRetries r) n.base }) := by
  obtain ⟨f, rfl⟩ := Nat.exists_eq_add_of_le' h
  exact run_eq (call_option_closure
    (stmt_assign_field (get_top ..) (eval_var (get_snd ..)) (W_set_maxRetries tag 0 r _)))
theorem WithMaxRetries_closure_refines (n : Node) (r : Int) (tag : Nat) :
    run F (optClo WithMaxRetries "retries") tag [.int r, nodeH] n =
      some ([], { n with base := applyNodeOption (.maxRetries r) n.base }) :=
  WithMaxRetries_closure_refines_of_le n r tag F (by decide)

theorem WithWait_closure_refines_of_le (n : Node) (r : Int) (tag : Nat) (fuel : Nat) (h : 3 ≤ fuel) :
    run fuel (optClo WithWait "wait") tag [.int r, nodeH] n = some ([], { n with base := applyNodeOption (.wait r) n.base }) := by
  obtain ⟨f, rfl⟩ := Nat.exists_eq_add_of_le' h
  exact run_eq (call_option_closure
    (stmt_assign_field (get_top ..) (eval_var (get_snd ..)) (W_set_wait tag 0 r _)))
theorem WithWait_closure_refines (n : Node) (r : Int) (tag : Nat) :
    run F (optClo WithWait "wait") tag [.int r, nodeH] n = some ([], { n with base := applyNodeOption (.wait r) n.base }) :=
  WithWait_closure_refines_of_le n r tag F (by decide)

theorem WithBatchConcurrency_closure_refines_of_le (n : Node) (r : Int) (tag : Nat) (fuel : Nat) (h : 3 ≤ fuel) :
    run fuel (optClo WithBatchConcurrency "n") tag [.int r, nodeH] n =
      some ([], { n with base := applyNodeOption (.batchConcurrency r) n.base }) := by
  obtain ⟨f, rfl⟩ := Nat.exists_eq_add_of_le' h
  exact run_eq (call_option_closure
    (stmt_assign_field (get_top ..) (eval_var (get_snd ..)) (W_set_batchConcurrency tag 0 r _)))
theorem WithBatchConcurrency_closure_refines (n : Node) (r : Int) (tag : Nat) :
    run F (optClo WithBatchConcurrency "n") tag [.int r, nodeH] n =
      some ([], { n with base := applyNodeOption (.batchConcurrency r) n.base }) :=
  WithBatchConcurrency_closure_refines_of_le n r tag F (by decide)

theorem WithBatchErrorHandling_closure_refines_of_le (n : Node) (b : Bool) (tag : Nat) (fuel : Nat) (h : 5 ≤ fuel) :
    run fuel (optClo WithBatchErrorHandling "continueOnError") tag [.bool b, nodeH] n =
      some ([], { n with base := applyNodeOption (.batchErrorHandling b) n.base }) := by
  obtain ⟨f, rfl⟩ := Nat.exists_eq_add_of_le' h
  exact run_eq (call_option_closure
    (stmt_if_assign_field (get_snd ..) (get_top ..)
        (by cases b; exact W_set_eh_stop tag 0 _; exact W_set_eh_cont tag 0 _)))
theorem WithBatchErrorHandling_closure_refines (n : Node) (b : Bool) (tag : Nat) :
    run F (optClo WithBatchErrorHandling "continueOnError") tag [.bool b, nodeH] n =
      some ([], { n with base := applyNodeOption (.batchErrorHandling b) n.base }) :=
  WithBatchErrorHandling_closure_refines_of_le n b tag F (by decide)

theorem WithPrepFunc_closure_refines_of_le (n : Node) (k tag : Nat) (fuel : Nat) (h : 3 ≤ fuel) :
    run fuel (optClo WithPrepFunc "fn") tag [userfn k, nodeH] n = some ([], applyCustomOption (optStep (.prepFn false) k) n) := by
  obtain ⟨f, rfl⟩ := Nat.exists_eq_add_of_le' h
  exact run_eq (call_option_closure
    (stmt_assign_field (get_top ..) (eval_var (get_snd ..))
      (set_fn (W_set_prepFunc tag 0 _ _) (fnOf_userfn tag k))))
theorem WithPrepFunc_closure_refines (n : Node) (k tag : Nat) :
    run F (optClo WithPrepFunc "fn") tag [userfn k, nodeH] n = some ([], applyCustomOption (optStep (.prepFn false) k) n) :=
  WithPrepFunc_closure_refines_of_le n k tag F (by decide)

theorem WithExecFunc_closure_refines_of_le (n : Node) (k tag : Nat) (fuel : Nat) (h : 3 ≤ fuel) :
    run fuel (optClo WithExecFunc "fn") tag [userfn k, nodeH] n = some ([], applyCustomOption (optStep (.execFn false) k) n) := by
  obtain ⟨f, rfl⟩ := Nat.exists_eq_add_of_le' h
  exact run_eq (call_option_closure
    (stmt_assign_field (get_top ..) (eval_var (get_snd ..))
      (set_fn (W_set_execFunc tag 0 _ _) (fnOf_userfn tag k))))
theorem WithExecFunc_closure_refines (n : Node) (k tag : Nat) :
    run F (optClo WithExecFunc "fn") tag [userfn k, nodeH] n = some ([], applyCustomOption (optStep (.execFn false) k) n) :=
  WithExecFunc_closure_refines_of_le n k tag F (by decide)

theorem WithPostFunc_closure_refines_of_le (n : Node) (k tag : Nat) (fuel : Nat) (h : 3 ≤ fuel) :
    run fuel (optClo WithPostFunc "fn") tag [userfn k, nodeH] n = some ([], applyCustomOption (optStep (.postFn false) k) n) := by
  obtain ⟨f, rfl⟩ := Nat.exists_eq_add_of_le' h
  exact run_eq (call_option_closure
    (stmt_assign_field (get_top ..) (eval_var (get_snd ..))
      (set_fn (W_set_postFunc tag 0 _ _) (fnOf_userfn tag k))))
theorem WithPostFunc_closure_refines (n : Node) (k tag : Nat) :
    run F (optClo WithPostFunc "fn") tag [userfn k, nodeH] n = some ([], applyCustomOption (optStep (.postFn false) k) n) :=
  WithPostFunc_closure_refines_of_le n k tag F (by decide)

theorem WithExecFallbackFunc_closure_refines_of_le (n : Node) (k tag : Nat) (fuel : Nat) (h : 3 ≤ fuel) :
    run fuel (optClo WithExecFallbackFunc "fn") tag [userfn k, nodeH] n = some ([], applyCustomOption (optStep .fbFn k) n) := by
  obtain ⟨f, rfl⟩ := Nat.exists_eq_add_of_le' h
  exact run_eq (call_option_closure
    (stmt_assign_field (get_top ..) (eval_var (get_snd ..))
      (set_fn (W_set_execFallbackFunc tag 0 _ _) (fnOf_userfn tag k))))
theorem WithExecFallbackFunc_closure_refines (n : Node) (k tag : Nat) :
    run F (optClo WithExecFallbackFunc "fn") tag [userfn k, nodeH] n = some ([], applyCustomOption (optStep .fbFn k) n) :=
  WithExecFallbackFunc_closure_refines_of_le n k tag F (by decide)

theorem WithPrepFuncAny_closure_refines_of_le (n : Node) (v : GV) (tag : Nat) (fuel : Nat) (h : 3 ≤ fuel) :
    run fuel (optClo WithPrepFuncAny "fn") tag [v, nodeH] n = some ([], applyCustomOption (optStep (.prepFn true) tag) n) := by
  obtain ⟨f, rfl⟩ := Nat.exists_eq_add_of_le' h
  exact run_eq (call_option_closure
    (stmt_assign_field (get_top ..) (expr_funcLit ..) (set_fn (W_set_prepFunc tag 0 _ _) (fnOf_closure tag 0))))
theorem WithPrepFuncAny_closure_refines (n : Node) (v : GV) (tag : Nat) :
    run F (optClo WithPrepFuncAny "fn") tag [v, nodeH] n = some ([], applyCustomOption (optStep (.prepFn true) tag) n) :=
  WithPrepFuncAny_closure_refines_of_le n v tag F (by decide)

theorem WithExecFuncAny_closure_refines_of_le (n : Node) (v : GV) (tag : Nat) (fuel : Nat) (h : 3 ≤ fuel) :
    run fuel (optClo WithExecFuncAny "fn") tag [v, nodeH] n = some ([], applyCustomOption (optStep (.execFn true) tag) n) := by
  obtain ⟨f, rfl⟩ := Nat.exists_eq_add_of_le' h
  exact run_eq (call_option_closure
    (stmt_assign_field (get_top ..) (expr_funcLit ..) (set_fn (W_set_execFunc tag 0 _ _) (fnOf_closure tag 0))))
theorem WithExecFuncAny_closure_refines (n : Node) (v : GV) (tag : Nat) :
    run F (optClo WithExecFuncAny "fn") tag [v, nodeH] n = some ([], applyCustomOption (optStep (.execFn true) tag) n) :=
  WithExecFuncAny_closure_refines_of_le n v tag F (by decide)

theorem WithPostFuncAny_closure_refines_of_le (n : Node) (v : GV) (tag : Nat) (fuel : Nat) (h : 3 ≤ fuel) :
    run fuel (optClo WithPostFuncAny "fn") tag [v, nodeH] n = some ([], applyCustomOption (optStep (.postFn true) tag) n) := by
  obtain ⟨f, rfl⟩ := Nat.exists_eq_add_of_le' h
  exact run_eq (call_option_closure
    (stmt_assign_field (get_top ..) (expr_funcLit ..) (set_fn (W_set_postFunc tag 0 _ _) (fnOf_closure tag 0))))
theorem WithPostFuncAny_closure_refines (n : Node) (v : GV) (tag : Nat) :
    run F (optClo WithPostFuncAny "fn") tag [v, nodeH] n = some ([], applyCustomOption (optStep (.postFn true) tag) n) :=
  WithPostFuncAny_closure_refines_of_le n v tag F (by decide)

theorem NodeBuilder_WithMaxRetries_refines_of_le (n : Node) (r : Int) (t tag : Nat) (fuel : Nat) (h : 6 ≤ fuel) :
    run fuel NodeBuilder_WithMaxRetries tag [nodeH, .int r] n = some ([nodeH], nodeBuilderCall (bldStep (.maxRetries r) t) n) := by
  obtain ⟨f, rfl⟩ := Nat.exists_eq_add_of_le' h
  exact run_eq (call_chain_method
    (stmt_apply_option (eval_WithMaxRetries f r n tag) (get_snd ..) (W_BaseNode tag 0 _) (W_apply tag 0 0 [] n _)))
theorem NodeBuilder_WithMaxRetries_refines (n : Node) (r : Int) (t tag : Nat) :
    run F NodeBuilder_WithMaxRetries tag [nodeH, .int r] n = some ([nodeH], nodeBuilderCall (bldStep (.maxRetries r) t) n) :=
  NodeBuilder_WithMaxRetries_refines_of_le n r t tag F (by decide)

theorem NodeBuilder_WithWait_refines_of_le (n : Node) (r : Int) (t tag : Nat) (fuel : Nat) (h : 6 ≤ fuel) :
    run fuel NodeBuilder_WithWait tag [nodeH, .int r] n = some ([nodeH], nodeBuilderCall (bldStep (.wait r) t) n) := by
  obtain ⟨f, rfl⟩ := Nat.exists_eq_add_of_le' h
  exact run_eq (call_chain_method
    (stmt_apply_option (eval_WithWait f r n tag) (get_snd ..) (W_BaseNode tag 0 _) (W_apply tag 0 0 [] n _)))
theorem NodeBuilder_WithWait_refines (n : Node) (r : Int) (t tag : Nat) :
    run F NodeBuilder_WithWait tag [nodeH, .int r] n = some ([nodeH], nodeBuilderCall (bldStep (.wait r) t) n) :=
  NodeBuilder_WithWait_refines_of_le n r t tag F (by decide)

theorem NodeBuilder_WithBatchConcurrency_refines_of_le (n : Node) (r : Int) (t tag : Nat) (fuel : Nat) (h : 5 ≤ fuel) :
    run fuel NodeBuilder_WithBatchConcurrency tag [nodeH, .int r] n =
      some ([nodeH], nodeBuilderCall (bldStep (.batchConcurrency r) t) n) := by
  obtain ⟨f, rfl⟩ := Nat.exists_eq_add_of_le' h
  exact run_eq (call_chain_method
    (stmt_assign_field (get_snd ..) (eval_var (get_top ..)) (W_set_batchConcurrency tag 0 r _)))
theorem NodeBuilder_WithBatchConcurrency_refines (n : Node) (r : Int) (t tag : Nat) :
    run F NodeBuilder_WithBatchConcurrency tag [nodeH, .int r] n =
      some ([nodeH], nodeBuilderCall (bldStep (.batchConcurrency r) t) n) :=
  NodeBuilder_WithBatchConcurrency_refines_of_le n r t tag F (by decide)

theorem NodeBuilder_WithBatchErrorHandling_refines_of_le (n : Node) (b : Bool) (t tag : Nat) (fuel : Nat) (h : 5 ≤ fuel) :
    run fuel NodeBuilder_WithBatchErrorHandling tag [nodeH, .bool b] n =
      some ([nodeH], nodeBuilderCall (bldStep (.batchErrorHandling b) t) n) := by
  obtain ⟨f, rfl⟩ := Nat.exists_eq_add_of_le' h
  exact run_eq (call_chain_method
    (stmt_if_assign_field (get_top ..) (get_snd ..)
        (by cases b; exact W_set_eh_stop tag 0 _; exact W_set_eh_cont tag 0 _)))
theorem NodeBuilder_WithBatchErrorHandling_refines (n : Node) (b : Bool) (t tag : Nat) :
    run F NodeBuilder_WithBatchErrorHandling tag [nodeH, .bool b] n =
      some ([nodeH], nodeBuilderCall (bldStep (.batchErrorHandling b) t) n) :=
  NodeBuilder_WithBatchErrorHandling_refines_of_le n b t tag F (by decide)

theorem NodeBuilder_WithPrepFunc_refines_of_le (n : Node) (k tag : Nat) (fuel : Nat) (h : 5 ≤ fuel) :
    run fuel NodeBuilder_WithPrepFunc tag [nodeH, userfn k] n = some ([nodeH], nodeBuilderCall (bldStep (.prepFn false) k) n) := by
  obtain ⟨f, rfl⟩ := Nat.exists_eq_add_of_le' h
  exact run_eq (call_chain_method
    (stmt_assign_field (get_snd ..) (eval_var (get_top ..))
      (set_fn (W_set_prepFunc tag 0 _ _) (fnOf_userfn tag k))))
theorem NodeBuilder_WithPrepFunc_refines (n : Node) (k tag : Nat) :
    run F NodeBuilder_WithPrepFunc tag [nodeH, userfn k] n = some ([nodeH], nodeBuilderCall (bldStep (.prepFn false) k) n) :=
  NodeBuilder_WithPrepFunc_refines_of_le n k tag F (by decide)

theorem NodeBuilder_WithExecFunc_refines_of_le (n : Node) (k tag : Nat) (fuel : Nat) (h : 5 ≤ fuel) :
    run fuel NodeBuilder_WithExecFunc tag [nodeH, userfn k] n = some ([nodeH], nodeBuilderCall (bldStep (.execFn false) k) n) := by
  obtain ⟨f, rfl⟩ := Nat.exists_eq_add_of_le' h
  exact run_eq (call_chain_method
    (stmt_assign_field (get_snd ..) (eval_var (get_top ..))
      (set_fn (W_set_execFunc tag 0 _ _) (fnOf_userfn tag k))))
theorem NodeBuilder_WithExecFunc_refines (n : Node) (k tag : Nat) :
    run F NodeBuilder_WithExecFunc tag [nodeH, userfn k] n = some ([nodeH], nodeBuilderCall (bldStep (.execFn false) k) n) :=
  NodeBuilder_WithExecFunc_refines_of_le n k tag F (by decide)

theorem NodeBuilder_WithPostFunc_refines_of_le (n : Node) (k tag : Nat) (fuel : Nat) (h : 5 ≤ fuel) :
    run fuel NodeBuilder_WithPostFunc tag [nodeH, userfn k] n = some ([nodeH], nodeBuilderCall (bldStep (.postFn false) k) n) := by
  obtain ⟨f, rfl⟩ := Nat.exists_eq_add_of_le' h
  exact run_eq (call_chain_method
    (stmt_assign_field (get_snd ..) (eval_var (get_top ..))
      (set_fn (W_set_postFunc tag 0 _ _) (fnOf_userfn tag k))))
theorem NodeBuilder_WithPostFunc_refines (n : Node) (k tag : Nat) :
    run F NodeBuilder_WithPostFunc tag [nodeH, userfn k] n = some ([nodeH], nodeBuilderCall (bldStep (.postFn false) k) n) :=
  NodeBuilder_WithPostFunc_refines_of_le n k tag F (by decide)

theorem NodeBuilder_WithExecFallbackFunc_refines_of_le (n : Node) (k tag : Nat) (fuel : Nat) (h : 5 ≤ fuel) :
    run fuel NodeBuilder_WithExecFallbackFunc tag [nodeH, userfn k] n = some ([nodeH], nodeBuilderCall (bldStep .fbFn k) n) := by
  obtain ⟨f, rfl⟩ := Nat.exists_eq_add_of_le' h
  exact run_eq (call_chain_method
    (stmt_assign_field (get_snd ..) (eval_var (get_top ..))
      (set_fn (W_set_execFallbackFunc tag 0 _ _) (fnOf_userfn tag k))))
theorem NodeBuilder_WithExecFallbackFunc_refines (n : Node) (k tag : Nat) :
    run F NodeBuilder_WithExecFallbackFunc tag [nodeH, userfn k] n = some ([nodeH], nodeBuilderCall (bldStep .fbFn k) n) :=
  NodeBuilder_WithExecFallbackFunc_refines_of_le n k tag F (by decide)

theorem NodeBuilder_WithPrepFuncAny_refines_of_le (n : Node) (v : GV) (tag : Nat) (fuel : Nat) (h : 5 ≤ fuel) :
    run fuel NodeBuilder_WithPrepFuncAny tag [nodeH, v] n = some ([nodeH], nodeBuilderCall (bldStep (.prepFn true) tag) n) := by
  obtain ⟨f, rfl⟩ := Nat.exists_eq_add_of_le' h
  exact run_eq (call_chain_method
    (stmt_assign_field (get_snd ..) (expr_funcLit ..)
      (set_fn (W_set_prepFunc tag 0 _ _) (fnOf_closure tag 0))))
theorem NodeBuilder_WithPrepFuncAny_refines (n : Node) (v : GV) (tag : Nat) :
    run F NodeBuilder_WithPrepFuncAny tag [nodeH, v] n = some ([nodeH], nodeBuilderCall (bldStep (.prepFn true) tag) n) :=
  NodeBuilder_WithPrepFuncAny_refines_of_le n v tag F (by decide)

theorem NodeBuilder_WithExecFuncAny_refines_of_le (n : Node) (v : GV) (tag : Nat) (fuel : Nat) (h : 5 ≤ fuel) :
    run fuel NodeBuilder_WithExecFuncAny tag [nodeH, v] n = some ([nodeH], nodeBuilderCall (bldStep (.execFn true) tag) n) := by
  obtain ⟨f, rfl⟩ := Nat.exists_eq_add_of_le' h
  exact run_eq (call_chain_method
    (stmt_assign_field (get_snd ..) (expr_funcLit ..)
      (set_fn (W_set_execFunc tag 0 _ _) (fnOf_closure tag 0))))
theorem NodeBuilder_WithExecFuncAny_refines (n : Node) (v : GV) (tag : Nat) :
    run F NodeBuilder_WithExecFuncAny tag [nodeH, v] n = some ([nodeH], nodeBuilderCall (bldStep (.execFn true) tag) n) :=
  NodeBuilder_WithExecFuncAny_refines_of_le n v tag F (by decide)

theorem NodeBuilder_WithPostFuncAny_refines_of_le (n : Node) (v : GV) (tag : Nat) (fuel : Nat) (h : 5 ≤ fuel) :
    run fuel NodeBuilder_WithPostFuncAny tag [nodeH, v] n = some ([nodeH], nodeBuilderCall (bldStep (.postFn true) tag) n) := by
  obtain ⟨f, rfl⟩ := Nat.exists_eq_add_of_le' h
  exact run_eq (call_chain_method
    (stmt_assign_field (get_snd ..) (expr_funcLit ..)
      (set_fn (W_set_postFunc tag 0 _ _) (fnOf_closure tag 0))))
theorem NodeBuilder_WithPostFuncAny_refines (n : Node) (v : GV) (tag : Nat) :
    run F NodeBuilder_WithPostFuncAny tag [nodeH, v] n = some ([nodeH], nodeBuilderCall (bldStep (.postFn true) tag) n) :=
  NodeBuilder_WithPostFuncAny_refines_of_le n v tag F (by decide)

-- six of the eight `BatchNodeBuilder` methods have the body of the `NodeBuilder` method of the same name

theorem BatchNodeBuilder_WithMaxRetries_refines_of_le (n : Node) (r : Int) (t tag : Nat) (fuel : Nat) (h : 6 ≤ fuel) :
    run fuel BatchNodeBuilder_WithMaxRetries tag [nodeH, .int r] n =
      some ([nodeH], batchBuilderCall (bldStep (.maxRetries r) t) n) :=
  NodeBuilder_WithMaxRetries_refines_of_le n r t tag fuel h
theorem BatchNodeBuilder_WithMaxRetries_refines (n : Node) (r : Int) (t tag : Nat) :
    run F BatchNodeBuilder_WithMaxRetries tag [nodeH, .int r] n = some ([nodeH], batchBuilderCall (bldStep (.maxRetries r) t) n) :=
  BatchNodeBuilder_WithMaxRetries_refines_of_le n r t tag F (by decide)

theorem BatchNodeBuilder_WithWait_refines_of_le (n : Node) (r : Int) (t tag : Nat) (fuel : Nat) (h : 6 ≤ fuel) :
    run fuel BatchNodeBuilder_WithWait tag [nodeH, .int r] n = some ([nodeH], batchBuilderCall (bldStep (.wait r) t) n) :=
  NodeBuilder_WithWait_refines_of_le n r t tag fuel h
theorem BatchNodeBuilder_WithWait_refines (n : Node) (r : Int) (t tag : Nat) :
    run F BatchNodeBuilder_WithWait tag [nodeH, .int r] n = some ([nodeH], batchBuilderCall (bldStep (.wait r) t) n) :=
  BatchNodeBuilder_WithWait_refines_of_le n r t tag F (by decide)

theorem BatchNodeBuilder_WithBatchConcurrency_refines_of_le (n : Node) (r : Int) (t tag : Nat) (fuel : Nat) (h : 5 ≤ fuel) :
    run fuel BatchNodeBuilder_WithBatchConcurrency tag [nodeH, .int r] n =
      some ([nodeH], batchBuilderCall (bldStep (.batchConcurrency r) t) n) :=
  NodeBuilder_WithBatchConcurrency_refines_of_le n r t tag fuel h
theorem BatchNodeBuilder_WithBatchConcurrency_refines (n : Node) (r : Int) (t tag : Nat) :
    run F BatchNodeBuilder_WithBatchConcurrency tag [nodeH, .int r] n =
      some ([nodeH], batchBuilderCall (bldStep (.batchConcurrency r) t) n) :=
  BatchNodeBuilder_WithBatchConcurrency_refines_of_le n r t tag F (by decide)

theorem BatchNodeBuilder_WithBatchErrorHandling_refines_of_le (n : Node) (b : Bool) (t tag : Nat) (fuel : Nat) (h : 5 ≤ fuel) :
    run fuel BatchNodeBuilder_WithBatchErrorHandling tag [nodeH, .bool b] n =
      some ([nodeH], batchBuilderCall (bldStep (.batchErrorHandling b) t) n) :=
  NodeBuilder_WithBatchErrorHandling_refines_of_le n b t tag fuel h
theorem BatchNodeBuilder_WithBatchErrorHandling_refines (n : Node) (b : Bool) (t tag : Nat) :
    run F BatchNodeBuilder_WithBatchErrorHandling tag [nodeH, .bool b] n =
      some ([nodeH], batchBuilderCall (bldStep (.batchErrorHandling b) t) n) :=
  BatchNodeBuilder_WithBatchErrorHandling_refines_of_le n b t tag F (by decide)

theorem BatchNodeBuilder_WithPrepFunc_refines_of_le (n : Node) (k tag : Nat) (fuel : Nat) (h : 5 ≤ fuel) :
    run fuel BatchNodeBuilder_WithPrepFunc tag [nodeH, userfn k] n =
      some ([nodeH], batchBuilderCall (bldStep (.prepFn false) k) n) := by
  obtain ⟨f, rfl⟩ := Nat.exists_eq_add_of_le' h
  exact run_eq (call_chain_method
    (stmt_assign_field (get_snd ..) (eval_var (get_top ..))
      (set_fn (W_set_batchPrepFunc tag 0 _ _) (fnOf_userfn tag k))))
theorem BatchNodeBuilder_WithPrepFunc_refines (n : Node) (k tag : Nat) :
    run F BatchNodeBuilder_WithPrepFunc tag [nodeH, userfn k] n = some ([nodeH], batchBuilderCall (bldStep (.prepFn false) k) n) :=
  BatchNodeBuilder_WithPrepFunc_refines_of_le n k tag F (by decide)

theorem BatchNodeBuilder_WithExecFunc_refines_of_le (n : Node) (k tag : Nat) (fuel : Nat) (h : 5 ≤ fuel) :
    run fuel BatchNodeBuilder_WithExecFunc tag [nodeH, userfn k] n =
      some ([nodeH], batchBuilderCall (bldStep (.execFn false) k) n) :=
  NodeBuilder_WithExecFunc_refines_of_le n k tag fuel h
theorem BatchNodeBuilder_WithExecFunc_refines (n : Node) (k tag : Nat) :
    run F BatchNodeBuilder_WithExecFunc tag [nodeH, userfn k] n = some ([nodeH], batchBuilderCall (bldStep (.execFn false) k) n) :=
  BatchNodeBuilder_WithExecFunc_refines_of_le n k tag F (by decide)

theorem BatchNodeBuilder_WithPostFunc_refines_of_le (n : Node) (k tag : Nat) (fuel : Nat) (h : 5 ≤ fuel) :
    run fuel BatchNodeBuilder_WithPostFunc tag [nodeH, userfn k] n =
      some ([nodeH], batchBuilderCall (bldStep (.postFn false) k) n) := by
  obtain ⟨f, rfl⟩ := Nat.exists_eq_add_of_le' h
  exact run_eq (call_chain_method
    (stmt_assign_field (get_snd ..) (eval_var (get_top ..))
      (set_fn (W_set_batchPostFunc tag 0 _ _) (fnOf_userfn tag k))))
theorem BatchNodeBuilder_WithPostFunc_refines (n : Node) (k tag : Nat) :
    run F BatchNodeBuilder_WithPostFunc tag [nodeH, userfn k] n = some ([nodeH], batchBuilderCall (bldStep (.postFn false) k) n) :=
  BatchNodeBuilder_WithPostFunc_refines_of_le n k tag F (by decide)

theorem BatchNodeBuilder_WithExecFuncAny_refines_of_le (n : Node) (v : GV) (tag : Nat) (fuel : Nat) (h : 5 ≤ fuel) :
    run fuel BatchNodeBuilder_WithExecFuncAny tag [nodeH, v] n = some ([nodeH], batchBuilderCall (bldStep (.execFn true) tag) n) :=
  NodeBuilder_WithExecFuncAny_refines_of_le n v tag fuel h
theorem BatchNodeBuilder_WithExecFuncAny_refines (n : Node) (v : GV) (tag : Nat) :
    run F BatchNodeBuilder_WithExecFuncAny tag [nodeH, v] n = some ([nodeH], batchBuilderCall (bldStep (.execFn true) tag) n) :=
  BatchNodeBuilder_WithExecFuncAny_refines_of_le n v tag F (by decide)

/-- the depths are the least possible: one unit less and the run is stuck (checked on `emptyNode`; by fuel monotonicity,
    `Refine/Mono.lean`, so is every shallower run) -/
theorem depths_tight :
    ([run 6 BaseNode_GetMaxRetries 0 [nodeH] emptyNode, run 6 BaseNode_GetWait 0 [nodeH] emptyNode,
      run 6 BaseNode_GetBatchConcurrency 0 [nodeH] emptyNode, run 7 BaseNode_GetBatchErrorHandling 0 [nodeH] emptyNode,
      run 5 NodeBuilder_GetMaxRetries 0 [nodeH] emptyNode, run 5 NodeBuilder_GetWait 0 [nodeH] emptyNode,
      run 2 (optClo WithMaxRetries "retries") 0 [.int 0, nodeH] emptyNode, run 2 (optClo WithWait "wait") 0 [.int 0, nodeH] emptyNode,
      run 2 (optClo WithBatchConcurrency "n") 0 [.int 0, nodeH] emptyNode,
      run 4 (optClo WithBatchErrorHandling "continueOnError") 0 [.bool true, nodeH] emptyNode,
      run 4 (optClo WithBatchErrorHandling "continueOnError") 0 [.bool false, nodeH] emptyNode,
      run 2 (optClo WithPrepFunc "fn") 0 [userfn 0, nodeH] emptyNode, run 2 (optClo WithExecFunc "fn") 0 [userfn 0, nodeH] emptyNode,
      run 2 (optClo WithPostFunc "fn") 0 [userfn 0, nodeH] emptyNode,
      run 2 (optClo WithExecFallbackFunc "fn") 0 [userfn 0, nodeH] emptyNode,
      run 2 (optClo WithPrepFuncAny "fn") 0 [userfn 0, nodeH] emptyNode, run 2 (optClo WithExecFuncAny "fn") 0 [userfn 0, nodeH] emptyNode,
      run 2 (optClo WithPostFuncAny "fn") 0 [userfn 0, nodeH] emptyNode,
      run 5 NodeBuilder_WithMaxRetries 0 [nodeH, .int 0] emptyNode, run 5 NodeBuilder_WithWait 0 [nodeH, .int 0] emptyNode,
      run 4 NodeBuilder_WithBatchConcurrency 0 [nodeH, .int 0] emptyNode,
      run 4 NodeBuilder_WithBatchErrorHandling 0 [nodeH, .bool true] emptyNode,
      run 4 NodeBuilder_WithBatchErrorHandling 0 [nodeH, .bool false] emptyNode,
      run 4 NodeBuilder_WithPrepFunc 0 [nodeH, userfn 0] emptyNode, run 4 NodeBuilder_WithExecFunc 0 [nodeH, userfn 0] emptyNode,
      run 4 NodeBuilder_WithPostFunc 0 [nodeH, userfn 0] emptyNode, run 4 NodeBuilder_WithExecFallbackFunc 0 [nodeH, userfn 0] emptyNode,
      run 4 NodeBuilder_WithPrepFuncAny 0 [nodeH, userfn 0] emptyNode, run 4 NodeBuilder_WithExecFuncAny 0 [nodeH, userfn 0] emptyNode,
      run 4 NodeBuilder_WithPostFuncAny 0 [nodeH, userfn 0] emptyNode,
      run 5 BatchNodeBuilder_WithMaxRetries 0 [nodeH, .int 0] emptyNode, run 5 BatchNodeBuilder_WithWait 0 [nodeH, .int 0] emptyNode,
      run 4 BatchNodeBuilder_WithBatchConcurrency 0 [nodeH, .int 0] emptyNode,
      run 4 BatchNodeBuilder_WithBatchErrorHandling 0 [nodeH, .bool true] emptyNode,
      run 4 BatchNodeBuilder_WithBatchErrorHandling 0 [nodeH, .bool false] emptyNode,
      run 4 BatchNodeBuilder_WithPrepFunc 0 [nodeH, userfn 0] emptyNode, run 4 BatchNodeBuilder_WithExecFunc 0 [nodeH, userfn 0] emptyNode,
      run 4 BatchNodeBuilder_WithPostFunc 0 [nodeH, userfn 0] emptyNode,
      run 4 BatchNodeBuilder_WithExecFuncAny 0 [nodeH, userfn 0] emptyNode].all Option.isNone) = true := by decide

/-- a Result-style setter given anything but a user function (here: an integer) is stuck — the world's `fnOf` knows only
    `userfn k` and wrapper closures; this is why the Result-style statements are about `userfn k` and not about every `v : GV` -/
example : run F NodeBuilder_WithPrepFunc 0 [nodeH, .int 0] emptyNode = none := by decide

end Flyt.Refine.Config
