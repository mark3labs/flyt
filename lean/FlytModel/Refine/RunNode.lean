import FlytModel.Refine.Run
import FlytModel.Refine.FlowExec
/-!
# `Run` (flyt.go:679, translated) on a flow node and on a batch node

In `flowNodeWorld` (`Flow.Exec` is the model's `flowLoop`; the embedded `BaseNode` has budget 1, no wait, a pass-through fallback)
`Flyt.Expected.IR.Run` computes exactly the `.flow` branch of the model's `runNode`. In `batchDispatchWorld` (the node is a bare
`*BatchNode` or the `*BatchNodeBuilder` that `NewBatchNode` returns; `runBatch` is the model's) it does nothing but hand over to
`runBatch`. The program pieces and their step lemmas are those of `Refine/Run.lean`, which hold in any world.
-/
namespace Flyt.Refine
open Flyt Flyt.GoIR

theorem Run_recv_params :
    Env.pushAll [] ((if Flyt.Expected.IR.Run.recv == "" then [] else [Flyt.Expected.IR.Run.recv]) ++ Flyt.Expected.IR.Run.params)
      [ctxH, .node n, storeH sid] = some [("shared", .ref "store" sid), ("node", .node n), ("ctx", .ref "ctx" 0)] := rfl

theorem runBatch_outcome (kind : CtxKind) (n : NodeId) (v : Nat) (sid : StoreId) (cfg : BatchCfg) (scr : BatchScript) (ctx : Ctx) :
    (∃ a, (Flyt.runBatch kind n v sid cfg scr ctx).2.2 = .ok a) ∨ (∃ e, (Flyt.runBatch kind n v sid cfg scr ctx).2.2 = .err e) := by
  have hp := Flyt.Proofs.runBatch_proper kind n v sid cfg scr ctx
  cases h : (Flyt.runBatch kind n v sid cfg scr ctx).2.2 with
  | ok a => exact .inl ⟨a, rfl⟩
  | err e => exact .inr ⟨e, rfl⟩
  | both a e => simp [h, Flyt.Proofs.Outcome.Proper] at hp
  | fuel => simp [h, Flyt.Proofs.Outcome.Proper] at hp

section batch
variable (kind : CtxKind) (n : NodeId) (v : Nat) (cfg : BatchCfg) (scr : BatchScript) (viaBuilder : Bool)
local notation "BW" => batchDispatchWorld kind n v cfg scr viaBuilder

theorem bw_as_bn (i : Nat) (w : SeqW) :
    (BW).assert (.node i) "*BatchNode" w = if viaBuilder then some (.nil, false) else some (.ref "batchnode" i, true) := rfl
theorem bw_as_bnb (i : Nat) (w : SeqW) :
    (BW).assert (.node i) "*BatchNodeBuilder" w = if viaBuilder then some (.node i, true) else some (.nil, false) := rfl
theorem bw_field (i : Nat) (w : SeqW) : (BW).field (.node i) "BatchNode" w = some (.ref "batchnode" i) := rfl

theorem bw_call_node (hv : viaBuilder = false) (a : GV) (i sid : Nat) (h : Heap) (w : SeqW) :
    (BW).call "runBatch" [a, .node i, .ref "store" sid] h w =
      match (Flyt.runBatch kind n v sid cfg scr w.ctx).2.2 with
      | .ok a => some ([.str a, .nil], h, ⟨w.evs ++ (Flyt.runBatch kind n v sid cfg scr w.ctx).1, (Flyt.runBatch kind n v sid cfg scr w.ctx).2.1⟩)
      | .err e => some ([.str "", .err e], h, ⟨w.evs ++ (Flyt.runBatch kind n v sid cfg scr w.ctx).1, (Flyt.runBatch kind n v sid cfg scr w.ctx).2.1⟩)
      | _ => none := by
  subst hv
  simp only [batchDispatchWorld, storeIdOf]
  rfl
theorem bw_call_ref (a : GV) (i sid : Nat) (h : Heap) (w : SeqW) :
    (BW).call "runBatch" [a, .ref "batchnode" i, .ref "store" sid] h w =
      match (Flyt.runBatch kind n v sid cfg scr w.ctx).2.2 with
      | .ok a => some ([.str a, .nil], h, ⟨w.evs ++ (Flyt.runBatch kind n v sid cfg scr w.ctx).1, (Flyt.runBatch kind n v sid cfg scr w.ctx).2.1⟩)
      | .err e => some ([.str "", .err e], h, ⟨w.evs ++ (Flyt.runBatch kind n v sid cfg scr w.ctx).1, (Flyt.runBatch kind n v sid cfg scr w.ctx).2.1⟩)
      | _ => none := by
  simp only [batchDispatchWorld, storeIdOf]
  rfl
end batch

def batchNodeFuel : Nat := 12

/-- `Run` on a batch node (bare `*BatchNode` or the `*BatchNodeBuilder` of `NewBatchNode`) only hands over to `runBatch`. -/
theorem Run_dispatches_to_runBatch (kind : CtxKind) (n : NodeId) (v : Nat) (sid : StoreId) (cfg : BatchCfg)
    (scr : BatchScript) (viaBuilder : Bool) (ctx : Ctx) :
    GoIR.runBatchNodeIR batchNodeFuel Flyt.Expected.IR.Run kind n v sid cfg scr viaBuilder ctx
      = some (Flyt.runBatch kind n v sid cfg scr ctx) := by
  unfold runBatchNodeIR callFunc batchNodeFuel
  simp only [Run_recv_params]
  rcases hr : Flyt.runBatch kind n v sid cfg scr ctx with ⟨evs, ctx', out⟩
  have ho := runBatch_outcome kind n v sid cfg scr ctx
  rw [hr] at ho
  cases viaBuilder with
  | false =>
    rcases ho with ⟨a, ha⟩ | ⟨e, he⟩
    · simp only at ha; subst ha
      gosimp [Run_body, bw_as_bn, bw_as_bnb, bw_field, bw_call_node, bw_call_ref, expr_sel, hr, outcomeOf]
    · simp only at he; subst he
      gosimp [Run_body, bw_as_bn, bw_as_bnb, bw_field, bw_call_node, bw_call_ref, expr_sel, hr, outcomeOf]
  | true =>
    rcases ho with ⟨a, ha⟩ | ⟨e, he⟩
    · simp only at ha; subst ha
      gosimp [Run_body, bw_as_bn, bw_as_bnb, bw_field, bw_call_node, bw_call_ref, expr_sel, hr, outcomeOf]
    · simp only at he; subst he
      gosimp [Run_body, bw_as_bn, bw_as_bnb, bw_field, bw_call_node, bw_call_ref, expr_sel, hr, outcomeOf]

/-- … and for every fuel from `batchNodeFuel` on -/
theorem Run_dispatches_to_runBatch_of_le (kind : CtxKind) (n : NodeId) (v : Nat) (sid : StoreId) (cfg : BatchCfg)
    (scr : BatchScript) (viaBuilder : Bool) (ctx : Ctx) (fuel : Nat) (h : batchNodeFuel ≤ fuel) :
    GoIR.runBatchNodeIR fuel Flyt.Expected.IR.Run kind n v sid cfg scr viaBuilder ctx
      = some (Flyt.runBatch kind n v sid cfg scr ctx) := by
  have h0 := Run_dispatches_to_runBatch kind n v sid cfg scr viaBuilder ctx
  unfold runBatchNodeIR at h0 ⊢
  cases hc : callFunc (batchDispatchWorld kind n v cfg scr viaBuilder) batchNodeFuel Flyt.Expected.IR.Run
      [ctxH, .node n, storeH sid] [] ⟨[], ctx⟩ with
  | none => simp [hc] at h0
  | some x => rw [mono_callFunc _ h hc]; rw [hc] at h0; exact h0

section steps
variable {Ω : Type} (W : World Ω)
theorem cond_unfold' (f : Nat) (st : St Ω) :
    evalExpr W f loopCond st = evalExpr W f (.bin "<" (.var "attempt") (.var "maxRetries")) st := rfl
theorem post_unfold' (f : Nat) (st : St Ω) :
    execBlock W f loopPost st = execBlock W f B[(.incr "attempt")] st := rfl
theorem body_unfold' (f : Nat) (st : St Ω) :
    execBlock W f loopBody st = execBlock W f B[
    (.ifS B[(.define ["err"] E[(.mcall (.var "ctx") "Err" E[])])] (.bin "!=" (.var "err") (.var "nil")) B[
      (.ret E[(.str ""), (.call "fmt.Errorf" E[(.str "run: context cancelled during retry: %w"), (.var "err")])])] B[]),
    (.ifS B[] (.bin "&&" (.bin ">" (.var "attempt") (.int 0)) (.bin ">" (.var "wait") (.int 0))) B[
      (.selectS (Cases.ofList [
        ((.un "<-" (.call "time.After" E[(.var "wait")])), B[]),
        ((.un "<-" (.mcall (.var "ctx") "Done" E[])), B[
          (.ret E[(.str ""), (.call "fmt.Errorf" E[(.str "run: context cancelled during wait: %w"), (.mcall (.var "ctx") "Err" E[])])])])]))] B[]),
    (.assign E[(.var "execResult"), (.var "execErr")] E[(.mcall (.var "node") "Exec" E[(.var "ctx"), (.var "prepResult")])]),
    (.ifS B[] (.bin "==" (.var "execErr") (.var "nil")) B[
      .brk] B[])] st := rfl
end steps

def FinalResF (res : Option (Ctl × St FlowW)) (out : List Ev × RunSt × Outcome) : Prop :=
  ∃ rs env h mf, res = some (.ret rs, ⟨env, h, ⟨out.1, out.2.1, mf⟩⟩) ∧ outcomeOf rs = some out.2.2

section flow
variable (env : Flyt.Env) (fid : NodeId) (start : Option NodeId) (tbl : Table) (sid : StoreId)
local notation "FW" => flowNodeWorld env start tbl

theorem fw_err (i : Nat) (h : Heap) (w : FlowW) :
    (FW).mcall (.ref "ctx" i) "Err" [] h w = some ([ctxErrGV w.st.ctx], h, w) := rfl
theorem fw_maxr (i : Nat) (h : Heap) (w : FlowW) :
    (FW).mcall (.node i) "GetMaxRetries" [] h w = some ([.int 1], h, w) := rfl
theorem fw_wait (i : Nat) (h : Heap) (w : FlowW) :
    (FW).mcall (.node i) "GetWait" [] h w = some ([.int 0], h, w) := rfl
theorem fw_prep (i : Nat) (a sh : GV) (h : Heap) (w : FlowW) :
    (FW).mcall (.node i) "Prep" [a, sh] h w = some ([sh, .nil], h, w) := rfl
theorem fw_fb (i : Nat) (pv : GV) (e : ErrRoot) (h : Heap) (w : FlowW) :
    (FW).mcall (.node i) "ExecFallback" [pv, .err e] h w = some ([.nil, .err e], h, w) := rfl
theorem fw_post_str (i : Nat) (a sh pv : GV) (x : String) (h : Heap) (w : FlowW) :
    (FW).mcall (.node i) "Post" [a, sh, pv, .str x] h w = some ([.str x, .nil], h, w) := rfl
theorem fw_as_retry (i : Nat) (w : FlowW) : (FW).assert (.node i) "RetryableNode" w = some (.node i, true) := rfl
theorem fw_as_fb (i : Nat) (w : FlowW) : (FW).assert (.node i) "FallbackNode" w = some (.node i, true) := rfl
theorem fw_as_bn (i : Nat) (w : FlowW) : (FW).assert (.node i) "*BatchNode" w = some (.nil, false) := rfl
theorem fw_as_bnb (i : Nat) (w : FlowW) : (FW).assert (.node i) "*BatchNodeBuilder" w = some (.nil, false) := rfl
theorem fw_global : (FW).global "DefaultAction" = some (.str defaultAction) := rfl

theorem fw_exec_none (hs : start = none) (i : Nat) (a : GV) (sid : Nat) (h : Heap) (w : FlowW) :
    (FW).mcall (.node i) "Exec" [a, .ref "store" sid] h w = some ([.nil, .err (.fw .noStart)], h, w) := by
  subst hs
  rfl
theorem fw_exec_some {s : NodeId} (hs : start = some s) (i : Nat) (a : GV) (sid : Nat) (h : Heap) (w : FlowW) :
    (FW).mcall (.node i) "Exec" [a, .ref "store" sid] h w =
      match (flowLoop env w.mfuel tbl s sid w.st).2.2 with
      | .ok x => some ([.str x, .nil], h, ⟨w.evs ++ (flowLoop env w.mfuel tbl s sid w.st).1, (flowLoop env w.mfuel tbl s sid w.st).2.1, w.mfuel⟩)
      | .err e => some ([.nil, .err e], h, ⟨w.evs ++ (flowLoop env w.mfuel tbl s sid w.st).1, (flowLoop env w.mfuel tbl s sid w.st).2.1, w.mfuel⟩)
      | _ => none := by
  subst hs
  rfl
theorem runFlowNodeIR_of_final (F : Nat) (ops : List ConnOp) (mfuel : Nat) (st : RunSt) (out : List Ev × RunSt × Outcome)
    (h : FinalResF (execBlock (flowNodeWorld env start (buildTable ops)) F Flyt.Expected.IR.Run.body
          ⟨env0 sid fid, [], ⟨[], st, mfuel⟩⟩) out) :
    runFlowNodeIR F Flyt.Expected.IR.Run env fid start ops mfuel sid st = some out := by
  obtain ⟨rs, e, hp, mf, h, ho⟩ := h
  unfold runFlowNodeIR callFunc
  simp only [Run_recv_params, h, ho, Option.map]

/-- the single attempt of the embedded `BaseNode` (budget 1, no wait), whatever `Flow.Exec` returns -/
theorem flow_loop (f : Nat) (w w' : FlowW) (hc : w.st.ctx = .live) (r e : GV) (he : e = .nil ∨ ∃ x, e = .err x)
    (hcall : (FW).mcall (.node fid) "Exec" [.ref "ctx" 0, .ref "store" sid] [] w = some ([r, e], [], w')) :
    execBlock FW (f + 32) tailBlock ⟨envL .nil (.val Val.nil) 0 1 (.ref "store" sid) sid fid, [], w⟩
      = execBlock FW (f + 31) suffix ⟨envL e r 0 1 (.ref "store" sid) sid fid, [], w'⟩ := by
  have hErr := fw_err env start tbl 0 [] w
  rw [hc] at hErr
  rw [tailBlock, block_cons, for_spec, loopFor_succ, cond_spec]
  simp only [Int.reduceLT, decide_true, loopBody_eq, block_cons, ctxCheck_spec (FW) sid fid _ _ _ _ _ _ _ _ _ _ hErr,
    wait_first, exec_step (FW) sid fid _ _ _ _ _ _ _ _ _ _ _ _ _ hcall]
  rcases he with rfl | ⟨x, rfl⟩
  · simp only [brk_nil, popSt_envA_length, Option.map, popSt_envA]
  · simp only [brk_err, block_nil, popSt_envA_length, incr_spec]
    rw [loopFor_succ, cond_spec]
    simp only [Int.reduceAdd, Int.reduceLT, decide_false, Option.map, popSt_envA]

/-- the exec phase failed with `e`: pass-through fallback, `run: exec failed after %d retries: %w` -/
theorem flow_suffix_err (f : Nat) (r : GV) (e : ErrRoot) (w : FlowW) :
    FinalResF (execBlock FW (f + 31) suffix ⟨envL (.err e) r 0 1 (.ref "store" sid) sid fid, [], w⟩)
      (w.evs, w.st, .err e) := by
  obtain ⟨env', hE⟩ := fb_err (FW) sid fid (f + 11) r 0 1 (.ref "store" sid) [] w [] w .nil e (.node fid)
    (fw_as_fb env start tbl fid w) e (fw_fb env start tbl fid _ e [] w)
  rw [suffix, block_cons, hE]
  exact ⟨_, env', [], w.mfuel, rfl, rfl⟩

theorem flow_suffix_ok (f : Nat) (a : Action) (w : FlowW) :
    FinalResF (execBlock FW (f + 31) suffix ⟨envL .nil (.str a) 0 1 (.ref "store" sid) sid fid, [], w⟩)
      (w.evs, w.st, .ok (norm a)) := by
  obtain ⟨env', hE⟩ := post_ok (FW) sid fid (f + 11) .nil (.str a) 0 1 (.ref "store" sid) [] w [] w a
    (fw_post_str env start tbl fid _ _ _ a [] w) (fw_global env start tbl)
  rw [suffix, block_cons, fb_skip]
  exact ⟨_, env', [], w.mfuel, hE, rfl⟩
end flow

/-- `f + 43`: the depth at which `prefix_spec` of `Refine/Run.lean` is stated -/
theorem Run_refines_runNode_flow_core (f : Nat) (env : Flyt.Env) (fid : NodeId) (start : Option NodeId) (ops : List ConnOp)
    (mfuel : Nat) (sid : StoreId) (st : RunSt) (harena : env.arena fid = .flow start ops)
    (hne : (runNode env (mfuel + 1) fid sid st).2.2 ≠ .fuel) :
    GoIR.runFlowNodeIR (f + 43) Flyt.Expected.IR.Run env fid start ops mfuel sid st
      = some (runNode env (mfuel + 1) fid sid st) := by
  apply runFlowNodeIR_of_final
  obtain ⟨env', hE⟩ := prefix_spec (flowNodeWorld env start (buildTable ops)) sid fid f [] [] ⟨[], st, mfuel⟩ _ st.ctx st.ctx
    (.ref "store" sid) none true 1 0 (fw_as_bn env start _ fid _) (fw_as_bnb env start _ fid _) (fw_err env start _ 0 [] _)
    (fw_prep env start _ fid _ _ [] _) (fw_err env start _ 0 [] _) (fw_as_retry env start _ fid _) (fw_maxr env start _ fid [] _)
    (fw_wait env start _ fid [] _)
  rw [hE]
  cases hc : st.ctx with
  | done k =>
    have hm : runNode env (mfuel + 1) fid sid st = ([], st, .err (.ctx k)) := by simp [runNode, harena, hc]
    rw [hm]
    exact ⟨_, env', [], mfuel, rfl, rfl⟩
  | live =>
    change FinalResF (execBlock _ (f + 32) tailBlock ⟨envL .nil (.val Val.nil) 0 1 (.ref "store" sid) sid fid, [], ⟨[], st, mfuel⟩⟩) _
    cases start with
    | none =>
      have hm : runNode env (mfuel + 1) fid sid st = ([], st, .err (.fw .noStart)) := by simp [runNode, harena, hc]
      rw [hm, flow_loop env fid none (buildTable ops) sid f ⟨[], st, mfuel⟩ _ hc _ _ (.inr ⟨_, rfl⟩)
        (fw_exec_none env none (buildTable ops) rfl fid _ sid [] _)]
      exact flow_suffix_err env fid none (buildTable ops) sid f _ _ _
    | some s =>
      have hcall := fw_exec_some env (some s) (buildTable ops) rfl fid (.ref "ctx" 0) sid [] ⟨[], st, mfuel⟩
      rcases hfl : flowLoop env mfuel (buildTable ops) s sid st with ⟨evs, st', out⟩
      simp only [hfl, List.nil_append] at hcall
      cases out with
      | ok a =>
        have hm : runNode env (mfuel + 1) fid sid st = (evs, st', .ok (norm a)) := by simp [runNode, harena, hc, hfl]
        rw [hm, flow_loop env fid (some s) (buildTable ops) sid f _ _ hc _ _ (.inl rfl) hcall]
        exact flow_suffix_ok env fid (some s) (buildTable ops) sid f a _
      | err e =>
        have hm : runNode env (mfuel + 1) fid sid st = (evs, st', .err e) := by simp [runNode, harena, hc, hfl]
        rw [hm, flow_loop env fid (some s) (buildTable ops) sid f _ _ hc _ _ (.inr ⟨_, rfl⟩) hcall]
        exact flow_suffix_err env fid (some s) (buildTable ops) sid f _ _ _
      | both a e =>
        exact absurd (by rw [hfl]) (flowLoop_never_both env ops mfuel s sid st a e)
      | fuel =>
        exact absurd (by simp [runNode, harena, hc, hfl]) hne

def flowNodeFuel : Nat := 43

/-- `Run` on a flow node: exactly the flow branch of the model's `runNode`, where that does not run out of its own fuel. -/
theorem Run_refines_runNode_flow (env : Flyt.Env) (fid : NodeId) (start : Option NodeId) (ops : List ConnOp)
    (mfuel : Nat) (sid : StoreId) (st : RunSt) (harena : env.arena fid = .flow start ops)
    (hne : (runNode env (mfuel + 1) fid sid st).2.2 ≠ .fuel) :
    GoIR.runFlowNodeIR flowNodeFuel Flyt.Expected.IR.Run env fid start ops mfuel sid st
      = some (runNode env (mfuel + 1) fid sid st) := by
  have h := Run_refines_runNode_flow_core 0 env fid start ops mfuel sid st harena hne
  simpa [flowNodeFuel] using h

/-- … and for every fuel from `flowNodeFuel` on -/
theorem Run_refines_runNode_flow_of_le (env : Flyt.Env) (fid : NodeId) (start : Option NodeId) (ops : List ConnOp)
    (mfuel : Nat) (sid : StoreId) (st : RunSt) (harena : env.arena fid = .flow start ops)
    (hne : (runNode env (mfuel + 1) fid sid st).2.2 ≠ .fuel) (fuel : Nat) (h : flowNodeFuel ≤ fuel) :
    GoIR.runFlowNodeIR fuel Flyt.Expected.IR.Run env fid start ops mfuel sid st
      = some (runNode env (mfuel + 1) fid sid st) := by
  obtain ⟨k, rfl⟩ : ∃ k, fuel = k + 43 := ⟨fuel - 43, by unfold flowNodeFuel at h; omega⟩
  exact Run_refines_runNode_flow_core k env fid start ops mfuel sid st harena hne

theorem Run_refines_runNode_flow_60 (env : Flyt.Env) (fid : NodeId) (start : Option NodeId) (ops : List ConnOp)
    (mfuel : Nat) (sid : StoreId) (st : RunSt) (harena : env.arena fid = .flow start ops)
    (hne : (runNode env (mfuel + 1) fid sid st).2.2 ≠ .fuel) :
    GoIR.runFlowNodeIR 60 Flyt.Expected.IR.Run env fid start ops mfuel sid st
      = some (runNode env (mfuel + 1) fid sid st) :=
  Run_refines_runNode_flow_of_le env fid start ops mfuel sid st harena hne 60 (by decide)

theorem Run_dispatches_to_runBatch_30 (kind : CtxKind) (n : NodeId) (v : Nat) (sid : StoreId) (cfg : BatchCfg)
    (scr : BatchScript) (viaBuilder : Bool) (ctx : Ctx) :
    GoIR.runBatchNodeIR 30 Flyt.Expected.IR.Run kind n v sid cfg scr viaBuilder ctx
      = some (Flyt.runBatch kind n v sid cfg scr ctx) :=
  Run_dispatches_to_runBatch_of_le kind n v sid cfg scr viaBuilder ctx 30 (by decide)

end Flyt.Refine
