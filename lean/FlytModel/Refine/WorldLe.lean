import FlytModel.GoIR.Interp
/-!
# Monotonicity of the GoIR interpreter in the fuel and in the world, under an invariant `I` of the world state

`WLeOn I W₁ W₂`: on world states satisfying `I`, whatever `call`, `mcall`, `callVar` of `W₁` define (`some r`), `W₂` defines with
the same result, and `I` holds again afterwards; every other component is the same function in both worlds, and those that change
the world state preserve `I`. Then a result of the interpreter in `W₁` at fuel `f`, from a state satisfying `I`, is the result in
`W₂` at every fuel `g ≥ f`, and satisfies `I`: two inductions on `f`, one for each mutual block of `Interp.lean`.
`callFunc_le` serves the composition theorems of `Refine/Stack.lean`: `W₁` is a layered world (a callee has the meaning of the model
function, undefined where the model runs out of fuel), `W₂` the world in which that callee is the interpretation of its translated
source. With `W₁ = W₂` (`WLeOn.refl`) the statement is the fuel monotonicity of `Refine/Mono.lean`.
-/
namespace Flyt.Refine
open Flyt Flyt.GoIR
variable {Ω : Type}

structure WLeOn (I : Ω → Prop) (W1 W2 : World Ω) : Prop where
  call : ∀ fn args h w r, I w → W1.call fn args h w = some r → W2.call fn args h w = some r ∧ I r.2.2
  mcall : ∀ x m args h w r, I w → W1.mcall x m args h w = some r → W2.mcall x m args h w = some r ∧ I r.2.2
  callVar : ∀ fn fv args h w r, I w → W1.callVar fn fv args h w = some r → W2.callVar fn fv args h w = some r ∧ I r.2.2
  assert : W1.assert = W2.assert
  field : W1.field = W2.field
  mapIndex : W1.mapIndex = W2.mapIndex
  global : W1.global = W2.global
  invokes : W1.invokes = W2.invokes
  readVar : W1.readVar = W2.readVar
  rangeOf : W1.rangeOf = W2.rangeOf
  select : W1.select = W2.select
  setField : W1.setField = W2.setField
  writeVar : W1.writeVar = W2.writeVar
  setIndex : W1.setIndex = W2.setIndex
  selectI : ∀ c w r, I w → W1.select c w = some r → I r.2
  setFieldI : ∀ x f v w w', I w → W1.setField x f v w = some w' → I w'
  writeVarI : ∀ x v w w', I w → W1.writeVar x v w = some w' → I w'
  setIndexI : ∀ m k v w w', I w → W1.setIndex m k v w = some w' → I w'

theorem WLeOn.refl (W : World Ω) : WLeOn (fun _ => True) W W where
  call := fun _ _ _ _ _ _ h => ⟨h, trivial⟩
  mcall := fun _ _ _ _ _ _ _ h => ⟨h, trivial⟩
  callVar := fun _ _ _ _ _ _ _ h => ⟨h, trivial⟩
  assert := rfl
  field := rfl
  mapIndex := rfl
  global := rfl
  invokes := rfl
  readVar := rfl
  rangeOf := rfl
  select := rfl
  setField := rfl
  writeVar := rfl
  setIndex := rfl
  selectI := fun _ _ _ _ _ => trivial
  setFieldI := fun _ _ _ _ _ _ _ => trivial
  writeVarI := fun _ _ _ _ _ _ => trivial
  setIndexI := fun _ _ _ _ _ _ _ => trivial

/-- every result of `o₁` is the result of `o₂` and satisfies `P`. A `match` on `o₁`, so that a case split on a sub-evaluation of
    the first side decides the hypothesis about it as well. -/
abbrev OptLe {α : Type} (P : α → Prop) (o₁ o₂ : Option α) : Prop :=
  match o₁ with
  | some r => o₂ = some r ∧ P r
  | none => True

theorem OptLe.intro {α : Type} {P : α → Prop} {o₁ o₂ : Option α} (h : ∀ r, o₁ = some r → o₂ = some r ∧ P r) : OptLe P o₁ o₂ := by
  cases o₁ with
  | none => trivial
  | some r => exact h r rfl

theorem OptLe.of_eq_some {α : Type} {P : α → Prop} {o₁ o₂ : Option α} {r} (h : OptLe P o₁ o₂) (e : o₁ = some r) :
    o₂ = some r ∧ P r := by
  subst e; exact h

/-- for a sub-evaluation that occurs in both sides of a goal: where `o₁` is undefined the goal reduces to `True`; otherwise both
    are the same `o`, of which `P` holds. `o` stays a variable, so that a `split` of the `match` on it splits both sides. -/
@[elab_as_elim]
theorem OptLe.elim {α : Type} {P : α → Prop} {o₁ o₂ : Option α} {motive : Option α → Option α → Prop}
    (h : OptLe P o₁ o₂) (undef : motive none = fun _ => True) (same : ∀ o, (match o with | some r => P r | none => True) → motive o o) :
    motive o₁ o₂ := by
  cases o₁ with
  | none => rw [undef]; trivial
  | some r => obtain ⟨rfl, hr⟩ := h; exact same _ hr

theorem OptLe.same {α : Type} {P : α → Prop} {o : Option α} (h : match o with | some r => P r | none => True) : OptLe P o o := by
  cases o with
  | none => trivial
  | some r => exact ⟨rfl, h⟩

theorem OptLe.bind {α β : Type} {P : α → Prop} {Q : β → Prop} {k : α → Option β} {o₁ o₂ : Option α} (h : OptLe P o₁ o₂)
    (hk : ∀ x, P x → OptLe Q (k x) (k x)) : OptLe Q (o₁.bind k) (o₂.bind k) := by
  cases o₁ with
  | none => trivial
  | some r => obtain ⟨rfl, hr⟩ := h; exact hk r hr

theorem OptLe.map {α β : Type} {P : α → Prop} {Q : β → Prop} {k : α → β} {o₁ o₂ : Option α} (h : OptLe P o₁ o₂)
    (hk : ∀ x, P x → Q (k x)) : OptLe Q (o₁.map k) (o₂.map k) := by
  cases o₁ with
  | none => trivial
  | some r => obtain ⟨rfl, hr⟩ := h; exact ⟨rfl, hk r hr⟩

theorem OptLe.map_self {α β : Type} {P : β → Prop} {k : α → β} (o : Option α) (h : ∀ x, o = some x → P (k x)) :
    OptLe P (o.map k) (o.map k) := by
  cases o with
  | none => trivial
  | some x => exact ⟨rfl, h x rfl⟩

theorem OptLe.ite {α : Type} {P : α → Prop} {c : Prop} [Decidable c] {a₁ a₂ b₁ b₂ : Option α} (ht : OptLe P a₁ a₂)
    (he : OptLe P b₁ b₂) : OptLe P (if c then a₁ else b₁) (if c then a₂ else b₂) := by
  by_cases h : c
  · rw [if_pos h, if_pos h]; exact ht
  · rw [if_neg h, if_neg h]; exact he

section
variable {I : Ω → Prop} {W1 W2 : World Ω} (H : WLeOn I W1 W2)
include H

theorem WLeOn.call_le (fn args h w) (hI : I w) : OptLe (I ·.2.2) (W1.call fn args h w) (W2.call fn args h w) :=
  .intro fun r => H.call fn args h w r hI
theorem WLeOn.mcall_le (x m args h w) (hI : I w) : OptLe (I ·.2.2) (W1.mcall x m args h w) (W2.mcall x m args h w) :=
  .intro fun r => H.mcall x m args h w r hI
theorem WLeOn.callVar_le (fn fv args h w) (hI : I w) : OptLe (I ·.2.2) (W1.callVar fn fv args h w) (W2.callVar fn fv args h w) :=
  .intro fun r => H.callVar fn fv args h w r hI

theorem le_expr : ∀ f g, f ≤ g →
    (∀ e st, I st.w → OptLe (I ·.2.w) (evalExpr W1 f e st) (evalExpr W2 g e st)) ∧
    (∀ es st, I st.w → OptLe (I ·.2.w) (evalArgs W1 f es st) (evalArgs W2 g es st))
  | 0, _, _ => ⟨fun _ _ _ => trivial, fun _ _ _ => trivial⟩
  | f + 1, 0, h => absurd h (Nat.not_succ_le_zero f)
  | f + 1, g + 1, h => by
    obtain ⟨ihE, ihA⟩ := le_expr f g (Nat.le_of_succ_le_succ h)
    have call : ∀ {fn args} {st : St Ω}, I st.w → OptLe (I ·.2.w)
        (match W1.call fn args st.heap st.w with
         | some (rs, h, w) => some (rs, { st with heap := h, w := w })
         | none => none)
        (match W2.call fn args st.heap st.w with
         | some (rs, h, w) => some (rs, { st with heap := h, w := w })
         | none => none) := by
      intro fn args st hI
      refine (H.call_le fn args _ _ hI).elim rfl fun _ hI => ?_
      split
      · exact ⟨rfl, hI⟩
      · trivial
    constructor
    · intro e st hI
      cases e with
      | var x =>
        rw [evalExpr, evalExpr, ← H.global, ← H.readVar]
        split
        · exact ⟨rfl, hI⟩
        apply OptLe.ite
        · exact ⟨rfl, hI⟩
        apply OptLe.ite
        · exact ⟨rfl, hI⟩
        apply OptLe.ite
        · exact ⟨rfl, hI⟩
        split
        · exact ⟨rfl, hI⟩
        · exact .map_self _ fun _ _ => hI
      | str | int | funcLit => exact And.intro rfl hI
      | unsupported => trivial
      | bin op a b =>
        rw [evalExpr, evalExpr]
        refine .ite ?and (.ite ?or ?_)
        case and | or =>
          refine (ihE a st hI).elim rfl fun _ hI => ?_
          split
          · exact ⟨rfl, hI⟩
          · refine (ihE b _ hI).elim rfl fun _ hI => ?_
            split
            · exact ⟨rfl, hI⟩
            · trivial
          · trivial
        refine (ihE a st hI).elim rfl fun _ hI => ?_
        split
        · refine (ihE b _ hI).elim rfl fun _ hI => ?_
          split
          · apply OptLe.ite
            · exact .map_self _ fun _ _ => hI
            apply OptLe.ite
            · exact .map_self _ fun _ _ => hI
            split
            · exact .map_self _ fun _ _ => hI
            · trivial
          · trivial
        · trivial
      | un op a =>
        rw [evalExpr.eq_def, evalExpr.eq_def W2]
        simp only
        apply OptLe.ite
        · refine (ihE a st hI).elim rfl fun _ hI => ?_
          split
          · exact ⟨rfl, hI⟩
          · trivial
        apply OptLe.ite
        · split
          · exact ihE _ st hI
          · trivial
        · trivial
      | sel a fld =>
        rw [evalExpr, evalExpr, ← H.field]
        refine (ihE a st hI).elim rfl fun _ hI => ?_
        split
        · exact .map_self _ fun _ _ => hI
        · trivial
      | index a i =>
        rw [evalExpr, evalExpr, ← H.mapIndex]
        refine (ihE a st hI).elim rfl fun _ hI => ?_
        split
        · refine (ihE i _ hI).elim rfl fun _ hI => ?_
          split
          · exact .ite (.map_self _ fun _ _ => hI) trivial
          · trivial
        · refine (ihE i _ hI).elim rfl fun _ hI => ?_
          split
          · exact .map_self _ fun _ _ => hI
          · trivial
        · trivial
      | sliceFrom a lo =>
        rw [evalExpr, evalExpr]
        refine (ihE a st hI).elim rfl fun _ hI => ?_
        split
        · refine (ihE lo _ hI).elim rfl fun _ hI => ?_
          split
          · exact .ite ⟨rfl, hI⟩ trivial
          · trivial
        · trivial
      | assert a ty =>
        rw [evalExpr, evalExpr, ← H.assert]
        refine (ihE a st hI).elim rfl fun _ hI => ?_
        split
        · split
          · exact ⟨rfl, hI⟩
          · trivial
        · trivial
      | conv ty a =>
        rw [evalExpr, evalExpr]
        refine (ihE a st hI).elim rfl fun _ hI => ?_
        split
        · exact call hI
        · trivial
      | call fn args =>
        rw [evalExpr.eq_def, evalExpr.eq_def W2]
        simp only
        apply OptLe.ite
        · split
          · apply OptLe.ite
            · split
              · refine (ihE _ st hI).elim rfl fun _ hI => ?_
                split
                · exact ⟨rfl, hI⟩
                · trivial
              · trivial
            · refine (ihA _ st hI).elim rfl fun _ hI => ?_
              split
              · exact call hI
              · trivial
          · trivial
        · refine (ihA args st hI).elim rfl fun _ hI => ?_
          split
          · trivial
          apply OptLe.ite
          · split
            · exact ⟨rfl, hI⟩
            · exact ⟨rfl, hI⟩
            · exact ⟨rfl, hI⟩
            · exact call hI
          apply OptLe.ite
          · split
            · exact ⟨rfl, hI⟩
            · trivial
          apply OptLe.ite
          · split
            · exact ⟨rfl, hI⟩
            · trivial
          apply OptLe.ite
          · exact .map_self _ fun _ _ => hI
          split
          · refine (H.callVar_le _ _ _ _ _ hI).elim rfl fun _ hI => ?_
            split
            · exact ⟨rfl, hI⟩
            · trivial
          · exact call hI
      | mcall recv m args =>
        rw [evalExpr, evalExpr]
        refine (ihE recv st hI).elim rfl fun _ hI => ?_
        split
        · refine (ihA args _ hI).elim rfl fun _ hI => ?_
          split
          · trivial
          split
          · exact .ite ⟨rfl, hI⟩ (.ite ⟨rfl, hI⟩ trivial)
          · refine (H.mcall_le _ _ _ _ _ hI).elim rfl fun _ hI => ?_
            split
            · exact ⟨rfl, hI⟩
            · trivial
        · trivial
      | lit ty elts =>
        rw [evalExpr.eq_def, evalExpr.eq_def W2]
        simp only
        apply OptLe.ite
        · split
          · exact ⟨rfl, hI⟩
          · trivial
        apply OptLe.ite
        · split
          · exact ⟨rfl, hI⟩
          · refine (ihA _ st hI).elim rfl fun _ hI => ?_
            split
            · exact call hI
            · trivial
        · refine (ihA _ st hI).elim rfl fun _ hI => ?_
          split
          · exact call hI
          · trivial
    · intro es st hI
      rw [evalArgs.eq_def, evalArgs.eq_def W2]
      simp only
      split
      · exact ⟨rfl, hI⟩
      · exact ihE _ st hI
      · refine (ihE _ st hI).elim rfl fun _ hI => ?_
        split
        · refine (ihA _ _ hI).elim rfl fun _ hI => ?_
          split
          · exact ⟨rfl, hI⟩
          · trivial
        · trivial

theorem le_evalExpr {f g e st} (hfg : f ≤ g) (hI : I st.w) : OptLe (I ·.2.w) (evalExpr W1 f e st) (evalExpr W2 g e st) :=
  (le_expr H f g hfg).1 e st hI
theorem le_evalArgs {f g es st} (hfg : f ≤ g) (hI : I st.w) : OptLe (I ·.2.w) (evalArgs W1 f es st) (evalArgs W2 g es st) :=
  (le_expr H f g hfg).2 es st hI

theorem le_evalCommaOk {f g e st} (hfg : f ≤ g) (hI : I st.w) :
    OptLe (I ·.2.w) (evalCommaOk W1 f e st) (evalCommaOk W2 g e st) := by
  have ihE := fun e st => @le_evalExpr Ω I W1 W2 H f g e st hfg
  unfold evalCommaOk
  rw [← H.assert, ← H.mapIndex]
  split
  · refine (ihE _ st hI).elim rfl fun _ hI => ?_
    split
    · exact .map_self _ fun _ _ => hI
    · trivial
  · refine (ihE _ st hI).elim rfl fun _ hI => ?_
    split
    · refine (ihE _ _ hI).elim rfl fun _ hI => ?_
      split
      · exact .map_self _ fun _ _ => hI
      · trivial
    · trivial
  · trivial

theorem le_evalRhs {f g k rhs st} (hfg : f ≤ g) (hI : I st.w) :
    OptLe (I ·.2.w) (evalRhs W1 f k rhs st) (evalRhs W2 g k rhs st) := by
  unfold evalRhs
  split
  · exact .ite (le_evalCommaOk H hfg hI) (.bind (le_evalExpr H hfg hI) fun _ hI => .ite ⟨rfl, hI⟩ trivial)
  · exact .bind (le_evalArgs H hfg hI) fun _ hI => .ite ⟨rfl, hI⟩ trivial

theorem le_assignTo {f g lhs v st} (hfg : f ≤ g) (hI : I st.w) :
    OptLe (I ·.w) (assignTo W1 f lhs v st) (assignTo W2 g lhs v st) := by
  have ihE := fun e st => @le_evalExpr Ω I W1 W2 H f g e st hfg
  unfold assignTo
  rw [← H.setField, ← H.writeVar, ← H.setIndex]
  split
  · apply OptLe.ite
    · exact ⟨rfl, hI⟩
    split
    · exact ⟨rfl, hI⟩
    · exact .map_self _ fun _ h => H.writeVarI _ _ _ _ hI h
  · refine (ihE _ st hI).elim rfl fun _ hI => ?_
    split
    · exact .map_self _ fun _ h => H.setFieldI _ _ _ _ _ hI h
    · trivial
  · refine (ihE _ st hI).elim rfl fun _ hI => ?_
    split
    · refine (ihE _ _ hI).elim rfl fun _ hI => ?_
      split
      · apply OptLe.ite
        · split
          · exact .map_self _ fun _ _ => hI
          · trivial
        · trivial
      · trivial
    · refine (ihE _ _ hI).elim rfl fun _ hI => ?_
      split
      · exact .map_self _ fun _ h => H.setIndexI _ _ _ _ _ hI h
      · trivial
    · trivial
  · trivial

theorem le_assignAll {f g} (hfg : f ≤ g) : ∀ {ls vs st}, I st.w → OptLe (I ·.w) (assignAll W1 f ls vs st) (assignAll W2 g ls vs st)
  | [], [], _, hI => ⟨rfl, hI⟩
  | [], _ :: _, _, _ => trivial
  | _ :: _, [], _, _ => trivial
  | l :: ls, v :: vs, st, hI => by
    have h1 := le_assignTo H (lhs := l) (v := v) hfg hI
    simp only [assignAll]
    cases hE : assignTo W1 f l v st with
    | none => trivial
    | some x =>
      rw [hE] at h1
      rw [h1.1]; exact le_assignAll hfg h1.2

theorem le_stmt : ∀ f g, f ≤ g →
    (∀ s st, I st.w → OptLe (I ·.2.w) (execStmt W1 f s st) (execStmt W2 g s st)) ∧
    (∀ b st, I st.w → OptLe (I ·.2.w) (execBlock W1 f b st) (execBlock W2 g b st)) ∧
    (∀ c p b st, I st.w → OptLe (I ·.2.w) (loopFor W1 f c p b st) (loopFor W2 g c p b st)) ∧
    (∀ k v ad off n i b st, I st.w → OptLe (I ·.2.w) (loopRange W1 f k v ad off n i b st) (loopRange W2 g k v ad off n i b st)) ∧
    (∀ k v l i b st, I st.w → OptLe (I ·.2.w) (loopAnys W1 f k v l i b st) (loopAnys W2 g k v l i b st)) ∧
    (∀ cs st, I st.w → OptLe (I ·.2.w) (evalGuards W1 f cs st) (evalGuards W2 g cs st)) ∧
    (∀ bind v cs st, I st.w → OptLe (I ·.2.w) (switchCases W1 f bind v cs st) (switchCases W2 g bind v cs st)) ∧
    (∀ k v l b st, I st.w → OptLe (I ·.2.w) (loopPairs W1 f k v l b st) (loopPairs W2 g k v l b st))
  | 0, _, _ => ⟨fun _ _ _ => trivial, fun _ _ _ => trivial, fun _ _ _ _ _ => trivial, fun _ _ _ _ _ _ _ _ _ => trivial,
      fun _ _ _ _ _ _ _ => trivial, fun _ _ _ => trivial, fun _ _ _ _ _ => trivial, fun _ _ _ _ _ _ => trivial⟩
  | f + 1, 0, h => absurd h (Nat.not_succ_le_zero f)
  | f + 1, g + 1, h => by
    have hfg := Nat.le_of_succ_le_succ h
    obtain ⟨ihS, ihB, ihF, ihR, ihA, ihG, ihC, ihP⟩ := le_stmt f g hfg
    have ihE := fun e st => @le_evalExpr Ω I W1 W2 H f g e st hfg
    refine ⟨?_, ?_, ?_, ?_, ?_, ?_, ?_, ?_⟩
    · intro s st hI
      cases s with
      | define lhs rhs =>
        rw [execStmt, execStmt]
        refine (le_evalRhs H hfg hI).elim rfl fun _ hI => ?_
        split
        · exact .map_self _ fun _ _ => hI
        · trivial
      | declare x ty =>
        rw [execStmt, execStmt, ← H.global]
        split
        · exact ⟨rfl, hI⟩
        · exact .map_self _ fun _ _ => hI
      | assign lhs rhs =>
        rw [execStmt, execStmt]
        refine (le_evalRhs H hfg hI).elim rfl fun _ hI => ?_
        split
        · exact (le_assignAll H hfg hI).map fun _ h => h
        · trivial
      | ifS init cond thn els =>
        rw [execStmt, execStmt]
        refine (ihB init st hI).elim rfl fun _ hI => ?_
        split
        · refine (ihE cond _ hI).elim rfl fun _ hI => ?_
          split
          · exact (ihB thn _ hI).map fun _ h => h
          · exact (ihB els _ hI).map fun _ h => h
          · trivial
        · trivial
      | forS init cond post body =>
        rw [execStmt, execStmt]
        refine (ihB init st hI).elim rfl fun _ hI => ?_
        split
        · exact (ihF cond post body _ hI).map fun _ h => h
        · trivial
      | rangeS k v x body =>
        rw [execStmt, execStmt, ← H.rangeOf]
        refine (ihE x st hI).elim rfl fun _ hI => ?_
        split
        · exact ihR k v _ _ _ 0 body _ hI
        · exact ihA k v _ 0 body _ hI
        · exact ⟨rfl, hI⟩
        · split
          · exact ihP k v _ body _ hI
          · trivial
        · trivial
      | selectS cases =>
        rw [execStmt, execStmt, ← H.select]
        refine (ihG cases st hI).elim rfl fun _ hI => ?_
        split
        · split
          · split
            · exact (ihB _ _ (H.selectI _ _ _ hI ‹_›)).map fun _ h => h
            · trivial
          · trivial
        · trivial
      | typeSwitch bind x cases =>
        rw [execStmt, execStmt]
        refine (ihE x st hI).elim rfl fun _ hI => ?_
        split
        · exact ihC bind _ cases _ hI
        · trivial
      | ret es =>
        rw [execStmt.eq_def, execStmt.eq_def W2]
        simp only
        split
        · exact ⟨rfl, hI⟩
        · exact (le_evalArgs H hfg hI).map fun _ h => h
      | brk | cont => exact And.intro rfl hI
      | unsupported => trivial
      | incr x =>
        rw [execStmt, execStmt]
        split
        · exact .map_self _ fun _ _ => hI
        · trivial
      | expr e =>
        rw [execStmt.eq_def, execStmt.eq_def W2]
        simp only [← H.invokes]
        split
        · refine (ihE _ st hI).elim rfl fun _ hI => ?_
          split
          · apply OptLe.ite
            · refine (ihB _ _ hI).elim rfl fun _ hI => ?_
              split
              · exact ⟨rfl, hI⟩
              · exact ⟨rfl, hI⟩
              · trivial
            · refine (H.mcall_le _ _ _ _ _ hI).elim rfl fun _ hI => ?_
              split
              · exact ⟨rfl, hI⟩
              · trivial
          · trivial
        · exact (ihE e st hI).map fun _ h => h
      | deferS e | goS e =>
        rw [execStmt.eq_def, execStmt.eq_def W2]
        simp only
        split
        · refine (ihE _ st hI).elim rfl fun _ hI => ?_
          split
          · refine (H.mcall_le _ _ _ _ _ hI).elim rfl fun _ hI => ?_
            split
            · exact ⟨rfl, hI⟩
            · trivial
          · trivial
        · trivial
      | send ch v =>
        rw [execStmt, execStmt]
        refine (ihE ch st hI).elim rfl fun _ hI => ?_
        split
        · refine (ihE v _ hI).elim rfl fun _ hI => ?_
          split
          · refine (H.call_le _ _ _ _ hI).elim rfl fun _ hI => ?_
            split
            · exact ⟨rfl, hI⟩
            · trivial
          · trivial
        · trivial
    · intro b st hI
      rw [execBlock.eq_def, execBlock.eq_def W2]
      simp only
      split
      · exact ⟨rfl, hI⟩
      · refine (ihS _ st hI).elim rfl fun _ hI => ?_
        split
        · exact ihB _ _ hI
        · exact .same hI
    · intro c p b st hI
      rw [loopFor.eq_def, loopFor.eq_def W2]
      simp only
      refine (ihE c st hI).elim rfl fun _ hI => ?_
      split
      · exact ⟨rfl, hI⟩
      · refine (ihB b _ hI).elim rfl fun _ hI => ?_
        split
        · exact ⟨rfl, hI⟩
        · exact ⟨rfl, hI⟩
        · refine (ihB p (popSt _ _) hI).elim rfl fun _ hI => ?_
          split
          · exact ihF c p b _ hI
          · trivial
        · trivial
      · trivial
    · intro k v ad off n i b st hI
      rw [loopRange.eq_def, loopRange.eq_def W2]
      simp only
      apply OptLe.ite
      · cases heapGet st.heap ad (off + i) with
        | none => trivial
        | some r =>
          simp only
          refine (ihB b ⟨(st.env.push k (.int i)).push v (.result r), st.heap, st.w⟩ hI).elim rfl fun _ hI => ?_
          split
          · exact ⟨rfl, hI⟩
          · exact ⟨rfl, hI⟩
          · exact ihR k v ad off n (i + 1) b _ hI
          · trivial
      · exact ⟨rfl, hI⟩
    · intro k v l i b st hI
      cases l with
      | nil => exact And.intro rfl hI
      | cons x rest =>
        rw [loopAnys.eq_def, loopAnys.eq_def W2]
        simp only
        refine (ihB b ⟨(st.env.push k (.int i)).push v (.ofVal x), st.heap, st.w⟩ hI).elim rfl fun _ hI => ?_
        split
        · exact ⟨rfl, hI⟩
        · exact ⟨rfl, hI⟩
        · exact ihA k v rest (i + 1) b _ hI
        · trivial
    · intro cs st hI
      rw [evalGuards.eq_def, evalGuards.eq_def W2]
      simp only
      split
      · exact ⟨rfl, hI⟩
      · apply OptLe.ite
        · refine (ihE _ st hI).elim rfl fun _ hI => ?_
          split
          · exact (ihG _ _ hI).map fun _ h => h
          · trivial
        · trivial
      · trivial
    · intro bind v cs st hI
      rw [switchCases.eq_def, switchCases.eq_def W2]
      simp only [← H.assert]
      split
      · exact ⟨rfl, hI⟩
      · split
        · exact .map (ihB _ _ hI) fun _ h => h
        · exact ihC bind v _ st hI
        · trivial
      · exact .map (ihB _ _ hI) fun _ h => h
      · trivial
    · intro k v l b st hI
      cases l with
      | nil => exact And.intro rfl hI
      | cons x rest =>
        rw [loopPairs.eq_def, loopPairs.eq_def W2]
        simp only
        refine (ihB b ⟨(st.env.push k x.1).push v x.2, st.heap, st.w⟩ hI).elim rfl fun _ hI => ?_
        split
        · exact ⟨rfl, hI⟩
        · exact ⟨rfl, hI⟩
        · exact ihP k v rest b _ hI
        · trivial

theorem le_execBlock {f g b st} (hfg : f ≤ g) (hI : I st.w) : OptLe (I ·.2.w) (execBlock W1 f b st) (execBlock W2 g b st) :=
  (le_stmt H f g hfg).2.1 b st hI

theorem callFunc_le_of_le {f g fn args heap w r} (hfg : f ≤ g) (hI : I w) (h : callFunc W1 f fn args heap w = some r) :
    callFunc W2 g fn args heap w = some r := by
  unfold callFunc at h ⊢
  simp only at h ⊢
  split at h
  · exact absurd h (by simp)
  · rename_i env henv
    have hb := le_execBlock H (b := fn.body) (st := { env := env, heap := heap, w := w }) hfg hI
    cases hb1 : execBlock W1 f fn.body { env := env, heap := heap, w := w } with
    | none => simp [hb1] at h
    | some x => rw [hb1] at h hb; rw [hb.1]; exact h

/-- **the interpreter is monotone in the world**: a result in `W₁` (from a world state satisfying the invariant) is the result
    in `W₂`, at the same fuel. -/
theorem callFunc_le {f fn args heap w r} (hI : I w) (h : callFunc W1 f fn args heap w = some r) :
    callFunc W2 f fn args heap w = some r :=
  callFunc_le_of_le H (Nat.le_refl f) hI h
end

end Flyt.Refine
