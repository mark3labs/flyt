import FlytModel.GoIR.BindWorld
import FlytModel.Expected.IR
import FlytModel.Refine.Run
import FlytModel.Props.C16
/-!
# Refinement of `Result.Bind / MustBind` (result.go:291-334) and `SharedStore.Bind / MustBind` (flyt.go:378-423): their translated
source (`Flyt.Expected.IR`), run in the worlds of `GoIR/BindWorld.lean`, computes `resultBind / resultMustBind / storeBind /
storeMustBind` of `Model/Bind.lean` (property C16) — for every `Codec T V B E` over arbitrary universes (`reflect.TypeOf`,
`json.Marshal`, `json.Unmarshal` as arbitrary functions), every value, every destination (all four `Dest` shapes), every store / key.

Compared (`Obs`): returned values, final destination (also what a FAILING `json.Unmarshal` left behind), the codec's error, trace;
a panic is stuck (`none`). The returned error (`encErr`) is `.err (.user 0)` / `.err (.user 1)` for `marshal e` / `unmarshal e` — the
root of the codec's error, which survives the `%w` of `fmt.Errorf` (`containsW`; without `%w` it would be `.fw .other` and the theorems
false) — and `.err (.fw .other)` for each of `keyNotFound`, `nilResult`, `badDest` (the message is not part of `GV`, so which of
the three it is, is not observed; the first two are the model's answer exactly on `s key = none` / `value = none`).

`SharedStore.Bind` takes no lock of its own: the world runs the translated `SharedStore.Get` for `s.Get(key)` (`nested`), and `reflect`,
the identity `Set`, `json.Marshal(val)`, `json.Unmarshal` come AFTER its `RUnlock`. So a stored pointer / map / slice is read with no
lock held: concurrent MUTATION OF THE STORED OBJECT is not excluded by the store's mutex (replacing the value under the key is).
-/

namespace Flyt.Refine.BindR
open Flyt Flyt.GoIR Flyt.Bind Flyt.GoIR.BindW Flyt.Expected.IR Flyt.Refine
open Flyt.StoreConc (Mode)
set_option linter.unusedSimpArgs false

section steps
variable {Ω : Type} (W : World Ω)
theorem expr_sel (f : Nat) (a : Expr) (fl : String) (st : GoIR.St Ω) :
    evalExpr W (f + 1) (.sel a fl) st =
      match evalExpr W f a st with
      | some ([x], st1) => (W.field x fl st1.w).map fun v => ([v], st1)
      | _ => none := rfl
theorem expr_or (f : Nat) (a b : Expr) (st : GoIR.St Ω) :
    evalExpr W (f + 1) (.bin "||" a b) st =
        match evalExpr W f a st with
        | some ([.bool true], st1) => some ([.bool true], st1)
        | some ([.bool false], st1) =>
          (match evalExpr W f b st1 with
           | some ([.bool q], st2) => some ([.bool q], st2)
           | _ => none)
        | _ => none := rfl
theorem expr_not (f : Nat) (a : Expr) (st : GoIR.St Ω) :
    evalExpr W (f + 1) (.un "!" a) st =
      match evalExpr W f a st with
      | some ([.bool p], st1) => some ([.bool !p], st1)
      | _ => none := rfl
theorem expr_index (f : Nat) (a i : Expr) (st : GoIR.St Ω) :
    evalExpr W (f + 1) (.index a i) st =
      match evalExpr W f a st with
      | some ([.slice ad off n], st1) =>
        (match evalExpr W f i st1 with
         | some ([.int k], st2) =>
           if 0 ≤ k ∧ k.toNat < n then (heapGet st2.heap ad (off + k.toNat)).map fun r => ([.result r], st2) else none
         | _ => none)
      | some ([mv], st1) =>
        (match evalExpr W f i st1 with
         | some ([kv], st2) => (W.mapIndex mv kv st2.w).map fun (v, _) => ([v], st2)
         | _ => none)
      | _ => none := rfl
theorem stmt_expr_mcall_nil (f : Nat) (r : Expr) (m : String) (st : GoIR.St Ω) :
    execStmt W (f + 1) (.expr (.mcall r m .nil)) st = (evalExpr W f (.mcall r m .nil) st).map fun (_, st1) => (.next, st1) := rfl
theorem stmt_expr_mcall_call (f : Nat) (r : Expr) (m fn : String) (as : Exprs) (st : GoIR.St Ω) :
    execStmt W (f + 1) (.expr (.mcall r m (.cons (.call fn as) .nil))) st =
      (evalExpr W f (.mcall r m (.cons (.call fn as) .nil)) st).map fun (_, st1) => (.next, st1) := rfl
theorem stmt_expr_call (f : Nat) (fn : String) (args : Exprs) (st : GoIR.St Ω) :
    execStmt W (f + 1) (.expr (.call fn args)) st = (evalExpr W f (.call fn args) st).map fun (_, st1) => (.next, st1) := rfl
theorem stmt_defer (f : Nat) (r : Expr) (m : String) (st : GoIR.St Ω) :
    execStmt W (f + 1) (.deferS (.mcall r m .nil)) st =
      (match evalExpr W f r st with
       | some ([x], st1) =>
         (match W.mcall x ("defer:" ++ m) [] st1.heap st1.w with
          | some (_, h, w) => some (.next, { st1 with heap := h, w := w })
          | none => none)
       | _ => none) := rfl
end steps

theorem cwA : containsW "failed to marshal Result: %w" = true := containsW_of 60 _ (by decide +kernel)
theorem cwB : containsW "failed to marshal value: %w" = true := containsW_of 60 _ (by decide +kernel)
theorem cwC : containsW "failed to unmarshal to destination: %w" = true := containsW_of 60 _ (by decide +kernel)

section world
variable {T V B E : Type} [DecidableEq T] (c : Codec T V B E) (src : Option (Option V)) (kname : String)
local notation "W0" => baseWorld c src kname

theorem W0_valueOf (x : GV) (h : Heap) (w : BW T V B E) :
    (W0).call "reflect.ValueOf" [x] h w = (wValueOf x).map fun r => ([r], h, w) := rfl
theorem W0_typeOf (x : GV) (h : Heap) (w : BW T V B E) :
    (W0).call "reflect.TypeOf" [x] h w = (wTypeOf c src.join x w).map fun p => ([p.1], h, p.2) := rfl
theorem W0_marshal (x : GV) (h : Heap) (w : BW T V B E) :
    (W0).call "json.Marshal" [x] h w = (wMarshal c src.join x w).map fun p => (p.1, h, p.2) := rfl
theorem W0_unmarshal (bx dx : GV) (h : Heap) (w : BW T V B E) :
    (W0).call "json.Unmarshal" [bx, dx] h w = (wUnmarshal c bx dx w).map fun p => (p.1, h, p.2) := rfl
theorem W0_sprintf (l : List GV) (h : Heap) (w : BW T V B E) : (W0).call "fmt.Sprintf" l h w = some ([.str ""], h, w) := rfl
theorem W0_panic (l : List GV) (h : Heap) (w : BW T V B E) : (W0).call "panic" l h w = none := rfl
theorem W0_mu (i : Nat) (m : String) (h : Heap) (w : BW T V B E) :
    (W0).mcall (.ref "mutex" i) m [] h w = (muCall m w).map fun w' => ([], h, w') := rfl
theorem W0_typeElem (i : Nat) (h : Heap) (w : BW T V B E) :
    (W0).mcall (.ref "rtype" i) "Elem" [] h w = (wTypeElem w).map fun p => ([p.1], h, p.2) := rfl
theorem W0_set (i : Nat) (y : GV) (h : Heap) (w : BW T V B E) :
    (W0).mcall (.ref "elem" i) "Set" [y] h w = (wSet c src.join y w).map fun w' => ([], h, w') := rfl
theorem W0_kind_rv (i : Nat) (h : Heap) (w : BW T V B E) :
    (W0).mcall (.ref "rv" i) "Kind" [] h w = (wKind (.ref "rv" i) w).map fun r => ([r], h, w) := rfl
theorem W0_kind_rzero (i : Nat) (h : Heap) (w : BW T V B E) :
    (W0).mcall (.ref "rzero" i) "Kind" [] h w = (wKind (.ref "rzero" i) w).map fun r => ([r], h, w) := rfl
theorem W0_isNil_rv (i : Nat) (h : Heap) (w : BW T V B E) :
    (W0).mcall (.ref "rv" i) "IsNil" [] h w = (wIsNil (.ref "rv" i) w).map fun r => ([r], h, w) := rfl
theorem W0_type_rv (i : Nat) (h : Heap) (w : BW T V B E) :
    (W0).mcall (.ref "rv" i) "Type" [] h w = (wType (.ref "rv" i) w).map fun r => ([r], h, w) := rfl
theorem W0_elem_rv (i : Nat) (h : Heap) (w : BW T V B E) :
    (W0).mcall (.ref "rv" i) "Elem" [] h w = (wElem (.ref "rv" i) w).map fun r => ([r], h, w) := rfl
theorem W0_field_mu (i : Nat) (w : BW T V B E) : (W0).field (.ref "store" i) "mu" w = some muH := rfl
theorem W0_field_data (i : Nat) (w : BW T V B E) :
    (W0).field (.ref "store" i) "data" w = if w.held.isSome then some mapH else none := rfl
theorem W0_field_value (i : Nat) (w : BW T V B E) : (W0).field (.ref "result" i) "value" w = some (encV src.join) := rfl
theorem W0_field_ptr (i : Nat) (w : BW T V B E) : (W0).field (.ref "pkg:reflect" i) "Ptr" w = some (.int 22) := rfl
theorem W0_mapIndex (i : Nat) (k : String) (w : BW T V B E) :
    (W0).mapIndex (.ref "map" i) (.str k) w = mapGet src kname k w := rfl
theorem W0_global : (W0).global "reflect" = some reflectH := rfl

variable (getF bindF : Func) (fi : Nat)
local notation "W1" => bindWorld c src kname getF fi
local notation "W2" => mustWorld c src kname getF bindF fi

theorem W1_call : (W1).call = (W0).call := rfl
theorem W1_field : (W1).field = (W0).field := rfl
theorem W1_mapIndex : (W1).mapIndex = (W0).mapIndex := rfl
theorem W1_global : (W1).global = (W0).global := rfl
theorem W1_Get (i : Nat) (args : List GV) (h : Heap) (w : BW T V B E) :
    (W1).mcall (.ref "store" i) "Get" args h w = nested W0 fi getF (.ref "store" i :: args) h w := rfl
theorem W1_mcall_rv (i : Nat) (m : String) (args : List GV) (h : Heap) (w : BW T V B E) :
    (W1).mcall (.ref "rv" i) m args h w = (W0).mcall (.ref "rv" i) m args h w := rfl
theorem W1_mcall_rzero (i : Nat) (m : String) (args : List GV) (h : Heap) (w : BW T V B E) :
    (W1).mcall (.ref "rzero" i) m args h w = (W0).mcall (.ref "rzero" i) m args h w := rfl
theorem W1_mcall_rtype (i : Nat) (m : String) (args : List GV) (h : Heap) (w : BW T V B E) :
    (W1).mcall (.ref "rtype" i) m args h w = (W0).mcall (.ref "rtype" i) m args h w := rfl
theorem W1_mcall_elem (i : Nat) (m : String) (args : List GV) (h : Heap) (w : BW T V B E) :
    (W1).mcall (.ref "elem" i) m args h w = (W0).mcall (.ref "elem" i) m args h w := rfl

theorem W2_call : (W2).call = (W0).call := rfl
theorem W2_Bind_store (i : Nat) (args : List GV) (h : Heap) (w : BW T V B E) :
    (W2).mcall (.ref "store" i) "Bind" args h w = nested W1 fi bindF (.ref "store" i :: args) h w := rfl
theorem W2_Bind_result (i : Nat) (args : List GV) (h : Heap) (w : BW T V B E) :
    (W2).mcall (.ref "result" i) "Bind" args h w = nested W1 fi bindF (.ref "result" i :: args) h w := rfl
end world

attribute [local simp] block_nil block_cons stmt_define stmt_if stmt_ret_cons expr_var expr_str expr_bin expr_call expr_mcall
  args_nil args_one args_cons evalRhs isCommaOk evalCommaOk Env.get Env.push Env.pushAll popSt Env.popTo GV.eqv GV.isNil errorf Exprs.length
  expr_sel expr_or expr_not expr_index stmt_expr_mcall_nil stmt_expr_mcall_call stmt_expr_call stmt_defer
  fwTagOf callFunc exitDefers runDefers
  W1_call W1_field W1_mapIndex W1_global W1_Get W1_mcall_rv W1_mcall_rzero W1_mcall_rtype W1_mcall_elem
  W2_call W2_Bind_store W2_Bind_result
  W0_valueOf W0_typeOf W0_marshal W0_unmarshal W0_sprintf W0_panic W0_mu W0_typeElem W0_set W0_kind_rv W0_kind_rzero
  W0_isNil_rv W0_type_rv W0_elem_rv W0_field_mu W0_field_data W0_field_value W0_field_ptr W0_mapIndex W0_global
  rH sH muH mapH valH destRefH rzeroH rvH rvalH rtypeH elemH bytesH reflectH
  encV destH kindCode encJErr decV intern idxT wValueOf wTypeOf wKind wIsNil wType wTypeElem wElem wSet wMarshal wUnmarshal
  acquire release muCall mapGet

section get
variable {T V B E : Type} [DecidableEq T] (c : Codec T V B E) (src : Option (Option V)) (kname : String)

theorem get_run (k : Nat) (h : Heap) (d : Dest T V) (tys : List T) (bs : Option B) (je : Option E) (ds : List Mode)
    (tr : List (BEv T V B)) :
    nested (baseWorld c src kname) (k + 8) SharedStore_Get [.ref "store" 0, .str kname] h ⟨d, tys, bs, je, none, ds, tr⟩ =
      some ([encV src.join, .bool src.isSome], h, ⟨d, tys, bs, je, none, ds, tr ++ critR⟩) := by
  unfold nested
  simp [SharedStore_Get, critR]
end get

section bind
variable {T V B E : Type} [DecidableEq T] (c : Codec T V B E)

/-- the final world state of a `Bind` that returns, against the model's outcome: everything a caller can go on from -/
def Final (w' : BW T V B E) (locks : List (BEv T V B)) (o : Bind.Outcome T V B E) : Prop :=
  w'.dest = o.dest ∧ w'.jerr = errPayload o.err ∧ w'.tr = locks ++ o.calls.map .json ∧ w'.defers = [] ∧ w'.held = none

/-- what a (nested or outermost) run of `Bind` does, against the model's answer -/
def BindSpec (r : Option (List GV × Heap × BW T V B E)) (locks : List (BEv T V B)) : Res (Bind.Outcome T V B E) → Prop
  | .panic => r = none
  | .ok o => ∃ w', r = some ([encErr o.err], [], w') ∧ Final w' locks o

/-- the same of a block of its body that ends in `return err` -/
def RetSpec (r : Option (Ctl × St (BW T V B E))) (locks : List (BEv T V B)) : Res (Bind.Outcome T V B E) → Prop
  | .panic => r = none
  | .ok o => ∃ st, r = some (.ret [encErr o.err], st) ∧ st.heap = [] ∧ Final st.w locks o

omit [DecidableEq T] in
theorem nested_of_ret {W : World (BW T V B E)} {f : Func} {fuel : Nat} {args : List GV} {env : GoIR.Env} {w : BW T V B E}
    {r : Option (Ctl × St (BW T V B E))} {locks : List (BEv T V B)} {m : Res (Bind.Outcome T V B E)}
    (henv : Env.pushAll [] ((if f.recv == "" then [] else [f.recv]) ++ f.params) args = some env)
    (hbody : execBlock W fuel f.body ⟨env, [], w⟩ = r) (hw : w.defers = []) (h : RetSpec r locks m) :
    BindSpec (nested W fuel f args [] w) locks m := by
  unfold nested callFunc
  simp only [henv, hbody, hw]
  cases m with
  | panic => rw [show r = none from h]; rfl
  | ok o =>
    obtain ⟨⟨env', hp, d', tys, bs, je, hl, df, tr⟩, rfl, rfl, hf⟩ := h
    cases (show df = [] from hf.2.2.2.1)
    exact ⟨_, rfl, hf⟩

/-- `Bind` from `jsonBytes, err := json.Marshal(…)` on -/
def jsonTail (e : Expr) (msg : String) : Block := B[
  (.define ["jsonBytes", "err"] E[(.call "json.Marshal" E[e])]),
  (.ifS B[] (.bin "!=" (.var "err") (.var "nil")) B[
    (.ret E[(.call "fmt.Errorf" E[(.str msg), (.var "err")])])] B[]),
  (.ifS B[(.define ["err"] E[(.call "json.Unmarshal" E[(.var "jsonBytes"), (.var "dest")])])] (.bin "!=" (.var "err") (.var "nil")) B[
    (.ret E[(.call "fmt.Errorf" E[(.str "failed to unmarshal to destination: %w"), (.var "err")])])] B[]),
  (.ret E[(.var "nil")])]

/-- `Bind` from `rv := reflect.ValueOf(dest)` on: the two methods differ only in the expression `e` that reads the value
    (`r.value` / `val`) and in the message of the marshal error -/
def bindTail (e : Expr) (msg : String) : Block :=
  .cons (.define ["rv"] E[(.call "reflect.ValueOf" E[(.var "dest")])]) <|
  .cons (.ifS B[] (.bin "||" (.bin "!=" (.mcall (.var "rv") "Kind" E[]) (.sel (.var "reflect") "Ptr")) (.mcall (.var "rv") "IsNil" E[])) B[
    (.ret E[(.call "fmt.Errorf" E[(.str "destination must be a non-nil pointer")])])] B[]) <|
  .cons (.define ["valType"] E[(.call "reflect.TypeOf" E[e])]) <|
  .cons (.define ["destType"] E[(.mcall (.mcall (.var "rv") "Type" E[]) "Elem" E[])]) <|
  .cons (.ifS B[] (.bin "==" (.var "valType") (.var "destType")) B[
    (.expr (.mcall (.mcall (.var "rv") "Elem" E[]) "Set" E[(.call "reflect.ValueOf" E[e])])),
    (.ret E[(.var "nil")])] B[]) <|
  jsonTail e msg

attribute [local simp] RetSpec BindSpec Final bindVal bindVal_ptr jsonRoundTrip Res.bind Dest.kind Dest.isNil Dest.elemType Dest.set
  Dest.unmarshalInto encErr errPayload

omit [DecidableEq T] in
theorem decV_encV (val : Option V) : decV val (encV val) = some val := by
  cases val <;> rfl

section tail
variable (src : Option (Option V)) (kname : String) (getF : Func) (fi : Nat) (e : Expr) (msg : String) (hmsg : containsW msg = true)
  (env : GoIR.Env) (locks : List (BEv T V B)) (val : Option V) (hv : src.join = val)
  (hfree : ∀ x ∈ ["reflect", "nil", "reflect.ValueOf", "reflect.TypeOf", "json.Marshal", "json.Unmarshal"], Env.get env x = none)
  (he3 : ∀ f a b x h w, evalExpr (bindWorld c src kname getF fi) (f + 2) e ⟨("destType", a) :: ("valType", b) :: ("rv", x) :: env, h, w⟩ =
    some ([encV val], ⟨("destType", a) :: ("valType", b) :: ("rv", x) :: env, h, w⟩))
include hmsg hv hfree he3

/-- The JSON round trip into a valid destination, once per outcome of the codec, in any environment in which `e` reads the value. -/
theorem json_spec (t : T) (cur : V) (hd : Env.get env "dest" = some destRefH) (a b x : GV) (tys : List T) (k : Nat) :
    RetSpec (execBlock (bindWorld c src kname getF fi) (k + 11) (jsonTail e msg)
        ⟨("destType", a) :: ("valType", b) :: ("rv", x) :: env, [], ⟨.ptr t cur, tys, none, none, none, [], locks⟩⟩) locks
      (.ok (jsonRoundTrip c val t cur)) := by
  simp only [List.forall_mem_cons] at hfree
  obtain ⟨-, hn, -, -, h3, h4, -⟩ := hfree
  cases hm : c.marshal val with
  | error e' => simp [jsonTail, decV_encV, -encV, -decV, *]
  | ok b => cases hu : (c.unmarshal b t cur).2 <;> simp [jsonTail, decV_encV, -encV, -decV, cwC, *]

/-- The shared part, run once per path of the program, in any environment that binds `dest` and in which `e` reads the value
    wherever the block evaluates it (after `rv` resp. `destType` has been declared). -/
theorem tail_spec (d : Dest T V) (hd : Env.get env "dest" = some (destH d))
    (he1 : ∀ f a h w, evalExpr (bindWorld c src kname getF fi) (f + 2) e ⟨("rv", a) :: env, h, w⟩ =
      some ([encV val], ⟨("rv", a) :: env, h, w⟩))
    (k : Nat) :
    RetSpec (execBlock (bindWorld c src kname getF fi) (k + 16) (bindTail e msg) ⟨env, [], { dest := d, tr := locks }⟩) locks
      (bindVal c val d) := by
  have hj := json_spec c src kname getF fi e msg hmsg env locks val hv hfree he3
  simp only [List.forall_mem_cons] at hfree
  obtain ⟨hr, hn, h1, h2, -⟩ := hfree
  cases d with
  | ptr t cur =>
    by_cases ht : val.map c.typeOf = some t
    · obtain ⟨v, rfl, rfl⟩ := Option.map_eq_some_iff.1 ht
      simp [bindTail, *]
    · rw [bindVal_other c val t cur ht]
      cases val with
      | none => simpa [bindTail, -RetSpec, -jsonRoundTrip, *] using hj t cur hd (.int 0) .nil rvH [t] k
      | some v =>
        have ht1 : c.typeOf v ≠ t := fun h => ht (congrArg some h)
        have ht2 : t ≠ c.typeOf v := fun h => ht1 h.symm
        simpa [bindTail, -RetSpec, -jsonRoundTrip, *] using hj t cur hd (.int 1) (.int 0) rvH [c.typeOf v, t] k
  | _ => simp [bindTail, *]
end tail

theorem resultBind_core (k : Nat) (value : Option V) (d : Dest T V) (kname : String) (getF : Func) (fi : Nat) :
    BindSpec (nested (bindWorld c (some value) kname getF fi) (k + 17) Result_Bind [rH, destH d] [] { dest := d }) []
      (resultBind c value d) := by
  cases value with
  | none =>
    unfold nested
    simp [Result_Bind, resultBind]
  | some v =>
    have hb : Result_Bind = ⟨_, _, _, .cons _ (bindTail _ _)⟩ := rfl
    refine nested_of_ret rfl ?_ rfl
      (tail_spec c (some (some v)) kname getF fi (.sel (.var "r") "value") _ cwA [("dest", destH d), ("r", rH)] [] (some v)
        rfl (by simp) (by simp) d rfl (by simp) k)
    simp [hb]

/-- `storeBind` as a function of what the store holds under the key -/
def storeBindAt (src : Option (Option V)) (d : Dest T V) : Res (Bind.Outcome T V B E) :=
  match src with
  | none => .ok ⟨some .keyNotFound, d, []⟩
  | some val => bindVal c val d

theorem storeBind_eq {K : Type} (s : Store K V) (key : K) (d : Dest T V) :
    storeBind c s key d = (storeBindAt c (s key) d, s) := by
  unfold storeBind storeBindAt
  cases s key <;> rfl

theorem storeBind_core (ki k : Nat) (src : Option (Option V)) (kname : String) (d : Dest T V) :
    BindSpec (nested (bindWorld c src kname SharedStore_Get (ki + 8)) (k + 18) SharedStore_Bind [sH, .str kname, destH d] []
      { dest := d }) critR (storeBindAt c src d) := by
  cases src with
  | none =>
    unfold nested
    simp [get_run, SharedStore_Bind, storeBindAt]
  | some val =>
    have hb : SharedStore_Bind = ⟨_, _, _, .cons _ (.cons _ (bindTail _ _))⟩ := rfl
    refine nested_of_ret rfl ?_ rfl
      (tail_spec c (some val) kname SharedStore_Get (ki + 8) (.var "val") _ cwB
        [("ok", .bool true), ("val", encV val), ("dest", destH d), ("key", .str kname), ("s", sH)] critR val rfl (by simp)
        (by simp) d rfl (by simp) k)
    simp [get_run, hb]
end bind

section must
variable {T V B E : Type} [DecidableEq T] (c : Codec T V B E)

/-- every error of `Bind` is a non-nil `error`: all that `MustBind` asks of it -/
theorem encErr_some {E : Type} (e : Err E) : ∃ r, encErr (some e) = .err r := by
  cases e <;> exact ⟨_, rfl⟩

end must

section headline
variable {K T V B E : Type} [DecidableEq T] (c : Codec T V B E)

omit [DecidableEq T] in
theorem observe_of_spec {r : Option (List GV × Heap × BW T V B E)} {locks : List (BEv T V B)} {m : Res (Bind.Outcome T V B E)}
    (h : BindSpec r locks m) : observe r = encBind locks m := by
  cases m with
  | panic => simp only [BindSpec] at h; subst h; rfl
  | ok o =>
    obtain ⟨w', rfl, hd, hj, ht, _, _⟩ := h
    simp [observe, encBind, hd, hj, ht]

/-- the recursion depth of the executable test -/
def F : Nat := 40

/-- C16: `Result.Bind` (result.go:291) refines `resultBind`. -/
theorem Result_Bind_refines_of_le (value : Option V) (d : Dest T V) (fuel : Nat) (h : 17 ≤ fuel) :
    runResultBind c fuel Result_Bind value d = encBind [] (resultBind c value d) := by
  obtain ⟨k, rfl⟩ := Nat.exists_eq_add_of_le' h
  exact observe_of_spec (resultBind_core c k value d "" noFunc 0)

/-- C16: `SharedStore.Bind` (flyt.go:378) refines `storeBind`; the trace is the critical section of the `Get` it calls, then — after
    the unlock — the model's calls into the codec. -/
theorem SharedStore_Bind_refines_of_le (s : Store K V) (key : K) (kname : String) (d : Dest T V) (fuelIn fuel : Nat)
    (hi : 8 ≤ fuelIn) (h : 18 ≤ fuel) :
    runStoreBind c (s key) kname fuelIn fuel SharedStore_Get SharedStore_Bind d = encBind critR (storeBind c s key d).1 := by
  obtain ⟨ki, rfl⟩ := Nat.exists_eq_add_of_le' hi
  obtain ⟨k, rfl⟩ := Nat.exists_eq_add_of_le' h
  rw [storeBind_eq]
  exact observe_of_spec (storeBind_core c ki k (s key) kname d)

attribute [local simp] mustOf encMust callsOf observe encErr errPayload in
/-- `Result.MustBind` (result.go:330) refines `resultMustBind`; both of the model's panics are stuck. -/
theorem Result_MustBind_refines_of_le (value : Option V) (d : Dest T V) (fuelIn fuel : Nat) (hi : 17 ≤ fuelIn) (h : 10 ≤ fuel) :
    runResultMust c fuelIn fuel Result_Bind Result_MustBind value d =
      encMust ((callsOf (resultBind c value d)).map .json) (resultMustBind c value d) := by
  obtain ⟨ki, rfl⟩ := Nat.exists_eq_add_of_le' hi
  obtain ⟨k, rfl⟩ := Nat.exists_eq_add_of_le' h
  have hcore := resultBind_core c ki value d "" noFunc (ki + 17)
  unfold runResultMust nested resultMustBind
  simp only [rH] at hcore
  generalize destH d = dh at hcore ⊢
  generalize resultBind c value d = m at hcore ⊢
  cases m with
  | panic => simp [Result_MustBind, show _ = none from hcore]
  | ok o =>
    obtain ⟨w', hB, hd, hj, ht, hdf, hh⟩ := hcore
    obtain ⟨err, od, calls⟩ := o
    cases err with
    | none => simp [Result_MustBind, hB, hd, hj, ht, hdf]
    | some e =>
      obtain ⟨r, hr⟩ := encErr_some e
      rw [hr] at hB
      simp [Result_MustBind, hB]

attribute [local simp] mustOf encMust callsOf observe encErr errPayload in
/-- `SharedStore.MustBind` (flyt.go:419) refines `storeMustBind`. -/
theorem SharedStore_MustBind_refines_of_le (s : Store K V) (key : K) (kname : String) (d : Dest T V) (fuelIn fuel : Nat)
    (hi : 18 ≤ fuelIn) (h : 10 ≤ fuel) :
    runStoreMust c (s key) kname fuelIn fuel SharedStore_Get SharedStore_Bind SharedStore_MustBind d =
      encMust (critR ++ (callsOf (storeBind c s key d).1).map .json) (storeMustBind c s key d).1 := by
  obtain ⟨ki, rfl⟩ := Nat.exists_eq_add_of_le' hi
  obtain ⟨k, rfl⟩ := Nat.exists_eq_add_of_le' h
  have hcore := storeBind_core c (ki + 10) ki (s key) kname d
  rw [show ki + 10 + 8 = ki + 18 from rfl] at hcore
  simp only [storeMustBind, storeBind_eq]
  unfold runStoreMust nested
  simp only [sH] at hcore
  generalize destH d = dh at hcore ⊢
  generalize storeBindAt c (s key) d = m at hcore ⊢
  cases m with
  | panic => simp [SharedStore_MustBind, show _ = none from hcore]
  | ok o =>
    obtain ⟨w', hB, hd, hj, ht, hdf, hh⟩ := hcore
    obtain ⟨err, od, calls⟩ := o
    cases err with
    | none => simp [SharedStore_MustBind, hB, hd, hj, ht, hdf]
    | some e =>
      obtain ⟨r, hr⟩ := encErr_some e
      rw [hr] at hB
      simp [SharedStore_MustBind, hB]

theorem Result_Bind_refines (value : Option V) (d : Dest T V) :
    runResultBind c F Result_Bind value d = encBind [] (resultBind c value d) :=
  Result_Bind_refines_of_le c value d F (by decide)
theorem SharedStore_Bind_refines (s : Store K V) (key : K) (kname : String) (d : Dest T V) :
    runStoreBind c (s key) kname F F SharedStore_Get SharedStore_Bind d = encBind critR (storeBind c s key d).1 :=
  SharedStore_Bind_refines_of_le c s key kname d F F (by decide) (by decide)
theorem Result_MustBind_refines (value : Option V) (d : Dest T V) :
    runResultMust c F F Result_Bind Result_MustBind value d =
      encMust ((callsOf (resultBind c value d)).map .json) (resultMustBind c value d) :=
  Result_MustBind_refines_of_le c value d F F (by decide) (by decide)
theorem SharedStore_MustBind_refines (s : Store K V) (key : K) (kname : String) (d : Dest T V) :
    runStoreMust c (s key) kname F F SharedStore_Get SharedStore_Bind SharedStore_MustBind d =
      encMust (critR ++ (callsOf (storeBind c s key d).1).map .json) (storeMustBind c s key d).1 :=
  SharedStore_MustBind_refines_of_le c s key kname d F F (by decide) (by decide)

omit [DecidableEq T] in
theorem encBind_isSome (locks : List (BEv T V B)) (m : Res (Bind.Outcome T V B E)) : (encBind locks m).isSome = !m.isPanic := by
  cases m <;> rfl

/-- the source is stuck exactly where the model panics -/
theorem Result_Bind_stuck_iff (value : Option V) (d : Dest T V) (fuel : Nat) (h : 17 ≤ fuel) :
    runResultBind c fuel Result_Bind value d = none ↔ (resultBind c value d).isPanic = true := by
  rw [Result_Bind_refines_of_le c value d fuel h]
  cases resultBind c value d <;> simp [encBind, Res.isPanic]

theorem SharedStore_Bind_stuck_iff (s : Store K V) (key : K) (kname : String) (d : Dest T V) (fuelIn fuel : Nat)
    (hi : 8 ≤ fuelIn) (h : 18 ≤ fuel) :
    runStoreBind c (s key) kname fuelIn fuel SharedStore_Get SharedStore_Bind d = none ↔ (storeBind c s key d).1.isPanic = true := by
  rw [SharedStore_Bind_refines_of_le c s key kname d fuelIn fuel hi h]
  cases (storeBind c s key d).1 <;> simp [encBind, Res.isPanic]

/-- C16, `Result.Bind` never panics: for every codec, value and destination (untyped nil, non-pointer, typed nil pointer, pointer)
    the interpreted source returns, i.e. never reaches a `reflect` call Go would panic on (those are stuck in `bindWorld`). By
    `Props.C16.never_panics`, the theorem about the ORDER of the guards `rv.Kind() != reflect.Ptr || rv.IsNil()` before
    `rv.Type().Elem()` and `rv.Elem().Set`. -/
theorem Result_Bind_never_stuck (value : Option V) (d : Dest T V) (fuel : Nat) (h : 17 ≤ fuel) :
    (runResultBind c fuel Result_Bind value d).isSome = true := by
  rw [Result_Bind_refines_of_le c value d fuel h, encBind_isSome, (Props.C16.never_panics c (fun _ : Unit => none) () value d).2]
  rfl

/-- C16, `SharedStore.Bind` never panics. -/
theorem SharedStore_Bind_never_stuck (s : Store K V) (key : K) (kname : String) (d : Dest T V) (fuelIn fuel : Nat)
    (hi : 8 ≤ fuelIn) (h : 18 ≤ fuel) :
    (runStoreBind c (s key) kname fuelIn fuel SharedStore_Get SharedStore_Bind d).isSome = true := by
  rw [SharedStore_Bind_refines_of_le c s key kname d fuelIn fuel hi h, encBind_isSome, (Props.C16.never_panics c s key none d).1]
  rfl

/-- `MustBind` is stuck (panics) exactly when `Bind` returns an error — never because of a panic inside `Bind` -/
theorem Result_MustBind_stuck_iff (value : Option V) (d : Dest T V) (fuelIn fuel : Nat) (hi : 17 ≤ fuelIn) (h : 10 ≤ fuel) :
    runResultMust c fuelIn fuel Result_Bind Result_MustBind value d = none ↔
      ∃ o e, resultBind c value d = .ok o ∧ o.err = some e := by
  rw [Result_MustBind_refines_of_le c value d fuelIn fuel hi h]
  obtain ⟨o, ho, hm⟩ := Props.C16.mustBind_panics_iff_bind_errs c value d
  rw [hm, ho]
  cases he : o.err <;> simp [encMust, he]

theorem SharedStore_MustBind_stuck_iff (s : Store K V) (key : K) (kname : String) (d : Dest T V) (fuelIn fuel : Nat)
    (hi : 18 ≤ fuelIn) (h : 10 ≤ fuel) :
    runStoreMust c (s key) kname fuelIn fuel SharedStore_Get SharedStore_Bind SharedStore_MustBind d = none ↔
      ∃ o e, (storeBind c s key d).1 = .ok o ∧ o.err = some e := by
  rw [SharedStore_MustBind_refines_of_le c s key kname d fuelIn fuel hi h]
  obtain ⟨o, ho, hm⟩ := Props.C16.store_mustBind_panics_iff_bind_errs c s key d
  rw [hm, ho]
  cases he : o.err <;> simp [encMust, he]

/-- C16, identity fast path: a value of the destination's element type is copied, no call into the codec -/
theorem Result_Bind_same_type (v : V) (t : T) (cur : V) (ht : c.typeOf v = t) (fuel : Nat) (h : 17 ≤ fuel) :
    runResultBind c fuel Result_Bind (some v) (.ptr t cur) = some ([.nil], .ptr t v, none, []) := by
  rw [Result_Bind_refines_of_le c _ _ fuel h, (Props.C16.same_type_identity c (fun _ : Unit => some (some v)) () v t cur rfl ht).2]
  rfl

/-- otherwise: the JSON round trip -/
theorem Result_Bind_other_type (v : V) (t : T) (cur : V) (ht : c.typeOf v ≠ t) (fuel : Nat) (h : 17 ≤ fuel) :
    runResultBind c fuel Result_Bind (some v) (.ptr t cur) = encBind [] (.ok (jsonRoundTrip c (some v) t cur)) := by
  rw [Result_Bind_refines_of_le c _ _ fuel h, (Props.C16.other_type_is_json c (fun _ : Unit => some (some v)) () v t cur rfl ht).2]

/-- the two `Bind`s agree on every stored non-nil value, up to the critical section of `Get` -/
theorem store_result_agree (s : Store K V) (key : K) (kname : String) (v : V) (d : Dest T V) (hs : s key = some (some v))
    (fuelIn fuel fuel' : Nat) (hi : 8 ≤ fuelIn) (h : 18 ≤ fuel) (h' : 17 ≤ fuel') :
    runStoreBind c (s key) kname fuelIn fuel SharedStore_Get SharedStore_Bind d =
      (runResultBind c fuel' Result_Bind (some v) d).map fun o => (o.1, o.2.1, o.2.2.1, critR ++ o.2.2.2) := by
  rw [SharedStore_Bind_refines_of_le c s key kname d fuelIn fuel hi h, Result_Bind_refines_of_le c _ _ fuel' h',
    Props.C16.store_result_agree c s key v d hs]
  cases resultBind c (some v) d <;> simp [encBind]

omit [DecidableEq T] in
theorem disc_json (h : Option Mode) (l : List (Call T V B)) :
    discAux true h (l.map BEv.json) = h.isNone := by
  induction l with
  | nil => rfl
  | cons a l ih => cases h <;> simp_all [discAux]

/-- every trace of `SharedStore.Bind` is disciplined: the lock is taken once, in mode `R`, released by the deferred unlock before
    `Get` returns, nothing is held at the end — and every call into `encoding/json` (as `reflect.Value.Set`: no event, but it comes
    after `Get` too) happens AFTER the unlock, on the interface value `Get` returned -/
theorem SharedStore_Bind_disciplined (s : Store K V) (key : K) (kname : String) (d : Dest T V) (fuelIn fuel : Nat)
    (hi : 8 ≤ fuelIn) (h : 18 ≤ fuel) :
    ∃ vs d' je tr, runStoreBind c (s key) kname fuelIn fuel SharedStore_Get SharedStore_Bind d = some (vs, d', je, tr) ∧
      disciplined tr = true := by
  rw [SharedStore_Bind_refines_of_le c s key kname d fuelIn fuel hi h]
  have hnp := (Props.C16.never_panics c s key none d).1
  cases hm : (storeBind c s key d).1 with
  | panic => simp [hm, Res.isPanic] at hnp
  | ok o =>
    refine ⟨_, _, _, _, rfl, ?_⟩
    simp [disciplined, critR, discAux, disc_json]

/-- the guard of the map read: `s.data[k]` answers only while the goroutine holds the lock -/
theorem guard_mapIndex (src : Option (Option V)) (kname k : String) (i : Nat) (w : BW T V B E) {r : GV × Bool}
    (h : (baseWorld c src kname).mapIndex (.ref "map" i) (.str k) w = some r) : w.held.isSome = true := by
  rw [W0_mapIndex] at h
  unfold mapGet at h
  split at h
  · split at h
    · assumption
    · cases h
  · cases h

/-- … and so does the field `s.data` -/
theorem guard_data (src : Option (Option V)) (kname : String) (i : Nat) (w : BW T V B E) {r : GV}
    (h : (baseWorld c src kname).field (.ref "store" i) "data" w = some r) : w.held.isSome = true := by
  rw [W0_field_data] at h
  split at h
  · assumption
  · cases h
end headline

end Flyt.Refine.BindR
