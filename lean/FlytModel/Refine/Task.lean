import FlytModel.GoIR.TaskWorld
import FlytModel.Model.BatchConc
import FlytModel.Expected.IR
import FlytModel.Refine.ConcSerial
/-!
# Refinement: the task closure of `runBatchConcurrent` (batch.go:281-311), one goroutine's view, for ALL schedules

The closure that `runBatchConcurrent` submits to the pool (closure 0 of its translation, the `closBody` of `Refine/ConcSerial.lean`) is
run in `taskWorld` (`GoIR/TaskWorld.lean`), which follows ONE task goroutine and records as a trace what it does to the objects it
shares with the others (`mu`, `shouldStop`, `results`, the context, the item call). Nothing is assumed about the other goroutines:
what they make of `shouldStop` between this goroutine's critical sections is a parameter (`TW.incoming`, arbitrary). The last part
reads the trace as steps of the LTS of `Model/BatchConc.lean`.

Fuel: the `…_of_le` theorems hold at every depth ≥ 15, the least depth at which the longest path (plain value → `NewResult`) is not
stuck (`GoIR/TaskTest.lean`; 10 / 12 on the stop / cancelled path).
-/
namespace Flyt.Refine.Task
open Flyt Flyt.GoIR Flyt.GoIR.TaskW Flyt.Refine
open Flyt.Conc (Cfg Pc BState Label apply pcOf setPc finish setSlot)
set_option linter.unusedSimpArgs false
set_option linter.unusedVariables false

/-- the task closure of the expected translation of `runBatchConcurrent`, with what it captures as parameters -/
def taskFn : Func := { name := "runBatchConcurrent.func", recv := "", params := captured, body := closBody }

theorem closuresOf_runBatchConcurrent :
    closuresOf Flyt.Expected.IR.runBatchConcurrent = [{ name := "runBatchConcurrent.func", recv := "", params := [], body := closBody }] := rfl
theorem taskOf_eq : taskOf Flyt.Expected.IR.runBatchConcurrent = taskFn := rfl

@[simp] theorem flagAtLock_mk (s : Bool) (inc : List Bool) (h : Bool) (c : Ctx) (o : ItemOut) (sl : List Result) (tr : List TAct) :
    TW.flagAtLock ⟨s, inc, h, c, o, sl, tr⟩ = inc.headD s := rfl

/-- an access to `shouldStop` that is not stuck was made with `mu` held -/
theorem readVar_guard (x : String) (w : TW) (v : GV) (h : taskWorld.readVar x w = some v) :
    x = "shouldStop" ∧ w.held = true ∧ v = .bool w.stop := by
  simp only [taskWorld] at h
  by_cases hx : (x == "shouldStop") = true
  · cases hh : w.held <;> simp [hx, hh] at h
    exact ⟨by simpa using hx, rfl, h.symm⟩
  · simp [hx] at h

theorem writeVar_guard (x : String) (v : GV) (w w' : TW) (h : taskWorld.writeVar x v w = some w') :
    x = "shouldStop" ∧ w.held = true ∧ ∃ b, v = .bool b ∧ w' = emit { w with stop := b } (.setStop b) := by
  simp only [taskWorld] at h
  by_cases hx : (x == "shouldStop") = true
  · cases v <;> simp [hx] at h
    case bool b =>
      cases hh : w.held <;> simp [hh] at h
      exact ⟨by simpa using hx, rfl, b, rfl, h.symm⟩
  · simp [hx] at h

/-- no other variable of the closure lives in the world -/
theorem readVar_other (x : String) (w : TW) (hx : x ≠ "shouldStop") : taskWorld.readVar x w = none :=
  if_neg (by simpa using hx)

theorem slotOf_err (x : Val) (e : ErrRoot) : slotOf ⟨x, some e⟩ = newErrorResult e := rfl
theorem slotOf_result (x : Val) (e : Option ErrRoot) : slotOf ⟨.res x e, none⟩ = ⟨x, e⟩ := rfl
theorem slotOf_plain (t : Nat) : slotOf ⟨.tok t, none⟩ = newResult (.tok t) := rfl
theorem slotOf_ok (x : Val) : slotOf ⟨x, none⟩ = slotOfVal x := rfl

theorem taskSem_frame (eh : String) (idx : Nat) (item : Result) (w : TW) :
    (taskSem eh idx item w).held = w.held ∧ (taskSem eh idx item w).ctx = w.ctx ∧ (taskSem eh idx item w).out = w.out := by
  cases h1 : (w.flagAtLock && eh == "stop") <;> cases h2 : w.ctx.isDone <;> simp [taskSem, h1, h2]

theorem taskSem_trace (eh : String) (idx : Nat) (item : Result) (w : TW) :
    (taskSem eh idx item w).trace = w.trace ++ taskTrace (eh == "stop") w.flagAtLock idx item w.ctx w.out := by
  cases h1 : (w.flagAtLock && eh == "stop") <;> cases h2 : w.ctx.isDone <;> simp [taskSem, h1, h2]

theorem taskSem_slots (eh : String) (idx : Nat) (item : Result) (w : TW) :
    (taskSem eh idx item w).slots = w.slots.set idx (taskSlot (eh == "stop") w.flagAtLock w.ctx w.out) := by
  cases h1 : (w.flagAtLock && eh == "stop") <;> cases h2 : w.ctx.isDone <;> simp [taskSem, taskSlot, h1, h2]

theorem tw_lock (n : Nat) (h : Heap) (w : TW) :
    taskWorld.mcall (.ref "mutex" n) "Lock" [] h w = (acquire w).map fun w' => ([], h, w') := rfl
theorem tw_unlock (n : Nat) (h : Heap) (w : TW) :
    taskWorld.mcall (.ref "mutex" n) "Unlock" [] h w = (release w).map fun w' => ([], h, w') := rfl
theorem tw_ctxErr (n : Nat) (h : Heap) (w : TW) :
    taskWorld.mcall (.ref "ctx" n) "Err" [] h w = some ([TaskW.ctxErrGV w.ctx], h, emit w (.ctxErr w.ctx.isDone)) := rfl
theorem tw_item (n : Nat) (nd : GV) (item : Result) (h : Heap) (w : TW) :
    taskWorld.call "runExecWithRetries" [.ref "ctx" n, nd, .result item] h w =
      some ([GV.ofVal w.out.val, errGV w.out.err], h, emit w (.callItem item w.out)) := rfl
theorem tw_global (x : String) : taskWorld.global x = none := rfl
theorem tw_readStop (w : TW) : taskWorld.readVar "shouldStop" w = if w.held then some (.bool w.stop) else none := rfl
theorem tw_writeStop (b : Bool) (w : TW) :
    taskWorld.writeVar "shouldStop" (.bool b) w = if w.held then some (emit { w with stop := b } (.setStop b)) else none := rfl
theorem tw_assert_result (r : Result) (w : TW) : taskWorld.assert (.result r) "Result" w = some (.result r, true) := rfl
theorem tw_assert_val (v : Val) (w : TW) : taskWorld.assert (.val v) "Result" w = some (.result ⟨Val.nil, none⟩, false) := rfl
theorem tw_setSlot (n : Nat) (i : Int) (r : Result) (w : TW) :
    taskWorld.setIndex (.ref "results" n) (.int i) (.result r) w =
      if 0 ≤ i ∧ i.toNat < w.slots.length then some (emit { w with slots := w.slots.set i.toNat r } (.writeSlot i.toNat r)) else none := rfl

theorem assignTo_var {Ω : Type} (W : World Ω) (f : Nat) (x : String) (v : GV) (st : St Ω) :
    assignTo W f (.var x) v st =
      if x == "_" then some st
      else match st.env.set x v with
        | some e => some { st with env := e }
        | none => (W.writeVar x v st.w).map fun w => { st with w := w } := rfl

theorem stopCond (f : Nat) (env : GoIR.Env) (eh : String) (h : Heap) (w : TW) (he : env.get "errorHandling" = some (.str eh))
    (hs : env.get "shouldStop" = none) (hh : w.held = true) :
    evalExpr taskWorld (f + 3) (.bin "&&" (.var "shouldStop") (.bin "==" (.var "errorHandling") (.str "stop"))) ⟨env, h, w⟩ =
      some ([.bool (w.stop && eh == "stop")], ⟨env, h, w⟩) := by
  cases hb : w.stop <;> simp [evalExpr, he, hs, hh, hb, tw_global, tw_readStop, GV.eqv]

/-- where the closure ends when `results[idx] = r` acts as `Stores … hp sl rec` says -/
def endsAt (hp : Result → Heap) (sl : Result → List Result) (rec : Bool) (eh : String) (idx : Nat) (item : Result)
    (w : TW) : Option (List GV × Heap × TW) :=
  let r := taskSlot (eh == "stop") w.flagAtLock w.ctx w.out
  some ([], hp r, { taskSem eh idx item w with
    slots := sl r,
    trace := w.trace ++ (taskTrace (eh == "stop") w.flagAtLock idx item w.ctx w.out).flatMap fun a =>
      if a.isWrite then (if rec then [a] else []) else [a] })

/-- what `results[idx] = r` does when `results` is `rs`, to the heap `heap` and a world whose slots are `slots`: the heap becomes
    `hp r`, the slots `sl r`, and the trace records the write iff `rec` -/
abbrev Stores (rs : GV) (idx : Nat) (heap : Heap) (slots : List Result) (hp : Result → Heap) (sl : Result → List Result)
    (rec : Bool) : Prop :=
  ∀ (f : Nat) (env : GoIR.Env) (r : Result) (w : TW), env.get "results" = some rs → env.get "idx" = some (.int idx) → w.slots = slots →
    assignTo taskWorld (f + 1) (.index (.var "results") (.var "idx")) (.result r) ⟨env, heap, w⟩ =
      some ⟨env, hp r, { w with slots := sl r, trace := w.trace ++ if rec then [.writeSlot idx r] else [] }⟩

section paths
/- `results[idx] = r` is the only statement of the closure whose meaning depends on what `results` is — an object of the world
   (`runTask`) or a slice of the interpreter's heap (`runTaskHeap`) — and nothing else touches the heap or the slots. So each path
   is run once, for any `results` with its `Stores`. -/
variable {rs : GV} {idx : Nat} {heap : Heap} {slots : List Result} {hp : Result → Heap} {sl : Result → List Result}
  {rec : Bool} (hst : Stores rs idx heap slots hp sl rec)
  (eh : String) (item : Result) (nd : GV) (w : TW) (hh : w.held = false) (hsl : w.slots = slots)
include hst hh hsl

-- `stopCond` before the unfolding of `&&`, which would split on the flag
attribute [local simp ↓] stopCond
attribute [local simp] callFunc taskFn captured taskArgs closBody execBlock execStmt evalRhs isCommaOk evalCommaOk evalExpr evalArgs
  Env.get Env.set Env.pushAll Env.push popSt Env.popTo tw_lock tw_unlock tw_ctxErr tw_item tw_global tw_readStop tw_writeStop
  tw_assert_result tw_assert_val assignTo_var acquire release emit errorf assignAll Exprs.toList Exprs.length ctxRef muH
  TaskW.ctxErrGV errGV GV.eqv GV.isNil endsAt taskSem taskSlot taskTrace secStop secCtx secStore raises slotOf Ctx.isDone TAct.isWrite

theorem run_stop (hbs : (w.flagAtLock && eh == "stop") = true) (c : Nat) :
    callFunc taskWorld (c + 10) taskFn (taskArgs rs eh idx item nd) heap w = endsAt hp sl rec eh idx item w := by
  have e5 : fwTagOf "batch stopped due to error" = .batchStopped := by decide
  simp [hst, hh, hsl, hbs, e5, stoppedSlot]

theorem run_cancel (hbs : (w.flagAtLock && eh == "stop") = false) (k : CtxKind) (hc : w.ctx = .done k) (c : Nat) :
    callFunc taskWorld (c + 12) taskFn (taskArgs rs eh idx item nd) heap w = endsAt hp sl rec eh idx item w := by
  have e5 : fwTagOf "context cancelled" = .batchCancelled := by decide
  simp [hst, hh, hsl, hbs, hc, e5, cancelledSlot]

theorem run_err (hbs : (w.flagAtLock && eh == "stop") = false) (hc : w.ctx = .live) (x : Val) (e : ErrRoot) (ho : w.out = ⟨x, some e⟩) (c : Nat) :
    callFunc taskWorld (c + 14) taskFn (taskArgs rs eh idx item nd) heap w = endsAt hp sl rec eh idx item w := by
  -- the source branches on the mode once more: to raise the flag or not
  cases hs : (eh == "stop")
  · simp [hst, hh, hsl, hs, hc, ho]
  · rw [hs, Bool.and_true] at hbs
    simp [hst, hh, hsl, hs, hbs, hc, ho]

theorem run_ok (hbs : (w.flagAtLock && eh == "stop") = false) (hc : w.ctx = .live) (x : Val) (ho : w.out = ⟨x, none⟩) (c : Nat) :
    callFunc taskWorld (c + 15) taskFn (taskArgs rs eh idx item nd) heap w = endsAt hp sl rec eh idx item w := by
  -- a `Result` is stored as it is, any other value through `NewResult`
  cases x <;> simp [hst, hh, hsl, hbs, hc, ho, GV.ofVal, Val.asResult?, toResult, mkNewResult, GV.toVal]

theorem run_all (c : Nat) :
    callFunc taskWorld (c + 15) taskFn (taskArgs rs eh idx item nd) heap w = endsAt hp sl rec eh idx item w := by
  cases hbs : (w.flagAtLock && eh == "stop")
  · cases hc : w.ctx with
    | done k => exact run_cancel hst eh item nd w hh hsl hbs k hc (c + 3)
    | live =>
      rcases ho : w.out with ⟨x, _ | e⟩
      · exact run_ok hst eh item nd w hh hsl hbs hc x ho c
      · exact run_err hst eh item nd w hh hsl hbs hc x e ho (c + 1)
  · exact run_stop hst eh item nd w hh hsl hbs (c + 5)

end paths

/-- **The task closure of `runBatchConcurrent`, one goroutine's view, all schedules.** For every mode string, index, item, node
    value and world (flag, what the other tasks make of it while this one does not hold `mu`, context, outcome of
    `runExecWithRetries`, contents of `results`, history) with `mu` free and `idx` in range, at every depth ≥ 15: the closure is not
    stuck, returns nothing, and leaves the world `taskSem eh idx item w`. -/
theorem task_closure_refines_of_le (eh : String) (idx : Nat) (item : Result) (nd : GV) (w : TW) (hh : w.held = false)
    (hi : idx < w.slots.length) (fuel : Nat) (hf : 15 ≤ fuel) :
    runTask fuel (taskOf Flyt.Expected.IR.runBatchConcurrent) eh idx item nd w = some ([], taskSem eh idx item w) := by
  obtain ⟨c, rfl⟩ := Nat.exists_eq_add_of_le hf
  have hst : Stores resultsH idx [] w.slots (fun _ => []) (w.slots.set idx) true := by
    intro f env r w' h1 h2 h3
    simp [assignTo, evalExpr, h1, h2, h3, hi, resultsH, tw_setSlot, emit]
  rw [taskOf_eq, Nat.add_comm, runTask, run_all hst eh item nd w hh rfl c, endsAt]
  simp only [↓reduceIte, ite_self, List.flatMap_singleton']
  rw [← taskSem_slots, ← taskSem_trace]
  rfl

/-- at the depth of `GoIR/TaskTest.lean` -/
theorem task_closure_refines (eh : String) (idx : Nat) (item : Result) (nd : GV) (w : TW) (hh : w.held = false)
    (hi : idx < w.slots.length) :
    runTask 40 (taskOf Flyt.Expected.IR.runBatchConcurrent) eh idx item nd w = some ([], taskSem eh idx item w) :=
  task_closure_refines_of_le eh idx item nd w hh hi 40 (by omega)

/-- **The three paths.** Exactly one of
    * stop path — the flag is up at the first lock and the mode is `"stop"`: `[lock, writeSlot idx stopped, unlock]`;
    * cancelled path — `[lock, unlock, ctxErr true, writeSlot idx cancelled]`: the slot is written AFTER `mu` was released;
    * normal path — `[lock, unlock, ctxErr false, callItem, lock, writeSlot idx r, (setStop true)?, unlock]`, `r = slotOf out`, the
      flag raised iff `err ≠ nil` and the mode is `"stop"`; at the end the flag is what the second acquisition found, or-ed with that. -/
theorem task_closure_paths (eh : String) (idx : Nat) (item : Result) (nd : GV) (w : TW) (hh : w.held = false)
    (hi : idx < w.slots.length) (fuel : Nat) (hf : 15 ≤ fuel) :
    ∃ w', runTask fuel (taskOf Flyt.Expected.IR.runBatchConcurrent) eh idx item nd w = some ([], w') ∧
      w'.held = false ∧ w'.ctx = w.ctx ∧ w'.out = w.out ∧
      ((w.flagAtLock = true ∧ eh = "stop" ∧
          w'.trace = w.trace ++ [.lock, .writeSlot idx stoppedSlot, .unlock] ∧
          w'.slots = w.slots.set idx stoppedSlot ∧ w'.stop = true ∧ w'.incoming = w.incoming.tail) ∨
       (¬ (w.flagAtLock = true ∧ eh = "stop") ∧ w.ctx.isDone = true ∧
          w'.trace = w.trace ++ [.lock, .unlock, .ctxErr true, .writeSlot idx cancelledSlot] ∧
          w'.slots = w.slots.set idx cancelledSlot ∧ w'.stop = w.flagAtLock ∧ w'.incoming = w.incoming.tail) ∨
       (¬ (w.flagAtLock = true ∧ eh = "stop") ∧ w.ctx = .live ∧
          w'.trace = w.trace ++ [.lock, .unlock, .ctxErr false, .callItem item w.out, .lock, .writeSlot idx (slotOf w.out)] ++
            (if w.out.err.isSome ∧ eh = "stop" then [.setStop true] else []) ++ [.unlock] ∧
          w'.slots = w.slots.set idx (slotOf w.out) ∧
          w'.stop = (w.incoming.tail.headD w.flagAtLock || (w.out.err.isSome && eh == "stop")) ∧
          w'.incoming = w.incoming.tail.tail)) := by
  refine ⟨_, task_closure_refines_of_le eh idx item nd w hh hi fuel hf, ?_, (taskSem_frame ..).2.1, (taskSem_frame ..).2.2, ?_⟩
  · rw [(taskSem_frame ..).1, hh]
  · unfold taskSem taskTrace secStop secCtx secStore raises
    cases hbs : (w.flagAtLock && eh == "stop")
    · have hn : ¬ (w.flagAtLock = true ∧ eh = "stop") := by simpa using hbs
      cases hc : w.ctx <;> simp [hbs, hn, Ctx.isDone]
    · have hy : w.flagAtLock = true ∧ eh = "stop" := by simpa using hbs
      simp [hbs, hy]

/-- the three forms of `taskTrace`: stopped / cancelled / ran -/
theorem taskTrace_forms (sm b1 : Bool) (idx : Nat) (item : Result) (ctx : Ctx) (o : ItemOut) :
    ((b1 && sm) = true ∧ taskTrace sm b1 idx item ctx o = [.lock, .writeSlot idx stoppedSlot, .unlock]) ∨
    ((b1 && sm) = false ∧ ctx.isDone = true ∧
      taskTrace sm b1 idx item ctx o = [.lock, .unlock, .ctxErr true, .writeSlot idx cancelledSlot]) ∨
    ((b1 && sm) = false ∧ ctx = .live ∧
      taskTrace sm b1 idx item ctx o = [.lock, .unlock, .ctxErr false, .callItem item o, .lock, .writeSlot idx (slotOf o)] ++
        (if raises sm o then [.setStop true] else []) ++ [.unlock]) := by
  cases hbs : (b1 && sm) <;> cases ctx <;> simp [taskTrace, secStop, secCtx, secStore, hbs, Ctx.isDone]

theorem lockWalk_taskTrace (sm b1 : Bool) (idx : Nat) (item : Result) (ctx : Ctx) (o : ItemOut) :
    lockWalk false (taskTrace sm b1 idx item ctx o) = some false := by
  rcases o with ⟨v, _ | e⟩ <;> cases sm <;> cases b1 <;> cases ctx <;> rfl

/-- exactly one slot write; third component: was `mu` held for it — not on the cancelled path -/
theorem slot_writes (sm b1 : Bool) (idx : Nat) (item : Result) (ctx : Ctx) (o : ItemOut) :
    slotWrites false (taskTrace sm b1 idx item ctx o) = [(idx, taskSlot sm b1 ctx o, (b1 && sm) || !ctx.isDone)] := by
  rcases o with ⟨v, _ | e⟩ <;> cases sm <;> cases b1 <;> cases ctx <;> rfl

theorem setStop_true (sm b1 : Bool) (idx : Nat) (item : Result) (ctx : Ctx) (o : ItemOut) (b : Bool)
    (h : TAct.setStop b ∈ taskTrace sm b1 idx item ctx o) : b = true := by
  rcases taskTrace_forms sm b1 idx item ctx o with ⟨_, ht⟩ | ⟨_, _, ht⟩ | ⟨_, _, ht⟩ <;> rw [ht] at h
  · simp at h
  · simp at h
  · by_cases hr : raises sm o
    · simpa [hr] using h
    · simp [hr] at h

/-- the item is called at most once, on the captured `itm`, and its outcome is the one stored -/
theorem item_calls (sm b1 : Bool) (idx : Nat) (item : Result) (ctx : Ctx) (o : ItemOut) (it : Result) (o' : ItemOut)
    (h : TAct.callItem it o' ∈ taskTrace sm b1 idx item ctx o) :
    it = item ∧ o' = o ∧ (b1 && sm) = false ∧ ctx = .live ∧ taskSlot sm b1 ctx o = slotOf o := by
  rcases taskTrace_forms sm b1 idx item ctx o with ⟨_, ht⟩ | ⟨_, _, ht⟩ | ⟨hbs, rfl, ht⟩ <;> rw [ht] at h
  · simp at h
  · simp at h
  · by_cases hr : raises sm o <;> simpa [hr, hbs, taskSlot, Ctx.isDone] using h

theorem effect_taskTrace (sm b1 : Bool) (idx : Nat) (item : Result) (ctx : Ctx) (o : ItemOut) (b : Bool) (sl : List Result) :
    effect (taskTrace sm b1 idx item ctx o) (b, sl) =
      (b || (!(b1 && sm) && !ctx.isDone && raises sm o), sl.set idx (taskSlot sm b1 ctx o)) := by
  rcases taskTrace_forms sm b1 idx item ctx o with ⟨hbs, ht⟩ | ⟨hbs, hc, ht⟩ | ⟨hbs, rfl, ht⟩ <;> rw [ht]
  · simp [effect, taskSlot, hbs]
  · simp [effect, taskSlot, hbs, hc]
  · by_cases hr : raises sm o <;> simp [effect, taskSlot, hbs, hr, Ctx.isDone]

/-- **Discipline.** In the run of the task closure of item `idx` (any schedule of the others) `mu` is acquired only when free,
    released only when held and free at the end; `shouldStop` is written only while `mu` is held, and only to `true` (read only then:
    `readVar_guard` + the run is not stuck); `runExecWithRetries` is called with `mu` free (`lockWalk`); the task writes exactly ONE
    slot of `results`: index `idx` (`under` = was `mu` held for it: no on the cancelled path, yes otherwise). -/
theorem task_discipline (eh : String) (idx : Nat) (item : Result) (nd : GV) (w : TW) (hh : w.held = false)
    (hi : idx < w.slots.length) (fuel : Nat) (hf : 15 ≤ fuel) :
    ∃ w' tr r under, runTask fuel (taskOf Flyt.Expected.IR.runBatchConcurrent) eh idx item nd w = some ([], w') ∧
      w'.trace = w.trace ++ tr ∧ lockWalk false tr = some false ∧ w'.held = false ∧
      slotWrites false tr = [(idx, r, under)] ∧ w'.slots = w.slots.set idx r ∧
      (∀ k, k ≠ idx → w'.slots[k]? = w.slots[k]?) ∧
      under = ((w.flagAtLock && eh == "stop") || !w.ctx.isDone) ∧
      (∀ b, TAct.setStop b ∈ tr → b = true) := by
  refine ⟨_, _, _, _, task_closure_refines_of_le eh idx item nd w hh hi fuel hf, taskSem_trace .., lockWalk_taskTrace ..,
    by rw [(taskSem_frame ..).1, hh], slot_writes .., taskSem_slots .., ?_, rfl, fun b => setStop_true _ _ _ _ _ _ b⟩
  intro k hk
  rw [taskSem_slots, List.getElem?_set_ne (Ne.symm hk)]

theorem flatMap_drop {α : Type} (p : α → Bool) (l : List α) : (l.flatMap fun a => if p a then [] else [a]) = l.filter (!p ·) := by
  induction l with
  | nil => rfl
  | cons a t ih => cases h : p a <;> simp [h, ih]

/-- `results` a `[]Result` window `[off, off + n)` of backing array `a` of the interpreter's heap (as in `ConcSerial.lean`): the world
    sees everything but the slot write (its trace is `taskTrace` without the `writeSlot`, its `slots` are untouched), and exactly one
    heap cell changes: `off + idx` of array `a` becomes `taskSlot`. -/
theorem task_closure_heap_of_le (eh : String) (idx : Nat) (item : Result) (nd : GV) (w : TW) (hh : w.held = false)
    (a off n : Nat) (heap : Heap) (cell : List Result) (hcell : heap[a]? = some cell) (hn : idx < n) (hlen : off + idx < cell.length)
    (fuel : Nat) (hf : 15 ≤ fuel) :
    runTaskHeap fuel (taskOf Flyt.Expected.IR.runBatchConcurrent) eh idx item nd a off n heap w =
      some ([], heap.set a (cell.set (off + idx) (taskSlot (eh == "stop") w.flagAtLock w.ctx w.out)),
        { taskSem eh idx item w with
            slots := w.slots,
            trace := w.trace ++ (taskTrace (eh == "stop") w.flagAtLock idx item w.ctx w.out).filter (!·.isWrite) }) := by
  obtain ⟨c, rfl⟩ := Nat.exists_eq_add_of_le hf
  have hst : Stores (.slice a off n) idx heap w.slots (fun r => heap.set a (cell.set (off + idx) r)) (fun _ => w.slots) false := by
    intro f env r w' h1 h2 h3
    simp [assignTo, evalExpr, h1, h2, ← h3, hn, hlen, hcell, heapSet]
  rw [taskOf_eq, Nat.add_comm, runTaskHeap, run_all hst eh item nd w hh rfl c, endsAt]
  simp only [Bool.false_eq_true, ↓reduceIte, flatMap_drop]

/-! ## Bridge to the LTS of `Model/BatchConc.lean` — where the LTS is coarser than the source, and why that is harmless
* `stopCheck`, not stopping: the source locks, reads, unlocks; the LTS reads `s.shouldStop` in one atomic step. The value read is
  the flag at THAT lock acquisition (`b1`), and the flag only changes under `mu`.
* `ctxCheck`: the LTS tests the context and writes the cancelled slot in ONE step; the source calls `ctx.Err()` and then writes
  `results[idx]` NOT under `mu` (`slot_writes`). Slot `idx` has exactly one writer, this task; nothing reads `results` before
  `pool.Wait()` returned, and the write precedes the task's return, hence the wrapper's `wg.Done()`, hence `Wait` (`Refine/Pool.lean`).
* `store`: slot write, then flag write, in one critical section; the LTS does both at once. No other task can observe the flag in
  between (it would need `mu`); the slot has no reader.
* `finish` (the wrapper's deferred `wg.Done()`, the worker back at its `select`) is part of the LTS step of the last slot write; in
  the source it comes after the closure returned (`Pool.wrapper_labels`).
* `runExecWithRetries` is one call here; the LTS's `loopTop` / `inExec` / `ret` steps are its inside (`Refine/Item.lean`). It is made
  with `mu` FREE (`task_discipline`), which is what lets the LTS interleave the `inExec` phases of different tasks.
An ERROR `Result` returned as a value with a nil error is stored as it is and does NOT raise the flag (`Pc.store r false`). -/

/-- the LTS's `results` (`none` = never written = the zero `Result`) as the slice the source sees -/
def absSlots (sl : List (Option Result)) : List Result := sl.map (·.getD zeroSlot)

theorem absSlots_setSlot (sl : List (Option Result)) (i : Nat) (r : Result) : absSlots (setSlot sl i r) = (absSlots sl).set i r := by
  simp [absSlots, setSlot, List.map_set]

/-- what a trace does to the LTS's shared data `(shouldStop, slots)` -/
def effectL : List TAct → Bool × List (Option Result) → Bool × List (Option Result)
  | [], s => s
  | .setStop b :: t, s => effectL t (b, s.2)
  | .writeSlot k r :: t, s => effectL t (s.1, setSlot s.2 k r)
  | _ :: t, s => effectL t s

theorem effectL_abs (acts : List TAct) (p : Bool × List (Option Result)) :
    ((effectL acts p).1, absSlots (effectL acts p).2) = effect acts (p.1, absSlots p.2) := by
  induction acts generalizing p with
  | nil => rfl
  | cons a t ih => cases a <;> simp [effectL, effect, ih, absSlots_setSlot]

theorem apply_stopCheck (c : Cfg) (s : BState) (i : Nat) (h : pcOf s i = some .stopCheck) :
    apply c s (.step i) = some (if s.shouldStop ∧ c.stop then finish { s with slots := setSlot s.slots i stoppedSlot } i
                                else setPc s i .ctxCheck) := by
  simp only [apply, h]; split <;> rfl

theorem apply_ctxCheck (c : Cfg) (s : BState) (i : Nat) (h : pcOf s i = some .ctxCheck) :
    apply c s (.step i) = some (if s.cancelled then finish { s with slots := setSlot s.slots i cancelledSlot } i
                                else setPc s i (.loopTop 0 none)) := by
  simp only [apply, h]; split <;> rfl

theorem apply_store (c : Cfg) (s : BState) (i : Nat) (r : Result) (failed : Bool) (h : pcOf s i = some (.store r failed)) :
    apply c s (.step i) = some (finish { s with slots := setSlot s.slots i r, shouldStop := s.shouldStop || (failed && c.stop) } i) := by
  simp only [apply, h]

theorem pcOf_finish (s : BState) (i : Nat) : pcOf (finish s i) i = none := by
  simp [pcOf, finish, List.find?_eq_none]

theorem pcOf_setPc (s : BState) (i : Nat) (pc pc' : Pc) (h : pcOf s i = some pc) : pcOf (setPc s i pc') i = some pc' := by
  unfold pcOf setPc at *
  generalize s.running = l at *
  induction l with
  | nil => simp at h
  | cons p t ih =>
    by_cases hp : p.1 = i
    · simp [List.find?, hp]
    · simp only [List.map_cons, List.find?, hp, decide_false, if_false] at h ⊢; exact ih h

/-- the two forms of a `store` counter: a value made a slot, not failed / an error made a slot, failed -/
def StoreForm (r : Result) (failed : Bool) : Prop :=
  (∃ x, r = slotOfVal x ∧ failed = false) ∨ (∃ e, r = newErrorResult e ∧ failed = true)

theorem mem_setPc {s : BState} {j : Nat} {pc : Pc} {x : Nat × Pc} (h : x ∈ (setPc s j pc).running) :
    x ∈ s.running ∨ x = (j, pc) := by
  simp only [setPc, List.mem_map] at h
  obtain ⟨p, hp, rfl⟩ := h
  split
  · right; rfl
  · left; exact hp

theorem mem_finish {s : BState} {j : Nat} {x : Nat × Pc} (h : x ∈ (finish s j).running) : x ∈ s.running := by
  simp only [finish, List.mem_filter] at h; exact h.1

theorem storeForm_ok (x : Val) : StoreForm (slotOfVal x) false := Or.inl ⟨x, rfl, rfl⟩
theorem storeForm_err (e : ErrRoot) : StoreForm (newErrorResult e) true := Or.inr ⟨e, rfl, rfl⟩

/-- every `store r failed` counter the LTS creates, by ANY label, has one of the two forms — so (`store_forms`) it is the
    `store (slotOf o) o.err.isSome` that `segOK_store` is about -/
theorem apply_store_forms (c : Cfg) (s s' : BState) (l : Label) (h : apply c s l = some s') (i : Nat) (r : Result) (f : Bool)
    (hin : (i, Pc.store r f) ∈ s'.running) : (i, Pc.store r f) ∈ s.running ∨ StoreForm r f := by
  cases l <;> simp only [apply] at h <;> (repeat' split at h) <;>
    first
    | (simp at h; done)
    | skip
  all_goals (simp only [Option.some.injEq] at h; subst h)
  all_goals first
    | (left; simpa using hin; done)
    | (left; exact mem_finish hin)
    | (rcases mem_setPc hin with h1 | h1
       · left; simpa using h1
       · right; simp only [Prod.mk.injEq, Pc.store.injEq] at h1; obtain ⟨_, rfl, rfl⟩ := h1
         first | exact storeForm_ok _ | exact storeForm_err _)
    | (rcases mem_setPc hin with h1 | h1
       · left; simpa using h1
       · simp at h1)

inductive TSeg
  /-- the actions the source performs for exactly ONE `Label.step idx` of the LTS at program counter `pc`; `next` = the program
      counter afterwards (`none` = the task has finished) -/
  | step (pc : Pc) (acts : List TAct) (next : Option Pc)
  /-- the call of `runExecWithRetries`: the LTS's steps from `loopTop 0 none` to `store r failed` (`Refine/Item.lean`) -/
  | item (act : TAct) (r : Result) (failed : Bool)

def TSeg.acts : TSeg → List TAct
  | .step _ a _ => a
  | .item a _ _ => [a]

/-- the per-task steps of the LTS the task of item `idx` contributes -/
def taskSegs (sm b1 : Bool) (idx : Nat) (item : Result) (ctx : Ctx) (o : ItemOut) : List TSeg :=
  if b1 && sm then [.step .stopCheck (secStop sm b1 idx) none]
  else if ctx.isDone then [.step .stopCheck (secStop sm b1 idx) (some .ctxCheck), .step .ctxCheck (secCtx true idx) none]
  else [.step .stopCheck (secStop sm b1 idx) (some .ctxCheck), .step .ctxCheck (secCtx false idx) (some (.loopTop 0 none)),
        .item (.callItem item o) (slotOf o) o.err.isSome,
        .step (.store (slotOf o) o.err.isSome) (secStore sm idx o) none]

/-- the segments are chained: from `pc` through the `next`s to the end of the task -/
def chained : Option Pc → List TSeg → Prop
  | none, [] => True
  | some pc, .step pc' _ next :: t => pc = pc' ∧ chained next t
  | some (.loopTop 0 none), .item _ r f :: t => chained (some (.store r f)) t
  | _, _ => False

/-- the LTS state after a task's own step, given the new shared data (those of `s'`): the task has finished (`none`: the wrapper's
    deferred `wg.Done()`, the worker back at its `select`) or holds a new program counter -/
def afterStep (s s' : BState) (i : Nat) : Option Pc → BState
  | none => finish { s with slots := s'.slots, shouldStop := s'.shouldStop } i
  | some pc' => setPc s i pc'

/-- what it means for a segment to BE its LTS step: in every LTS state in which task `i` is at the segment's program counter and
    which shows the task what the source saw (the flag `b1` at the stop check, the context at the context check),
    `apply c s (.step i)` is defined, changes `(shouldStop, slots)` exactly as the segment's actions do, and is otherwise the
    move to `next` (`setPc`) or the task's end (`finish`). An item segment hands the LTS a `store` counter of one of its two forms. -/
def SegOK (c : Cfg) (i : Nat) (b1 done : Bool) : TSeg → Prop
  | .step pc acts next =>
    ∀ s : BState, pcOf s i = some pc → (pc = .stopCheck → s.shouldStop = b1) → (pc = .ctxCheck → s.cancelled = done) →
      ∃ s', apply c s (.step i) = some s' ∧
        (s'.shouldStop, s'.slots) = effectL acts (s.shouldStop, s.slots) ∧
        (s'.shouldStop, absSlots s'.slots) = effect acts (s.shouldStop, absSlots s.slots) ∧
        pcOf s' i = next ∧
        s' = afterStep s s' i next
  | .item _ r failed => StoreForm r failed

theorem taskTrace_eq_segs (sm b1 : Bool) (idx : Nat) (item : Result) (ctx : Ctx) (o : ItemOut) :
    taskTrace sm b1 idx item ctx o = (taskSegs sm b1 idx item ctx o).flatMap TSeg.acts := by
  cases h1 : (b1 && sm) <;> cases h2 : ctx.isDone <;> simp [taskTrace, taskSegs, h1, h2, TSeg.acts]

theorem taskSegs_chained (sm b1 : Bool) (idx : Nat) (item : Result) (ctx : Ctx) (o : ItemOut) :
    chained (some .stopCheck) (taskSegs sm b1 idx item ctx o) := by
  cases h1 : (b1 && sm) <;> cases h2 : ctx.isDone <;> simp [taskSegs, h1, h2, chained]

theorem segOK_of_abs {c : Cfg} {i : Nat} {acts : List TAct} {next : Option Pc} {s s' : BState}
    (ha : apply c s (.step i) = some s') (he : (s'.shouldStop, s'.slots) = effectL acts (s.shouldStop, s.slots))
    (hp : pcOf s' i = next)
    (hs : s' = afterStep s s' i next) :
    ∃ s', apply c s (.step i) = some s' ∧
        (s'.shouldStop, s'.slots) = effectL acts (s.shouldStop, s.slots) ∧
        (s'.shouldStop, absSlots s'.slots) = effect acts (s.shouldStop, absSlots s.slots) ∧
        pcOf s' i = next ∧
        s' = afterStep s s' i next := by
  refine ⟨s', ha, he, ?_, hp, hs⟩
  have := effectL_abs acts (s.shouldStop, s.slots)
  rw [← he] at this
  exact this

theorem segOK_stopCheck (c : Cfg) (i : Nat) (sm b1 done : Bool) (hstop : c.stop = sm) :
    SegOK c i b1 done (.step .stopCheck (secStop sm b1 i) (if b1 && sm then none else some .ctxCheck)) := by
  intro s hpc hb _
  have hb := hb rfl
  subst hstop
  cases hbs : (b1 && c.stop)
  · have hn : ¬ (s.shouldStop = true ∧ c.stop = true) := by rw [hb, ← Bool.and_eq_true, hbs]; simp
    refine segOK_of_abs (s' := setPc s i .ctxCheck) ?_ ?_ (pcOf_setPc s i _ _ hpc) rfl
    · rw [apply_stopCheck c s i hpc, if_neg hn]
    · simp [secStop, hbs, effectL, setPc]
  · have hy : s.shouldStop = true ∧ c.stop = true := by rw [hb, ← Bool.and_eq_true, hbs]
    refine segOK_of_abs (s' := finish { s with slots := setSlot s.slots i stoppedSlot } i) ?_ ?_ (pcOf_finish _ i) rfl
    · rw [apply_stopCheck c s i hpc, if_pos hy]
    · simp [secStop, hbs, effectL, finish]

theorem segOK_ctxCheck (c : Cfg) (i : Nat) (b1 done : Bool) :
    SegOK c i b1 done (.step .ctxCheck (secCtx done i) (if done then none else some (.loopTop 0 none))) := by
  intro s hpc _ hd
  have hd := hd rfl
  cases done
  · refine segOK_of_abs (s' := setPc s i (.loopTop 0 none)) ?_ ?_ (pcOf_setPc s i _ _ hpc) rfl
    · rw [apply_ctxCheck c s i hpc, hd]; rfl
    · simp [secCtx, effectL, setPc]
  · refine segOK_of_abs (s' := finish { s with slots := setSlot s.slots i cancelledSlot } i) ?_ ?_ (pcOf_finish _ i) rfl
    · rw [apply_ctxCheck c s i hpc, hd]; rfl
    · simp [secCtx, effectL, finish]

theorem segOK_store (c : Cfg) (i : Nat) (sm b1 done : Bool) (o : ItemOut) (hstop : c.stop = sm) :
    SegOK c i b1 done (.step (.store (slotOf o) o.err.isSome) (secStore sm i o) none) := by
  intro s hpc _ _
  subst hstop
  refine segOK_of_abs
    (s' := finish { s with slots := setSlot s.slots i (slotOf o), shouldStop := s.shouldStop || (o.err.isSome && c.stop) } i)
    (apply_store c s i _ _ hpc) ?_ (pcOf_finish _ i) rfl
  rcases o with ⟨v, _ | e⟩ <;> cases hs : c.stop <;> simp [secStore, raises, effectL, finish, hs]

/-- the two forms are what the LTS's own steps produce: `ret` with an `ok` outcome or the fallback's value gives
    `store (slotOfVal x) false`, every failure `store (newErrorResult e) true` -/
theorem segOK_item (c : Cfg) (i : Nat) (b1 done : Bool) (a : TAct) (o : ItemOut) :
    SegOK c i b1 done (.item a (slotOf o) o.err.isSome) := by
  rcases o with ⟨v, _ | e⟩
  · exact Or.inl ⟨v, rfl, rfl⟩
  · exact Or.inr ⟨e, rfl, rfl⟩

/-- conversely every `store` counter of those forms is the slot of an item outcome -/
theorem store_forms (r : Result) (failed : Bool) (h : StoreForm r failed) :
    ∃ o : ItemOut, r = slotOf o ∧ failed = o.err.isSome := by
  rcases h with ⟨x, rfl, rfl⟩ | ⟨e, rfl, rfl⟩
  · exact ⟨⟨x, none⟩, rfl, rfl⟩
  · exact ⟨⟨Val.nil, some e⟩, rfl, rfl⟩

theorem taskSegs_ok (c : Cfg) (sm b1 : Bool) (idx : Nat) (item : Result) (ctx : Ctx) (o : ItemOut) (hstop : c.stop = sm) :
    ∀ seg ∈ taskSegs sm b1 idx item ctx o, SegOK c idx b1 ctx.isDone seg := by
  have h1 := segOK_stopCheck c idx sm b1 ctx.isDone hstop
  have h2 := segOK_ctxCheck c idx b1 ctx.isDone
  have h3 := segOK_store c idx sm b1 ctx.isDone o hstop
  have h4 := segOK_item c idx b1 ctx.isDone (.callItem item o) o
  intro seg hseg
  unfold taskSegs at hseg
  cases hbs : (b1 && sm) <;> cases hd : ctx.isDone <;> simp [hbs, hd] at hseg h1 h2 h3 h4 <;>
    (try rcases hseg with rfl | rfl | rfl | rfl) <;> (try rcases hseg with rfl | rfl) <;> (try subst hseg) <;> assumption

/-- **Bridge to the LTS.** The trace of the task closure of item `idx` — for every mode, world and depth ≥ 15 — is the concatenation
    of the segments `taskSegs`, which are chained from `Pc.stopCheck` to the task's end, and each `step` segment is exactly one
    `Label.step idx` of `Model/BatchConc.lean` at its program counter: same effect on `(shouldStop, results)`, same successor
    (`SegOK`), for every configuration `c` whose `stop` is the source's `errorHandling == "stop"`. How the steps of DIFFERENT tasks
    interleave is the LTS's business. -/
theorem task_labels (c : Cfg) (eh : String) (idx : Nat) (item : Result) (nd : GV) (w : TW) (hh : w.held = false)
    (hi : idx < w.slots.length) (hstop : c.stop = (eh == "stop")) (fuel : Nat) (hf : 15 ≤ fuel) :
    ∃ w', runTask fuel (taskOf Flyt.Expected.IR.runBatchConcurrent) eh idx item nd w = some ([], w') ∧
      let segs := taskSegs (eh == "stop") w.flagAtLock idx item w.ctx w.out
      w'.trace = w.trace ++ segs.flatMap TSeg.acts ∧
      chained (some .stopCheck) segs ∧
      (∀ seg ∈ segs, SegOK c idx w.flagAtLock w.ctx.isDone seg) ∧
      w'.slots = (effect (segs.flatMap TSeg.acts) (w.stop, w.slots)).2 := by
  refine ⟨_, task_closure_refines_of_le eh idx item nd w hh hi fuel hf, ?_, taskSegs_chained .., taskSegs_ok c _ _ _ _ _ _ hstop, ?_⟩
  · rw [taskSem_trace, taskTrace_eq_segs]
  · rw [← taskTrace_eq_segs, effect_taskTrace, taskSem_slots]

end Flyt.Refine.Task
