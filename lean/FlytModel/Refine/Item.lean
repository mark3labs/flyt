import FlytModel.Refine.Run
/-!
# `runExecWithRetries` (batch.go:317, translated) refines the model's `runItem`

In `itemWorld` the node's `Exec` / `ExecFallback` and the `select` between timer and `ctx.Done()` answer from the item's script. There
the interpreter on the translation of `runExecWithRetries` yields what `runItem` yields: the same callback events with the same data, the same
context afterwards, the same slot / error. `BatchStack.item_raw` (below, before the two closing theorems) says it of the return values, on any heap (what a caller that is
interpreted source itself needs); the theorems about `runItemIR` read them through `itemResOf`. The retry loop is one induction on
the remaining budget.
-/
open Flyt Flyt.GoIR

/-! Projections that name the pieces of a translated body. -/
namespace Flyt.GoIR

def Block.stmtAt : Block → Nat → Stmt
  | .cons s _, 0 => s
  | .cons _ b, k + 1 => b.stmtAt k
  | .nil, _ => .brk

def Block.drop : Block → Nat → Block
  | b, 0 => b
  | .cons _ b, k + 1 => b.drop k
  | .nil, _ => .nil

def Stmt.inner : Stmt → Block
  | .ifS _ _ t _ => t
  | .rangeS _ _ _ b => b
  | _ => .nil

def Stmt.clause : Stmt → Nat → Block
  | .typeSwitch _ _ cs, k => (nthBody cs k).getD .nil
  | _, _ => .nil

end Flyt.GoIR

namespace Flyt.Refine

namespace BatchStack

/-- the `any` the translated source returns for the model's value `x`: `GV.ofVal x`, or Go's untyped `nil` where the model
    says `Val.nil` (a `BaseNode.Exec` returns the literal `nil`) -/
def RawVal (g : GV) (x : Val) : Prop := g = GV.ofVal x ∨ (g = .nil ∧ x = Val.nil)

/-- the two return values of `runExecWithRetries` against the model's raw result -/
def RetOK (rs : List GV) : Except ErrRoot Val → Prop
  | .ok x => ∃ g, rs = [g, .nil] ∧ RawVal g x
  | .error e => rs = [.nil, .err e]

theorem rawVal_nil : RawVal .nil Val.nil := Or.inr ⟨rfl, rfl⟩
theorem rawVal_ofVal (x : Val) : RawVal (GV.ofVal x) x := Or.inl rfl

theorem RawVal.toVal {g : GV} {x : Val} (h : RawVal g x) : g.toVal = x := by
  rcases h with rfl | ⟨rfl, rfl⟩
  · exact toVal_ofVal x
  · rfl

theorem RetOK.itemResOf {rs : List GV} {r : Except ErrRoot Val} (h : RetOK rs r) :
    itemResOf rs = some (match (generalizing := false) r with | .ok x => .slot (slotOfVal x) | .error e => .error e) := by
  cases r with
  | error e => cases h; rfl
  | ok x =>
    obtain ⟨g, rfl, hg⟩ := h
    exact congrArg (fun y => some (ItemRes.slot (slotOfVal y))) hg.toVal

end BatchStack

namespace Item
open BatchStack

theorem containsW_wait : containsW "context cancelled during wait: %w" = true := containsW_of 60 _ (by decide +kernel)
theorem containsW_retry : containsW "context cancelled during retry: %w" = true := containsW_of 60 _ (by decide +kernel)

def ctxCheckS : Stmt :=
  .ifS B[] (.bin "!=" (.mcall (.var "ctx") "Err" E[]) (.var "nil")) B[
    (.ret E[(.var "nil"), (.call "fmt.Errorf" E[(.str "context cancelled during retry: %w"), (.mcall (.var "ctx") "Err" E[])])])] B[]
def waitS : Stmt :=
  .ifS B[] (.bin "&&" (.bin ">" (.var "attempt") (.int 0)) (.bin ">" (.var "wait") (.int 0))) B[
    (.selectS (Cases.ofList [
      ((.un "<-" (.call "time.After" E[(.var "wait")])), B[]),
      ((.un "<-" (.mcall (.var "ctx") "Done" E[])), B[
        (.ret E[(.var "nil"), (.call "fmt.Errorf" E[(.str "context cancelled during wait: %w"), (.mcall (.var "ctx") "Err" E[])])])])]))] B[]
def execAssignS : Stmt :=
  .assign E[(.var "execResult"), (.var "execErr")] E[(.mcall (.var "node") "Exec" E[(.var "ctx"), (.var "item")])]
def brkS : Stmt := .ifS B[] (.bin "==" (.var "execErr") (.var "nil")) B[.brk] B[]
def loopBody : Block := .cons ctxCheckS (.cons waitS (.cons execAssignS (.cons brkS .nil)))
def forStmt : Stmt := .forS B[(.define ["attempt"] E[(.int 0)])] loopCond loopPost loopBody
def stm (k : Nat) : Stmt := Flyt.Expected.IR.runExecWithRetries.body.stmtAt k
/-- what follows the loop -/
def suffix : Block := Flyt.Expected.IR.runExecWithRetries.body.drop 6

theorem body_eq : Flyt.Expected.IR.runExecWithRetries.body =
    .cons (stm 0) (.cons (stm 1) (.cons (stm 2) (.cons (stm 3) (.cons (stm 4) (.cons forStmt suffix))))) := rfl

/-- the locals after the loop (and before it, with `execErr = nil`, `execResult = any(nil)`) -/
def envS (n : NodeId) (cfg : BatchCfg) (item : Result) (eerr eres : GV) : GoIR.Env :=
  [("execErr", eerr), ("execResult", eres), ("wait", .int cfg.wait), ("maxRetries", .int cfg.budget),
   ("item", .result item), ("node", .node n), ("ctx", ctxH)]

/-- the locals inside the loop -/
def envL (n : NodeId) (cfg : BatchCfg) (item : Result) (k : Nat) (eerr eres : GV) : GoIR.Env :=
  ("attempt", .int k) :: envS n cfg item eerr eres

section
variable (kind : CtxKind) (n : NodeId) (v : Nat) (cfg : BatchCfg) (i : Nat) (item : Result) (scr : ItemScript)

local notation "W" => itemWorld kind n v cfg i scr

theorem W_assert_retryable (m : NodeId) (w : LeafW) :
    (W).assert (.node m) "RetryableNode" w = some (.node m, true) := rfl
theorem W_assert_fallback (m : NodeId) (w : LeafW) :
    (W).assert (.node m) "FallbackNode" w = some (.node m, cfg.fb != .absent) := rfl
theorem W_getMaxRetries (m : NodeId) (h : Heap) (w : LeafW) :
    (W).mcall (.node m) "GetMaxRetries" [] h w = some ([.int cfg.budget], h, w) := rfl
theorem W_getWait (m : NodeId) (h : Heap) (w : LeafW) :
    (W).mcall (.node m) "GetWait" [] h w = some ([.int cfg.wait], h, w) := rfl
theorem W_ctxErr (c : Nat) (h : Heap) (w : LeafW) :
    (W).mcall (.ref "ctx" c) "Err" [] h w = some ([ctxErrGV w.ctx], h, w) := rfl
theorem W_ctxDone (c : Nat) (h : Heap) (w : LeafW) :
    (W).mcall (.ref "ctx" c) "Done" [] h w = some ([.ref "done" 0], h, w) := rfl
theorem W_timeAfter (d : Int) (h : Heap) (w : LeafW) :
    (W).call "time.After" [.int d] h w = some ([.ref "timer" d.toNat], h, w) := rfl
theorem W_select (d c : Nat) (w : LeafW) :
    (W).select [.ref "timer" d, .ref "done" c] w =
      (match w.ctx with
       | .done _ => some (1, w)
       | .live =>
         if scr.waitCancel w.execCalls then
           some (1, { w with evs := w.evs ++ [.bwait n v i w.execCalls d false], ctx := .done kind })
         else some (0, { w with evs := w.evs ++ [.bwait n v i w.execCalls d true] })) := rfl
theorem W_exec (m : NodeId) (a it : GV) (h : Heap) (w : LeafW) :
    (W).mcall (.node m) "Exec" [a, it] h w =
      (match cfg.execS with
       | .absent => some ([.nil, .nil], h, w)
       | s =>
         match (scr.exec w.execCalls).res with
         | .ok x => some ([GV.ofVal (execRet s x), .nil], h,
             { w with evs := w.evs ++ [.bexec n v i w.execCalls (execArg s it.toVal)],
                      ctx := w.ctx.after kind (scr.exec w.execCalls).cancels, execCalls := w.execCalls + 1 })
         | .error e => some ([.nil, .err (.user e)], h,
             { w with evs := w.evs ++ [.bexec n v i w.execCalls (execArg s it.toVal)],
                      ctx := w.ctx.after kind (scr.exec w.execCalls).cancels, execCalls := w.execCalls + 1 })) := rfl
theorem W_fallback (m : NodeId) (it : GV) (e : ErrRoot) (h : Heap) (w : LeafW) :
    (W).mcall (.node m) "ExecFallback" [it, .err e] h w =
      (match cfg.fb with
       | .absent => none
       | .passThrough => some ([.nil, .err e], h, w)
       | .custom =>
         match scr.fb.res with
         | .ok x => some ([GV.ofVal x, .nil], h,
             { w with evs := w.evs ++ [.bfb n v i it.toVal e], ctx := w.ctx.after kind scr.fb.cancels })
         | .error e' => some ([.nil, .err (.user e')], h,
             { w with evs := w.evs ++ [.bfb n v i it.toVal e], ctx := w.ctx.after kind scr.fb.cancels })) := rfl

/-- statements 1–5: retry settings and the two result variables -/
theorem prefix_spec (f : Nat) (rest : Block) (h : Heap) (w : LeafW) :
    execBlock W (f + 20) (.cons (stm 0) (.cons (stm 1) (.cons (stm 2) (.cons (stm 3) (.cons (stm 4) rest)))))
        ⟨[("item", .result item), ("node", .node n), ("ctx", ctxH)], h, w⟩
      = execBlock W (f + 15) rest ⟨envS n cfg item .nil (.val Val.nil), h, w⟩ := by
  gosimp [stm, Block.stmtAt, Flyt.Expected.IR.runExecWithRetries, envS, W_assert_retryable, W_getMaxRetries, W_getWait]

theorem cond_spec (f k : Nat) (eerr eres : GV) (h : Heap) (w : LeafW) :
    evalExpr W (f + 4) loopCond ⟨envL n cfg item k eerr eres, h, w⟩
      = some ([.bool (decide (k < cfg.budget))], ⟨envL n cfg item k eerr eres, h, w⟩) := by
  gosimp [loopCond, envL, envS]

theorem post_spec (f k : Nat) (eerr eres : GV) (h : Heap) (w : LeafW) :
    execBlock W (f + 4) loopPost ⟨envL n cfg item k eerr eres, h, w⟩
      = some (.next, ⟨envL n cfg item (k + 1) eerr eres, h, w⟩) := by
  gosimp [loopPost, envL, envS]

theorem popSt_envL (k : Nat) (eerr eres : GV) (h : Heap) (w : LeafW) (k' : Nat) (a b : GV) :
    popSt (⟨envL n cfg item k eerr eres, h, w⟩ : St LeafW) (envL n cfg item k' a b).length
      = ⟨envL n cfg item k eerr eres, h, w⟩ := rfl

theorem ctxCheck_spec (f k : Nat) (eerr eres : GV) (h : Heap) (evs : List Ev) (ctx : Ctx) (c : Nat) :
    execStmt W (f + 14) ctxCheckS ⟨envL n cfg item k eerr eres, h, ⟨evs, ctx, c⟩⟩
      = match ctx with
        | .live => some (.next, ⟨envL n cfg item k eerr eres, h, ⟨evs, .live, c⟩⟩)
        | .done kd => some (.ret [.nil, .err (.ctx kd)], ⟨envL n cfg item k eerr eres, h, ⟨evs, .done kd, c⟩⟩) := by
  cases ctx <;> gosimp [ctxCheckS, envL, envS, ctxH, W_ctxErr, containsW_retry]

theorem wait_spec (f k : Nat) (eerr eres : GV) (h : Heap) (evs : List Ev) :
    execStmt W (f + 14) waitS ⟨envL n cfg item k eerr eres, h, ⟨evs, .live, k⟩⟩
      = if k > 0 ∧ cfg.wait > 0 ∧ scr.waitCancel k then
          some (.ret [.nil, .err (.ctx kind)],
            ⟨envL n cfg item k eerr eres, h, ⟨evs ++ [.bwait n v i k cfg.wait false], .done kind, k⟩⟩)
        else
          some (.next, ⟨envL n cfg item k eerr eres, h,
            ⟨evs ++ (if k > 0 ∧ cfg.wait > 0 then [.bwait n v i k cfg.wait true] else []), .live, k⟩⟩) := by
  rcases Nat.eq_zero_or_pos k with hk | hk
  · subst hk; gosimp [waitS, envL, envS]
  · have hk' : (0 : Int) < (k : Int) := by omega
    rcases Nat.eq_zero_or_pos cfg.wait with hw | hw
    · gosimp [waitS, envL, envS, hk, hk', hw]
    · have hw' : (0 : Int) < (cfg.wait : Int) := by omega
      cases hc : scr.waitCancel k <;>
        gosimp [waitS, envL, envS, ctxH, hk, hk', hw, hw', hc, W_timeAfter, W_ctxDone, W_ctxErr, W_select, containsW_wait]

theorem exec_step (f k : Nat) (eerr eres : GV) (h h' : Heap) (w w' : LeafW) (r e : GV)
    (hcall : (W).mcall (.node n) "Exec" [ctxH, .result item] h w = some ([r, e], h', w')) :
    execStmt W (f + 14) execAssignS ⟨envL n cfg item k eerr eres, h, w⟩
      = some (.next, ⟨envL n cfg item k e r, h', w'⟩) := by
  gosimp [execAssignS, envL, envS, hcall]

theorem brk_nil (f k : Nat) (eres : GV) (h : Heap) (w : LeafW) :
    execStmt W (f + 14) brkS ⟨envL n cfg item k .nil eres, h, w⟩
      = some (.brk, ⟨envL n cfg item k .nil eres, h, w⟩) := by
  gosimp [brkS, envL, envS]

theorem brk_err (f k : Nat) (e : ErrRoot) (eres : GV) (h : Heap) (w : LeafW) :
    execStmt W (f + 14) brkS ⟨envL n cfg item k (.err e) eres, h, w⟩
      = some (.next, ⟨envL n cfg item k (.err e) eres, h, w⟩) := by
  gosimp [brkS, envL, envS]

theorem loopBody_unfold (f : Nat) (st : St LeafW) :
    execBlock W f loopBody st
      = execBlock W f (.cons ctxCheckS (.cons waitS (.cons execAssignS (.cons brkS .nil)))) st := rfl

/-- what the loop statement leaves behind, for each way the model's `attempts` can end -/
def LoopPost (n : NodeId) (cfg : BatchCfg) (item : Result) (h : Heap) (evs0 : List Ev) (res : List Ev × Ctx × AttemptRes)
    (out : Option (Ctl × St LeafW)) : Prop :=
  match res with
  | (aev, ctx', .ok x) =>
    ∃ k' r' c', out = some (.next, ⟨envL n cfg item k' .nil r', h, ⟨evs0 ++ aev, ctx', c'⟩⟩) ∧ RawVal r' x
  | (aev, ctx', .failed e) =>
    ∃ k' r' c', out = some (.next, ⟨envL n cfg item k' (.err (.user e)) r', h, ⟨evs0 ++ aev, ctx', c'⟩⟩)
  | (aev, ctx', .cancelled kd) =>
    ∃ k' a' r' c', out = some (.ret [.nil, .err (.ctx kd)], ⟨envL n cfg item k' a' r', h, ⟨evs0 ++ aev, ctx', c'⟩⟩)

theorem LoopPost_shift {n cfg item h evs0 pre out} {A : List Ev × Ctx × AttemptRes}
    (hA : LoopPost n cfg item h (evs0 ++ pre) A out) : LoopPost n cfg item h evs0 (pre ++ A.1, A.2.1, A.2.2) out := by
  obtain ⟨aev, c, r⟩ := A
  cases r <;> simpa only [LoopPost, List.append_assoc] using hA

theorem loop_spec (h : Heap) (d : Nat) : ∀ (rem k : Nat), k + rem = cfg.budget → ∀ (last : Option Nat) (r : GV), RawVal r Val.nil →
    ∀ (evs0 : List Ev) (ctx : Ctx),
    LoopPost n cfg item h evs0
      (attempts kind (fun k => .bexec n v i k (execArg cfg.execS item.box)) (fun k f => .bwait n v i k cfg.wait f)
        scr.exec scr.waitCancel cfg.execS cfg.wait k rem last ctx)
      (loopFor W (rem + d + 20) loopCond loopPost loopBody ⟨envL n cfg item k (lastGV last) r, h, ⟨evs0, ctx, k⟩⟩) := by
  intro rem
  induction rem with
  | zero =>
    intro k hk last r hr evs0 ctx
    have hkb : ¬ k < cfg.budget := by omega
    rw [show 0 + d + 20 = (d + 19) + 1 by omega, loopFor_succ, cond_spec]
    simp only [hkb, decide_false, attempts]
    cases last
    · exact ⟨_, _, _, by rw [List.append_nil]; rfl, hr⟩
    · exact ⟨_, _, _, by rw [List.append_nil]; rfl⟩
  | succ rem ih =>
    intro k hk last r hr evs0 ctx
    have hkb : k < cfg.budget := by omega
    rw [show rem + 1 + d + 20 = (rem + d + 20) + 1 by omega, loopFor_succ, cond_spec]
    simp only [hkb, decide_true, loopBody_unfold, block_cons, ctxCheck_spec]
    cases ctx with
    | done kd =>
      simp only [popSt_envL, attempts, LoopPost, List.append_nil]
      exact ⟨_, _, _, _, rfl⟩
    | live =>
      simp only [wait_spec, attempts]
      by_cases hc : k > 0 ∧ cfg.wait > 0 ∧ scr.waitCancel k = true
      · simp only [if_pos hc, popSt_envL]
        exact ⟨_, _, _, _, rfl⟩
      · simp only [if_neg hc]
        generalize (if k > 0 ∧ cfg.wait > 0 then [Ev.bwait n v i k cfg.wait true] else []) = wev
        cases hs : cfg.execS
        · rw [exec_step (hcall := by rw [W_exec, hs])]
          simp only [brk_nil, popSt_envL]
          exact ⟨_, _, _, rfl, rawVal_nil⟩
        all_goals
          cases hx : (scr.exec k).res with
          | ok x =>
            rw [exec_step (hcall := by rw [W_exec, hs, hx])]
            simp only [brk_nil, popSt_envL, List.append_assoc]
            exact ⟨_, _, _, rfl, rawVal_ofVal _⟩
          | error e =>
            rw [exec_step (hcall := by rw [W_exec, hs, hx])]
            simp only [brk_err, block_nil, popSt_envL, post_spec]
            have ih' := ih (k + 1) (by omega) (some e) .nil rawVal_nil
              (evs0 ++ (wev ++ [Ev.bexec n v i k (execArg cfg.execS item.box)])) (Ctx.live.after kind (scr.exec k).cancels)
            rw [hs] at ih'
            rw [List.append_assoc evs0 wev]
            exact LoopPost_shift ih'

theorem for_spec (f : Nat) (eerr eres : GV) (h : Heap) (w : LeafW) :
    execStmt W (f + 4) forStmt ⟨envS n cfg item eerr eres, h, w⟩
      = (loopFor W (f + 3) loopCond loopPost loopBody ⟨envL n cfg item 0 eerr eres, h, w⟩).map
          fun (c, st2) => (c, popSt st2 7) := by
  gosimp [forStmt, envL, envS]

theorem popSt_envL_7 (k : Nat) (eerr eres : GV) (h : Heap) (w : LeafW) :
    popSt (⟨envL n cfg item k eerr eres, h, w⟩ : St LeafW) 7 = ⟨envS n cfg item eerr eres, h, w⟩ := rfl

theorem suffix_ok (f : Nat) (eres : GV) (h : Heap) (w : LeafW) :
    execBlock W (f + 14) suffix ⟨envS n cfg item .nil eres, h, w⟩
      = some (.ret [eres, .nil], ⟨envS n cfg item .nil eres, h, w⟩) := by
  gosimp [suffix, Block.drop, Flyt.Expected.IR.runExecWithRetries, envS]

theorem suffix_absent (hfb : cfg.fb = .absent) (f : Nat) (e : ErrRoot) (eres : GV) (h : Heap) (w : LeafW) :
    execBlock W (f + 14) suffix ⟨envS n cfg item (.err e) eres, h, w⟩
      = some (.ret [.nil, .err e], ⟨envS n cfg item (.err e) eres, h, w⟩) := by
  gosimp [suffix, Block.drop, Flyt.Expected.IR.runExecWithRetries, envS, W_assert_fallback, hfb]

theorem suffix_fb (hfb : cfg.fb ≠ .absent) (f : Nat) (e : ErrRoot) (eres : GV) (h h' : Heap) (w w' : LeafW) (rs : List GV)
    (hcall : (W).mcall (.node n) "ExecFallback" [.result item, .err e] h w = some (rs, h', w')) :
    execBlock W (f + 14) suffix ⟨envS n cfg item (.err e) eres, h, w⟩
      = some (.ret rs, ⟨envS n cfg item (.err e) eres, h', w'⟩) := by
  have hb : (cfg.fb != .absent) = true := bne_iff_ne.2 hfb
  gosimp [suffix, Block.drop, Flyt.Expected.IR.runExecWithRetries, envS, W_assert_fallback, hb, hcall]

end
end Item

/-- fuel (recursion depth of the interpreter) that suffices: one level per loop iteration plus a constant -/
def itemFuel (cfg : BatchCfg) : Nat := cfg.budget + 30

namespace BatchStack
open Item

/-- The translated `runExecWithRetries` in the item world, on ANY heap and for every fuel from `itemFuel cfg` on: it returns the
    heap untouched, records the events and the context of the model's `runItemRaw`, and its return values are the model's raw
    result as Go values. -/
theorem item_raw (kind : CtxKind) (n : NodeId) (v : Nat) (cfg : BatchCfg) (i : Nat) (item : Result) (scr : ItemScript)
    (fi : Nat) (hfi : itemFuel cfg ≤ fi) (h : Heap) (ctx : Ctx) :
    ∃ rs c', callFunc (itemWorld kind n v cfg i scr) fi Flyt.Expected.IR.runExecWithRetries [ctxH, .node n, .result item] h ⟨[], ctx, 0⟩
        = some (rs, h, ⟨(runItemRaw kind n v cfg i item scr ctx).1, (runItemRaw kind n v cfg i item scr ctx).2.1, c'⟩)
      ∧ RetOK rs (runItemRaw kind n v cfg i item scr ctx).2.2 := by
  obtain ⟨d, rfl⟩ := Nat.exists_eq_add_of_le hfi
  have hl := Item.loop_spec kind n v cfg i item scr h (d + 3) cfg.budget 0 (by omega) none (.val Val.nil) (Or.inl rfl) [] ctx
  unfold callFunc
  rw [body_eq]
  simp only [Flyt.Expected.IR.runExecWithRetries]
  simp only [GoIR.Env.pushAll, GoIR.Env.push, beq_self_eq_true, if_true, List.nil_append, String.reduceBEq, Bool.false_eq_true,
    if_false]
  rw [show itemFuel cfg + d = (cfg.budget + d + 10) + 20 by unfold itemFuel; omega, Item.prefix_spec,
    show cfg.budget + d + 10 + 15 = (cfg.budget + d + 20 + 4) + 1 by omega, block_cons, Item.for_spec,
    show cfg.budget + d + 20 + 4 = cfg.budget + d + 24 by omega,
    show cfg.budget + d + 20 + 3 = cfg.budget + (d + 3) + 20 by omega]
  simp only [lastGV] at hl
  unfold runItemRaw
  generalize attempts _ _ _ _ _ _ _ 0 cfg.budget none ctx = X at hl ⊢
  obtain ⟨aev, ctx1, ar⟩ := X
  cases ar <;> simp only [LoopPost] at hl
  · obtain ⟨k', r', c', h1, h2⟩ := hl
    rw [h1]
    simp [popSt_envL_7, Item.suffix_ok, fallbackPhase, RetOK]
    exact h2
  · rename_i e
    obtain ⟨k', r', c', h1⟩ := hl
    rw [h1]
    simp only [Option.map, popSt_envL_7]
    cases hfb : cfg.fb with
    | absent =>
      rw [suffix_absent kind n v cfg i item scr hfb]
      simp [fallbackPhase, RetOK]
    | passThrough =>
      rw [suffix_fb kind n v cfg i item scr (by simp [hfb]) (hcall := by rw [W_fallback, hfb])]
      simp [fallbackPhase, RetOK]
    | custom =>
      cases hx : scr.fb.res
      all_goals
        rw [suffix_fb kind n v cfg i item scr (by simp [hfb]) (hcall := by rw [W_fallback, hfb, hx])]
        simp [fallbackPhase, hx, RetOK, rawVal_ofVal, GV.toVal]
  · obtain ⟨k', a', r', c', h1⟩ := hl
    rw [h1]
    simp [popSt_envL_7, fallbackPhase, RetOK]

end BatchStack

/-- The translated `runExecWithRetries` (batch.go:317) in the item world computes exactly the model's `runItem`: for every
    configuration (any exec style, any fallback kind), script, item and context, and every fuel from `itemFuel cfg` on. -/
theorem runExecWithRetries_refines_runItem_of_le (kind : CtxKind) (n : NodeId) (v : Nat) (cfg : BatchCfg) (i : Nat)
    (item : Result) (scr : ItemScript) (ctx : Ctx) (fuel : Nat) (hf : itemFuel cfg ≤ fuel) :
    GoIR.runItemIR fuel Flyt.Expected.IR.runExecWithRetries kind n v cfg i item scr ctx
      = some (runItem kind n v cfg i item scr ctx) := by
  obtain ⟨rs, c', h1, h2⟩ := BatchStack.item_raw kind n v cfg i item scr fuel hf [] ctx
  rw [runItemIR, h1, runItem_eq_raw]
  simp only [h2.itemResOf, Option.map]
  rfl

theorem runExecWithRetries_refines_runItem (kind : CtxKind) (n : NodeId) (v : Nat) (cfg : BatchCfg) (i : Nat)
    (item : Result) (scr : ItemScript) (ctx : Ctx) :
    GoIR.runItemIR (itemFuel cfg) Flyt.Expected.IR.runExecWithRetries kind n v cfg i item scr ctx
      = some (runItem kind n v cfg i item scr ctx) :=
  runExecWithRetries_refines_runItem_of_le kind n v cfg i item scr ctx (itemFuel cfg) (Nat.le_refl _)

end Flyt.Refine
