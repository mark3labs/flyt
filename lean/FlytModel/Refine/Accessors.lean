import FlytModel.GoIR.ValueWorld
import FlytModel.Proofs.Value
import FlytModel.Refine.RunNode
/-!
# Refinement of the typed accessors `Result.AsX / AsXOr / MustX` (result.go:34-276) and `SharedStore.GetX / GetXOr`
(flyt.go:166-362) for X = `String`, `Int`, `Float64`, `Bool`, `Map` (the slice accessors: `Refine/Slices.lean`): their translated
source (`Flyt.Expected.IR`), run in `valueWorld` (`GoIR/ValueWorld.lean`), computes the accessors of `Model/Value.lean` — for every
conversion parameter `c : Conv`, every value `v : GoVal` (no well-formedness hypothesis), every default, at every recursion depth
`≥ 40`. `panic` is stuck (`none`).

A program is walked once per path, not once per shape of the value: what a path needs to know of the value is read off the model
first — the outcome of a single assertion off `asString` / `asBool` / `asMap`, the clause a numeric type switch takes off `numTy`.
-/
namespace Flyt.Refine.Acc
open Flyt Flyt.GoIR Flyt.Value Flyt.GoIR.ValueW Flyt.Expected.IR Flyt.Refine

/-- the recursion depth of the executable test -/
def F : Nat := 60

section steps
variable {Ω : Type} (W : World Ω)
theorem expr_not (f : Nat) (a : Expr) (st : St Ω) :
    evalExpr W (f + 1) (.un "!" a) st =
      match evalExpr W f a st with
      | some ([.bool p], st1) => some ([.bool !p], st1)
      | _ => none := rfl
theorem expr_conv (f : Nat) (ty : String) (a : Expr) (st : St Ω) :
    evalExpr W (f + 1) (.conv ty a) st =
      match evalExpr W f a st with
      | some ([x], st1) =>
        (match W.call ("conv:" ++ ty) [x] st1.heap st1.w with
         | some (rs, h, w) => some (rs, { st1 with heap := h, w := w })
         | none => none)
      | _ => none := rfl
theorem stmt_typeSwitch (f : Nat) (bind : String) (x : Expr) (cases : Cases) (st : St Ω) :
    execStmt W (f + 1) (.typeSwitch bind x cases) st =
      match evalExpr W f x st with
      | some ([v], st1) => switchCases W f bind v cases st1
      | _ => none := rfl
theorem switch_case (f : Nat) (bind : String) (v : GV) (l ty : String) (body : Block) (rest : Cases) (st : St Ω) :
    switchCases W (f + 1) bind v (.cons (.lit l (.cons (.var ty) .nil)) body rest) st =
      (match W.assert v ty st.w with
       | some (v', true) =>
         (execBlock W f body { st with env := st.env.push bind v' }).map fun (c, st2) => (c, popSt st2 st.env.length)
       | some (_, false) => switchCases W f bind v rest st
       | none => none) := rfl
theorem switch_default (f : Nat) (bind : String) (v : GV) (d : String) (body : Block) (st : St Ω) :
    switchCases W (f + 1) bind v (.cons (.var d) body .nil) st =
      (execBlock W f body { st with env := st.env.push bind v }).map fun (c, st2) => (c, popSt st2 st.env.length) := rfl
theorem stmt_expr_call (f : Nat) (fn : String) (args : Exprs) (st : St Ω) :
    execStmt W (f + 1) (.expr (.call fn args)) st = (evalExpr W f (.call fn args) st).map fun (_, st1) => (.next, st1) := rfl

end steps

section world
variable (c : Conv) (v : GoVal) (st : Store1)
local notation "W" => valueWorld c v st
theorem W_field (n : Nat) (w : Unit) : (W).field (.ref "r" n) "value" w = some (encV v) := rfl
theorem W_assert_go (n : Nat) (ty : String) (w : Unit) : (W).assert (.ref "go" n) ty w = assertV v ty := rfl
theorem W_assert_nil (ty : String) (w : Unit) : (W).assert .nil ty w = assertV .nil ty := rfl
theorem W_conv_int_go (n : Nat) (h : Heap) (w : Unit) : (W).call "conv:int" [.ref "go" n] h w =
      (match v with
       | .int _ n => some ([.int (wrap64 n)], h, w)
       | .float (.basic .float32) b => some ([encI (c.f2i true b)], h, w)
       | .float (.basic .float64) b => some ([encI (c.f2i false b)], h, w)
       | _ => none) := rfl
theorem W_conv_f64_go (n : Nat) (h : Heap) (w : Unit) : (W).call "conv:float64" [.ref "go" n] h w =
      (match v with
       | .int _ n => some ([encF (c.i2f n)], h, w)
       | .float (.basic .float32) b => some ([encF (c.f32to64 b)], h, w)
       | _ => none) := rfl
theorem W_conv_int_f64 (b : Nat) (h : Heap) (w : Unit) :
    (W).call "conv:int" [encF b] h w = some ([encI (c.f2i false b)], h, w) := rfl
theorem W_conv_int_int (n : Int) (h : Heap) (w : Unit) : (W).call "conv:int" [.int n] h w = some ([.int n], h, w) := rfl
theorem W_conv_f64_int (n : Int) (h : Heap) (w : Unit) :
    (W).call "conv:float64" [.int n] h w = some ([encF (c.i2f n)], h, w) := rfl
theorem W_floatlit (s : String) (h : Heap) (w : Unit) : (W).call "float.lit" [.str s] h w = some ([encF 0], h, w) := rfl
theorem W_sprintf (l : List GV) (h : Heap) (w : Unit) : (W).call "fmt.Sprintf" l h w = some ([.str ""], h, w) := rfl
theorem W_panic (l : List GV) (h : Heap) (w : Unit) : (W).call "panic" l h w = none := rfl
theorem W_AsString (n : Nat) (l : List GV) (h : Heap) (w : Unit) :
    (W).mcall (.ref "r" n) "AsString" l h w = some ([.str (asString v).1, .bool (asString v).2], h, w) := rfl
theorem W_AsInt (n : Nat) (l : List GV) (h : Heap) (w : Unit) :
    (W).mcall (.ref "r" n) "AsInt" l h w = some ([encI (asInt c v).1, .bool (asInt c v).2], h, w) := rfl
theorem W_AsFloat64 (n : Nat) (l : List GV) (h : Heap) (w : Unit) :
    (W).mcall (.ref "r" n) "AsFloat64" l h w = some ([encF (asFloat64 c v).1, .bool (asFloat64 c v).2], h, w) := rfl
theorem W_AsBool (n : Nat) (l : List GV) (h : Heap) (w : Unit) :
    (W).mcall (.ref "r" n) "AsBool" l h w = some ([.bool (asBool v).1, .bool (asBool v).2], h, w) := rfl
theorem W_AsMap (n : Nat) (l : List GV) (h : Heap) (w : Unit) :
    (W).mcall (.ref "r" n) "AsMap" l h w = some ([encM (asMap v).1, .bool (asMap v).2], h, w) := rfl
theorem W_Get (n : Nat) (l : List GV) (h : Heap) (w : Unit) :
    (W).mcall (.ref "s" n) "Get" l h w =
      (match st.held with
       | some x => some ([encV x, .bool true], h, w)
       | none => some ([.nil, .bool false], h, w)) := by
  rcases st with ⟨_ | x⟩ <;> rfl
theorem W_GetIntOr (n : Nat) (k : GV) (d : Int) (h : Heap) (w : Unit) :
    (W).mcall (.ref "s" n) "GetIntOr" [k, .int d] h w = some ([encI (getIntOr c (storeOf st.held) "k" (some d))], h, w) := rfl
theorem W_GetFloat64Or (n : Nat) (k : GV) (d : Nat) (h : Heap) (w : Unit) :
    (W).mcall (.ref "s" n) "GetFloat64Or" [k, encF d] h w = some ([encF (getFloat64Or c (storeOf st.held) "k" d)], h, w) := rfl
theorem W_GetBoolOr (n : Nat) (k : GV) (d : Bool) (h : Heap) (w : Unit) :
    (W).mcall (.ref "s" n) "GetBoolOr" [k, .bool d] h w = some ([.bool (getBoolOr (storeOf st.held) "k" d)], h, w) := rfl
theorem W_GetMapOr (n : Nat) (k : GV) (h : Heap) (w : Unit) :
    (W).mcall (.ref "s" n) "GetMapOr" [k, .nil] h w = some ([encM (getMapOr (storeOf st.held) "k" none)], h, w) := rfl
end world

theorem encM_none : encM none = .nil := rfl
theorem lookup_k (x : GoVal) : Store.get (storeOf (some x)) "k" = some x := by
  simp [Store.get, storeOf]
theorem lookup_none : Store.get (storeOf none) "k" = none := rfl

theorem W_assert (c : Conv) (v : GoVal) (st : Store1) (ty : String) (w : Unit) :
    (valueWorld c v st).assert (encV v) ty w = assertV v ty := by
  cases v <;> rfl

theorem encV_ne {v : GoVal} (h : v ≠ .nil) : encV v = goH := by
  cases v <;> first | rfl | exact absurd rfl h

theorem assertV_string (v : GoVal) : assertV v "string" = some (.str (asString v).1, (asString v).2) := by
  rw [show assertV v "string" = match v with | .str (.basic .string) s => some (.str s, true) | _ => some (.str "", false) from rfl]
  cases v with
  | str t _ => cases t with
    | basic b => cases b <;> rfl
    | _ => rfl
  | _ => rfl

theorem assertV_bool (v : GoVal) : assertV v "bool" = some (.bool (asBool v).1, (asBool v).2) := by
  rw [show assertV v "bool" = match v with | .bool (.basic .bool) b => some (.bool b, true) | _ => some (.bool false, false) from rfl]
  cases v with
  | bool t _ => cases t with
    | basic b => cases b <;> rfl
    | _ => rfl
  | _ => rfl

theorem assertV_map (v : GoVal) : assertV v "map[string]any" = some (encM (asMap v).1, (asMap v).2) := by
  rw [show assertV v "map[string]any" =
    match v with | .map t id => if t = tMapSA then some (encM id, true) else some (.nil, false) | _ => some (.nil, false) from rfl]
  cases v with
  | map t id => by_cases h : t = tMapSA <;> simp [asMap, h, encM]
  | _ => rfl

/-- the predeclared type of a value that a numeric type switch has a case for: one of the ten documented integer types or a
    float type -/
def numTy : GoVal → Option Basic
  | .int (.basic b) _ => if b.isDocInt then some b else none
  | .float (.basic b) _ => if b.isFloat then some b else none
  | _ => none

theorem isDocInt_ne_isFloat {b b' : Basic} (hb : b.isDocInt) (hb' : b'.isFloat) : b' ≠ b := by
  rintro rfl; cases b' <;> cases hb <;> cases hb'

def tyName : Basic → String
  | .int => "int" | .int8 => "int8" | .int16 => "int16" | .int32 => "int32" | .int64 => "int64"
  | .uint => "uint" | .uint8 => "uint8" | .uint16 => "uint16" | .uint32 => "uint32" | .uint64 => "uint64" | .uintptr => "uintptr"
  | .float32 => "float32" | .float64 => "float64" | .complex64 => "complex64" | .complex128 => "complex128"
  | .string => "string" | .bool => "bool"

/-- what a numeric type switch binds: an `int` or a `float64` itself, any other number as the handle of the value -/
def bound : GoVal → GV
  | .int (.basic .int) n => .int n
  | .float (.basic .float64) x => encF x
  | _ => goH

theorem assertV_intN {b : Basic} (hb : b.isDocInt) (h0 : b ≠ .int) (v : GoVal) :
    (match v with
     | .int (.basic b') _ => if b' = b then some (goH, true) else some (GV.int 0, false)
     | _ => some (.int 0, false)) = some (if numTy v = some b then (bound v, true) else (.int 0, false)) := by
  cases v with
  | int t n => cases t with
    | basic b' =>
      by_cases e : b' = b
      · subst e; cases b' <;> first | rfl | exact absurd rfl h0 | cases hb
      · by_cases h' : b'.isDocInt <;> simp [numTy, h', e]
    | _ => rfl
  | float t x => cases t with
    | basic b' => by_cases h' : b'.isFloat <;> simp [numTy, h', isDocInt_ne_isFloat hb]
    | _ => rfl
  | _ => rfl

theorem assertV_special (v : GoVal) :
    assertV v "int" = some (if numTy v = some .int then (bound v, true) else (.int 0, false)) ∧
    assertV v "float64" = some (if numTy v = some .float64 then (bound v, true) else (encF 0, false)) ∧
    assertV v "float32" = some (if numTy v = some .float32 then (bound v, true) else (encF 0, false)) := by
  rw [show assertV v "int" = match v with | .int (.basic .int) n => some (.int n, true) | _ => some (.int 0, false) from rfl,
    show assertV v "float64" =
      match v with | .float (.basic .float64) x => some (encF x, true) | _ => some (encF 0, false) from rfl,
    show assertV v "float32" =
      match v with | .float (.basic .float32) _ => some (goH, true) | _ => some (encF 0, false) from rfl]
  cases v with
  | int t _ | float t _ => cases t with
    | basic b => cases b <;> exact ⟨rfl, rfl, rfl⟩
    | _ => exact ⟨rfl, rfl, rfl⟩
  | _ => exact ⟨rfl, rfl, rfl⟩

theorem assertV_num {b : Basic} (hb : b.isDocInt ∨ b.isFloat) (v : GoVal) :
    assertV v (tyName b) =
      some (if numTy v = some b then (bound v, true) else (if b.isFloat then encF 0 else .int 0, false)) := by
  cases b with
  | int => exact (assertV_special v).1
  | float64 => exact (assertV_special v).2.1
  | float32 => exact (assertV_special v).2.2
  | int8 | int16 | int32 | int64 | uint | uint8 | uint16 | uint32 | uint64 => exact assertV_intN rfl (by decide) v
  | _ => exact absurd hb (by decide)

theorem as_other (c : Conv) {v : GoVal} (h : numTy v = none) : asInt c v = (some 0, false) ∧ asFloat64 c v = (0, false) := by
  cases v with
  | int t _ | float t _ => cases t with
    | basic b => cases b <;> first | exact ⟨rfl, rfl⟩ | cases h
    | _ => exact ⟨rfl, rfl⟩
  | _ => exact ⟨rfl, rfl⟩

macro "accsimp" " [" ts:Lean.Parser.Tactic.simpLemma,* "]" : tactic =>
  `(tactic| gosimp [expr_sel, expr_not, expr_conv, stmt_typeSwitch, switch_case, switch_default, stmt_expr_call,
      runResultAcc, runStoreAcc, callFunc, W_field, W_assert, W_assert_go, W_assert_nil, W_conv_int_go, W_conv_f64_go,
      W_conv_int_f64, W_conv_int_int, W_conv_f64_int, W_floatlit, W_sprintf, W_panic, W_AsString, W_AsInt, W_AsFloat64, W_AsBool,
      W_AsMap, W_Get, W_GetIntOr, W_GetFloat64Or, W_GetBoolOr, W_GetMapOr, encM_none, lookup_k, lookup_none, rH, goH, sH,
      assertV_string, assertV_bool, assertV_map, $ts,*])

/-- case analysis on the value, down to the predeclared type where the first attempt does not decide -/
macro "accauto" v:ident " [" ts:Lean.Parser.Tactic.simpLemma,* "]" : tactic =>
  `(tactic| (cases $v:ident <;> first
      | (accsimp [$ts,*]; done)
      | (rename_i t _; cases t <;> first
          | (accsimp [$ts,*]; done)
          | (rename_i b; cases b <;> accsimp [$ts,*]))))

theorem getString_held (x : GoVal) : getString (storeOf (some x)) "k" = (asString x).1 := by
  rw [getString_of_get _ _ x (lookup_k x), asStringOr_eq, asString_exp]
  cases Spec.expString x <;> rfl

/-- the same case analysis for the value a store holds (`none`: the key is absent) -/
macro "storeauto" held:ident " [" ts:Lean.Parser.Tactic.simpLemma,* "]" : tactic =>
  `(tactic| (cases $held:ident with
      | none => accsimp [$ts,*]
      | some x => accauto x [$ts,*]))

/-! `AsInt` / `GetIntOr` and `AsFloat64` / `GetFloat64Or` end in a type switch with one clause for each of the twelve numeric types:
the clause of the target type returns the bound value, every other clause converts it. The switch is walked for an arbitrary list
of such clauses; what the clause taken returns is read off the model. -/

/-- the expression the clause for `b` returns: the bound value if `b` is the target type `first`, its conversion to `T` otherwise -/
def numE (T : String) (first b : Basic) : Expr := if b = first then .var "v" else .conv T (.var "v")

/-- the clause for `b`; `ok`: it also returns `true` -/
def numBody (T : String) (first : Basic) (ok : Bool) (b : Basic) : Block :=
  B[.ret (.cons (numE T first b) (if ok then E[.var "true"] else .nil))]

theorem numBody_run {Ω : Type} (W : World Ω) (T : String) (first b : Basic) (ok : Bool) (st : St Ω) (r : GV)
    (he : evalExpr W 2 (numE T first b) st = some ([r], st)) (ht : st.env.get "true" = none) :
    execBlock W 5 (numBody T first ok b) st = some (.ret (r :: if ok then [.bool true] else []), st) := by
  cases ok <;> gosimp [numBody, he, ht]

def docInts : List Basic := [.int, .int8, .int16, .int32, .int64, .uint, .uint8, .uint16, .uint32, .uint64]

/-- the clauses `case tyName b: numBody … b` for the types `l`, in order, and the `default` clause -/
def numCases (T : String) (first : Basic) (ok : Bool) (l : List Basic) (dflt : Block) : Cases :=
  l.foldr (fun b cs => .cons (.lit "types" (.cons (.var (tyName b)) .nil)) (numBody T first ok b) cs) (.cons (.var "default") dflt .nil)

theorem numTy_mem {x : GoVal} {b : Basic} (hx : numTy x = some b) :
    b ∈ docInts ++ [.float32, .float64] ∧ b ∈ [.float64, .float32] ++ docInts := by
  cases x with
  | int t _ | float t _ => cases t with
    | basic b' => cases b' <;> cases hx <;> decide
    | _ => cases hx
  | _ => cases hx

/-- The switch on `x` takes the clause of `numTy x`, the `default` clause if `x` is no number. What that clause returns at depth
    `f` the switch returns at every sufficient depth (`mono_execBlock`). -/
theorem num_switch (c : Conv) (x : GoVal) (st : Store1) (T : String) (first : Basic) (ok : Bool) (dflt : Block) (env : GoIR.Env)
    {o : Option Basic} (ho : numTy x = o) {s : St Unit} (hs : s = ⟨env.push "v" (o.elim (encV x) fun _ => bound x), [], ()⟩)
    {f : Nat} {vs : List GV} (hb : execBlock (valueWorld c x st) f (o.elim dflt (numBody T first ok)) s = some (.ret vs, s)) :
    ∀ l : List Basic, (∀ b ∈ l, b.isDocInt ∨ b.isFloat) → (∀ b, o = some b → b ∈ l) → ∀ g, f + l.length < g →
      switchCases (valueWorld c x st) g "v" (encV x) (numCases T first ok l dflt) ⟨env, [], ()⟩ =
        some (.ret vs, popSt s env.length)
  | [], _, hm, g, hg => by
    obtain ⟨g, rfl⟩ : ∃ g', g = g' + 1 := ⟨g - 1, by omega⟩
    subst hs
    cases o with
    | some b => exact absurd (hm b rfl) List.not_mem_nil
    | none =>
      rw [numCases, List.foldr_nil, switch_default]
      exact congrArg (Option.map _) (mono_execBlock _ (Nat.le_of_lt_succ hg) hb)
  | b :: l, hl, hm, g, hg => by
    rw [List.length_cons] at hg
    obtain ⟨g, rfl⟩ : ∃ g', g = g' + 1 := ⟨g - 1, by omega⟩
    rw [numCases, List.foldr_cons, switch_case, W_assert, assertV_num (hl b List.mem_cons_self)]
    by_cases e : o = some b
    · subst e hs
      rw [if_pos ho]
      exact congrArg (Option.map _) (mono_execBlock _ (show f ≤ g by omega) hb)
    · rw [if_neg fun h => e (ho.symm.trans h)]
      exact num_switch c x st T first ok dflt env ho hs hb l (fun b' hb' => hl b' (List.mem_cons_of_mem _ hb'))
        (fun b' hb' => (List.mem_cons.1 (hm b' hb')).resolve_left fun h => e (h ▸ hb')) g (by omega)

/-- `int(v)` and `float64(v)` on the value the switch bound, for a number `x` of type `b`, are the answers of `asInt` and
    `asFloat64` -/
theorem numE_run (c : Conv) {x : GoVal} (st : Store1) {b : Basic} (hx : numTy x = some b) (s : St Unit)
    (hv : s.env.get "v" = some (bound x)) :
    (evalExpr (valueWorld c x st) 2 (numE "int" .int b) s = some ([encI (asInt c x).1], s) ∧ (asInt c x).2 = true) ∧
    (evalExpr (valueWorld c x st) 2 (numE "float64" .float64 b) s = some ([encF (asFloat64 c x).1], s) ∧
      (asFloat64 c x).2 = true) := by
  cases x with
  | int t n | float t n => cases t with
    | basic b' =>
      cases b' <;> cases hx <;> refine ⟨⟨?_, rfl⟩, ?_, rfl⟩ <;>
        simp [numE, bound, expr_var, expr_conv, hv, W_conv_int_go, W_conv_int_f64, W_conv_f64_go, W_conv_f64_int, goH, asInt,
          asFloat64, encI]
    | _ => cases hx
  | _ => cases hx

/-- `if r.value == nil { return e0 }; switch v := r.value.(type) { cs }` -/
def resultSwitch (nm : String) (e0 : Exprs) (cs : Cases) : Func := ⟨nm, "r", [],
  B[.ifS B[] (.bin "==" (.sel (.var "r") "value") (.var "nil")) B[.ret e0] B[], .typeSwitch "v" (.sel (.var "r") "value") cs]⟩

theorem resultSwitch_run (c : Conv) {v : GoVal} (hn : v ≠ .nil) {nm : String} {e0 : Exprs} {cs : Cases} {f : Nat} {vs : List GV}
    {st' : St Unit} (h : switchCases (valueWorld c v ⟨none⟩) (f + 2) "v" (encV v) cs ⟨[("r", rH)], [], ()⟩ = some (.ret vs, st')) :
    runResultAcc (f + 5) (resultSwitch nm e0 cs) c v [] = some vs := by
  simp only [encV_ne hn, goH, rH] at h
  accsimp [resultSwitch, encV_ne hn, h]

/-- `val, ok := s.Get(key); if !ok { return defaultVal }; switch v := val.(type) { cs }` -/
def storeSwitch (nm : String) (cs : Cases) : Func := ⟨nm, "s", ["key", "defaultVal"],
  B[.define ["val", "ok"] E[.mcall (.var "s") "Get" E[.var "key"]], .ifS B[] (.un "!" (.var "ok")) B[.ret E[.var "defaultVal"]] B[],
    .typeSwitch "v" (.var "val") cs]⟩

/-- the locals of `storeSwitch` when the switch is reached, on a store that holds `x` -/
def storeEnv (x : GoVal) (d : GV) : GoIR.Env :=
  [("ok", .bool true), ("val", encV x), ("defaultVal", d), ("key", .str "k"), ("s", sH)]

theorem storeSwitch_run (c : Conv) (x : GoVal) {nm : String} {cs : Cases} {d : GV} {f : Nat} {vs : List GV} {st' : St Unit}
    (h : switchCases (valueWorld c x ⟨some x⟩) (f + 1) "v" (encV x) cs ⟨storeEnv x d, [], ()⟩ = some (.ret vs, st')) :
    runStoreAcc (f + 5) (storeSwitch nm cs) c (some x) [d] = some vs := by
  simp only [storeEnv, sH] at h
  accsimp [storeSwitch, h]

theorem Result_AsString_refines_of_le (c : Conv) (v : GoVal) (fuel : Nat) (h : 40 ≤ fuel) :
    runResultAcc fuel Result_AsString c v [] = some [.str (asString v).1, .bool (asString v).2] := by
  obtain ⟨f, rfl⟩ := Nat.exists_eq_add_of_le' h
  by_cases h : v = .nil
  · subst h
    accsimp [Result_AsString, asString, encV]
  · accsimp [Result_AsString, encV_ne h]
theorem Result_AsString_refines (c : Conv) (v : GoVal) :
    runResultAcc F Result_AsString c v [] = some [.str (asString v).1, .bool (asString v).2] :=
  Result_AsString_refines_of_le c v F (by decide)

theorem Result_AsInt_refines_of_le (c : Conv) (v : GoVal) (fuel : Nat) (h : 40 ≤ fuel) :
    runResultAcc fuel Result_AsInt c v [] = some [encI (asInt c v).1, .bool (asInt c v).2] := by
  obtain ⟨f, rfl⟩ := Nat.exists_eq_add_of_le' h
  by_cases hn : v = .nil
  · subst hn
    accsimp [Result_AsInt, asInt, encI, encV]
  · refine resultSwitch_run c hn (f := f + 35) (num_switch c v _ "int" .int true _ _ rfl rfl (f := 5) ?_
      (docInts ++ [.float32, .float64]) (by decide) (fun _ h => (numTy_mem h).1) _ (by simp [docInts]))
    cases hx : numTy v with
    | none =>
      rw [(as_other c hx).1]
      accsimp [encI]
    | some b =>
      obtain ⟨⟨he, hok⟩, _⟩ := numE_run c ⟨none⟩ hx ⟨[("v", bound v), ("r", rH)], [], ()⟩ rfl
      rw [hok]
      exact numBody_run _ _ _ b true _ _ he rfl
theorem Result_AsInt_refines (c : Conv) (v : GoVal) :
    runResultAcc F Result_AsInt c v [] = some [encI (asInt c v).1, .bool (asInt c v).2] :=
  Result_AsInt_refines_of_le c v F (by decide)

theorem Result_AsFloat64_refines_of_le (c : Conv) (v : GoVal) (fuel : Nat) (h : 40 ≤ fuel) :
    runResultAcc fuel Result_AsFloat64 c v [] = some [encF (asFloat64 c v).1, .bool (asFloat64 c v).2] := by
  obtain ⟨f, rfl⟩ := Nat.exists_eq_add_of_le' h
  by_cases hn : v = .nil
  · subst hn
    accsimp [Result_AsFloat64, asFloat64, encV]
  · refine resultSwitch_run c hn (f := f + 35) (num_switch c v _ "float64" .float64 true _ _ rfl rfl (f := 6) ?_
      ([.float64, .float32] ++ docInts) (by decide) (fun _ h => (numTy_mem h).2) _ (by simp [docInts]))
    cases hx : numTy v with
    | none =>
      rw [(as_other c hx).2]
      accsimp []
    | some b =>
      obtain ⟨_, he, hok⟩ := numE_run c ⟨none⟩ hx ⟨[("v", bound v), ("r", rH)], [], ()⟩ rfl
      rw [hok]
      exact mono_execBlock _ (by decide) (numBody_run _ _ _ b true _ _ he rfl)
theorem Result_AsFloat64_refines (c : Conv) (v : GoVal) :
    runResultAcc F Result_AsFloat64 c v [] = some [encF (asFloat64 c v).1, .bool (asFloat64 c v).2] :=
  Result_AsFloat64_refines_of_le c v F (by decide)

theorem Result_AsBool_refines_of_le (c : Conv) (v : GoVal) (fuel : Nat) (h : 40 ≤ fuel) :
    runResultAcc fuel Result_AsBool c v [] = some [.bool (asBool v).1, .bool (asBool v).2] := by
  obtain ⟨f, rfl⟩ := Nat.exists_eq_add_of_le' h
  by_cases h : v = .nil
  · subst h
    accsimp [Result_AsBool, asBool, encV]
  · accsimp [Result_AsBool, encV_ne h]
theorem Result_AsBool_refines (c : Conv) (v : GoVal) :
    runResultAcc F Result_AsBool c v [] = some [.bool (asBool v).1, .bool (asBool v).2] :=
  Result_AsBool_refines_of_le c v F (by decide)

theorem Result_AsMap_refines_of_le (c : Conv) (v : GoVal) (fuel : Nat) (h : 40 ≤ fuel) :
    runResultAcc fuel Result_AsMap c v [] = some [encM (asMap v).1, .bool (asMap v).2] := by
  obtain ⟨f, rfl⟩ := Nat.exists_eq_add_of_le' h
  by_cases h : v = .nil
  · subst h
    accsimp [Result_AsMap, asMap, encV]
  · accsimp [Result_AsMap, encV_ne h]
theorem Result_AsMap_refines (c : Conv) (v : GoVal) :
    runResultAcc F Result_AsMap c v [] = some [encM (asMap v).1, .bool (asMap v).2] :=
  Result_AsMap_refines_of_le c v F (by decide)

section guarded
variable {Ω α : Type} (W : World Ω) {x : String} (hx : x ≠ "_" ∧ "ok" ≠ x) (m : String) (enc : α → GV) (p : α × Bool)
  {a : String} {n : Nat} {h : Heap} {w : Ω} (hm : W.mcall (.ref a n) m [] h w = some ([enc p.1, .bool p.2], h, w))
  {fuel : Nat} (hf : 40 ≤ fuel)
include hx hm hf

theorem or_run (hd : x ≠ "defaultVal") (d : α) (nm : String) :
    (callFunc W fuel ⟨nm, "r", ["defaultVal"], B[.define [x, "ok"] E[.mcall (.var "r") m E[]],
      .ifS B[] (.un "!" (.var "ok")) B[.ret E[.var "defaultVal"]] B[], .ret E[.var x]]⟩ [.ref a n, enc d] h w).map (·.1) =
      some [enc (if !p.2 then d else p.1)] := by
  obtain ⟨f, rfl⟩ := Nat.exists_eq_add_of_le' hf
  cases hp : p.2 <;> gosimp [callFunc, expr_not, hm, hp, hx, hd]

theorem must_run (hr : x ≠ "r" ∧ x ≠ "panic" ∧ x ≠ "fmt.Sprintf") (nm msg : String) {s : GV}
    (hS : W.call "fmt.Sprintf" [.str msg, .ref a n] h w = some ([s], h, w)) (hP : W.call "panic" [s] h w = none) :
    (callFunc W fuel ⟨nm, "r", [], B[.define [x, "ok"] E[.mcall (.var "r") m E[]],
      .ifS B[] (.un "!" (.var "ok")) B[.expr (.call "panic" E[.call "fmt.Sprintf" E[.str msg, .var "r"]])] B[],
      .ret E[.var x]]⟩ [.ref a n] h w).map (·.1) = if p.2 then some [enc p.1] else none := by
  obtain ⟨f, rfl⟩ := Nat.exists_eq_add_of_le' hf
  cases hp : p.2 <;> gosimp [callFunc, expr_not, stmt_expr_call, hm, hp, hx, hr, hS, hP]

end guarded

/-- The body shared by `SharedStore.GetStringOr` / `GetBoolOr` / `GetMapOr` (flyt.go):
    `val, ok := s.Get(key); if !ok { return defaultVal }; x, ok := val.(T); if !ok { return defaultVal }; return x`, in any world. -/
theorem getOr_run {Ω α : Type} (W : World Ω) (x : String) (hx : x ≠ "_" ∧ "ok" ≠ x ∧ x ≠ "defaultVal") {ty : String} {enc : α → GV}
    {p : α × Bool} {a : String} {n : Nat} {k g : GV} {ok : Bool} {h : Heap} {w : Ω}
    (hG : W.mcall (.ref a n) "Get" [k] h w = some ([g, .bool ok], h, w)) (hA : W.assert g ty w = some (enc p.1, p.2))
    {fuel : Nat} (hf : 40 ≤ fuel) (d : α) (nm : String) :
    (callFunc W fuel ⟨nm, "s", ["key", "defaultVal"], B[.define ["val", "ok"] E[.mcall (.var "s") "Get" E[.var "key"]],
      .ifS B[] (.un "!" (.var "ok")) B[.ret E[.var "defaultVal"]] B[], .define [x, "ok"] E[.assert (.var "val") ty],
      .ifS B[] (.un "!" (.var "ok")) B[.ret E[.var "defaultVal"]] B[], .ret E[.var x]]⟩ [.ref a n, k, enc d] h w).map (·.1) =
      some [enc (if ok then (if !p.2 then d else p.1) else d)] := by
  obtain ⟨f, rfl⟩ := Nat.exists_eq_add_of_le' hf
  cases ok
  · gosimp [callFunc, expr_not, hG]
  · cases hp : p.2 <;> gosimp [callFunc, expr_not, hG, hA, hp, hx]

theorem Result_AsStringOr_refines_of_le (c : Conv) (v : GoVal) (d : String) (fuel : Nat) (h : 40 ≤ fuel) :
    runResultAcc fuel Result_AsStringOr c v [.str d] = some [.str (asStringOr v d)] :=
  or_run _ (by decide) "AsString" .str (asString v) (W_AsString ..) h (by decide) d _
theorem Result_AsStringOr_refines (c : Conv) (v : GoVal) (d : String) :
    runResultAcc F Result_AsStringOr c v [.str d] = some [.str (asStringOr v d)] :=
  Result_AsStringOr_refines_of_le c v d F (by decide)

theorem Result_AsIntOr_refines_of_le (c : Conv) (v : GoVal) (d : Int) (fuel : Nat) (h : 40 ≤ fuel) :
    runResultAcc fuel Result_AsIntOr c v [.int d] = some [encI (asIntOr c v (some d))] :=
  or_run _ (by decide) "AsInt" encI (asInt c v) (W_AsInt ..) h (by decide) (some d) _
theorem Result_AsIntOr_refines (c : Conv) (v : GoVal) (d : Int) :
    runResultAcc F Result_AsIntOr c v [.int d] = some [encI (asIntOr c v (some d))] :=
  Result_AsIntOr_refines_of_le c v d F (by decide)

theorem Result_AsFloat64Or_refines_of_le (c : Conv) (v : GoVal) (d : Nat) (fuel : Nat) (h : 40 ≤ fuel) :
    runResultAcc fuel Result_AsFloat64Or c v [encF d] = some [encF (asFloat64Or c v d)] :=
  or_run _ (by decide) "AsFloat64" encF (asFloat64 c v) (W_AsFloat64 ..) h (by decide) d _
theorem Result_AsFloat64Or_refines (c : Conv) (v : GoVal) (d : Nat) :
    runResultAcc F Result_AsFloat64Or c v [encF d] = some [encF (asFloat64Or c v d)] :=
  Result_AsFloat64Or_refines_of_le c v d F (by decide)

theorem Result_AsBoolOr_refines_of_le (c : Conv) (v : GoVal) (d : Bool) (fuel : Nat) (h : 40 ≤ fuel) :
    runResultAcc fuel Result_AsBoolOr c v [.bool d] = some [.bool (asBoolOr v d)] :=
  or_run _ (by decide) "AsBool" .bool (asBool v) (W_AsBool ..) h (by decide) d _
theorem Result_AsBoolOr_refines (c : Conv) (v : GoVal) (d : Bool) :
    runResultAcc F Result_AsBoolOr c v [.bool d] = some [.bool (asBoolOr v d)] :=
  Result_AsBoolOr_refines_of_le c v d F (by decide)

theorem Result_AsMapOr_refines_of_le (c : Conv) (v : GoVal) (d : MapV) (fuel : Nat) (h : 40 ≤ fuel) :
    runResultAcc fuel Result_AsMapOr c v [encM d] = some [encM (asMapOr v d)] :=
  or_run _ (by decide) "AsMap" encM (asMap v) (W_AsMap ..) h (by decide) d _
theorem Result_AsMapOr_refines (c : Conv) (v : GoVal) (d : MapV) :
    runResultAcc F Result_AsMapOr c v [encM d] = some [encM (asMapOr v d)] :=
  Result_AsMapOr_refines_of_le c v d F (by decide)

theorem Result_MustString_refines_of_le (c : Conv) (v : GoVal) (fuel : Nat) (h : 40 ≤ fuel) :
    runResultAcc fuel Result_MustString c v [] = (match mustString v with | .panic => none | .ok s => some [.str s]) := by
  refine (must_run _ (by decide) "AsString" .str (asString v) (W_AsString ..) h (by decide) _ _ (W_sprintf ..)
    (W_panic ..)).trans ?_
  unfold mustString
  rcases asString v with ⟨_, _ | _⟩ <;> rfl
theorem Result_MustString_refines (c : Conv) (v : GoVal) :
    runResultAcc F Result_MustString c v [] = (match mustString v with | .panic => none | .ok s => some [.str s]) :=
  Result_MustString_refines_of_le c v F (by decide)

theorem Result_MustInt_refines_of_le (c : Conv) (v : GoVal) (fuel : Nat) (h : 40 ≤ fuel) :
    runResultAcc fuel Result_MustInt c v [] = (match mustInt c v with | .panic => none | .ok s => some [encI s]) := by
  refine (must_run _ (by decide) "AsInt" encI (asInt c v) (W_AsInt ..) h (by decide) _ _ (W_sprintf ..)
    (W_panic ..)).trans ?_
  unfold mustInt
  rcases asInt c v with ⟨_, _ | _⟩ <;> rfl
theorem Result_MustInt_refines (c : Conv) (v : GoVal) :
    runResultAcc F Result_MustInt c v [] = (match mustInt c v with | .panic => none | .ok s => some [encI s]) :=
  Result_MustInt_refines_of_le c v F (by decide)

theorem Result_MustFloat64_refines_of_le (c : Conv) (v : GoVal) (fuel : Nat) (h : 40 ≤ fuel) :
    runResultAcc fuel Result_MustFloat64 c v [] = (match mustFloat64 c v with | .panic => none | .ok s => some [encF s]) := by
  refine (must_run _ (by decide) "AsFloat64" encF (asFloat64 c v) (W_AsFloat64 ..) h (by decide) _ _ (W_sprintf ..)
    (W_panic ..)).trans ?_
  unfold mustFloat64
  rcases asFloat64 c v with ⟨_, _ | _⟩ <;> rfl
theorem Result_MustFloat64_refines (c : Conv) (v : GoVal) :
    runResultAcc F Result_MustFloat64 c v [] = (match mustFloat64 c v with | .panic => none | .ok s => some [encF s]) :=
  Result_MustFloat64_refines_of_le c v F (by decide)

theorem Result_MustBool_refines_of_le (c : Conv) (v : GoVal) (fuel : Nat) (h : 40 ≤ fuel) :
    runResultAcc fuel Result_MustBool c v [] = (match mustBool v with | .panic => none | .ok s => some [.bool s]) := by
  refine (must_run _ (by decide) "AsBool" .bool (asBool v) (W_AsBool ..) h (by decide) _ _ (W_sprintf ..)
    (W_panic ..)).trans ?_
  unfold mustBool
  rcases asBool v with ⟨_, _ | _⟩ <;> rfl
theorem Result_MustBool_refines (c : Conv) (v : GoVal) :
    runResultAcc F Result_MustBool c v [] = (match mustBool v with | .panic => none | .ok s => some [.bool s]) :=
  Result_MustBool_refines_of_le c v F (by decide)

theorem Result_MustMap_refines_of_le (c : Conv) (v : GoVal) (fuel : Nat) (h : 40 ≤ fuel) :
    runResultAcc fuel Result_MustMap c v [] = (match mustMap v with | .panic => none | .ok s => some [encM s]) := by
  refine (must_run _ (by decide) "AsMap" encM (asMap v) (W_AsMap ..) h (by decide) _ _ (W_sprintf ..)
    (W_panic ..)).trans ?_
  unfold mustMap
  rcases asMap v with ⟨_, _ | _⟩ <;> rfl
theorem Result_MustMap_refines (c : Conv) (v : GoVal) :
    runResultAcc F Result_MustMap c v [] = (match mustMap v with | .panic => none | .ok s => some [encM s]) :=
  Result_MustMap_refines_of_le c v F (by decide)

theorem SharedStore_GetString_refines_of_le (c : Conv) (held : Option GoVal) (fuel : Nat) (h : 40 ≤ fuel) :
    runStoreAcc fuel SharedStore_GetString c held [] = some [.str (getString (storeOf held) "k")] := by
  obtain ⟨f, rfl⟩ := Nat.exists_eq_add_of_le' h
  cases held with
  | none => accsimp [SharedStore_GetString, getString]
  | some x => accsimp [SharedStore_GetString, getString_held]
theorem SharedStore_GetString_refines (c : Conv) (held : Option GoVal) :
    runStoreAcc F SharedStore_GetString c held [] = some [.str (getString (storeOf held) "k")] :=
  SharedStore_GetString_refines_of_le c held F (by decide)

theorem SharedStore_GetStringOr_refines_of_le (c : Conv) (held : Option GoVal) (d : String) (fuel : Nat) (h : 40 ≤ fuel) :
    runStoreAcc fuel SharedStore_GetStringOr c held [.str d] = some [.str (getStringOr (storeOf held) "k" d)] := by
  cases held with
  | none => exact getOr_run (valueWorld c .nil ⟨none⟩) "str" (by decide) (W_Get ..) ((W_assert_nil ..).trans (assertV_string _)) h d _
  | some x =>
    rw [getStringOr_of_get _ _ x d (lookup_k x)]
    exact getOr_run (valueWorld c x ⟨some x⟩) "str" (by decide) (W_Get ..) ((W_assert ..).trans (assertV_string x)) h d _
theorem SharedStore_GetStringOr_refines (c : Conv) (held : Option GoVal) (d : String) :
    runStoreAcc F SharedStore_GetStringOr c held [.str d] = some [.str (getStringOr (storeOf held) "k" d)] :=
  SharedStore_GetStringOr_refines_of_le c held d F (by decide)

theorem SharedStore_GetIntOr_refines_of_le (c : Conv) (held : Option GoVal) (d : Int) (fuel : Nat) (h : 40 ≤ fuel) :
    runStoreAcc fuel SharedStore_GetIntOr c held [.int d] = some [encI (getIntOr c (storeOf held) "k" (some d))] := by
  obtain ⟨f, rfl⟩ := Nat.exists_eq_add_of_le' h
  cases held with
  | none => accsimp [SharedStore_GetIntOr, getIntOr, encI]
  | some v =>
    rw [getIntOr_of_get c _ _ v _ (lookup_k v), asIntOr]
    refine storeSwitch_run c v (f := f + 35) (num_switch c v _ "int" .int false _ _ rfl rfl (f := 5) ?_
      (docInts ++ [.float32, .float64]) (by decide) (fun _ h => (numTy_mem h).1) _ (by simp [docInts]))
    cases hx : numTy v with
    | none =>
      rw [(as_other c hx).1]
      accsimp [storeEnv, encI]
    | some b =>
      obtain ⟨⟨he, hok⟩, _⟩ := numE_run c ⟨some v⟩ hx ⟨("v", bound v) :: storeEnv v (.int d), [], ()⟩ rfl
      simp only [hok]
      exact numBody_run _ _ _ b false _ _ he rfl
theorem SharedStore_GetIntOr_refines (c : Conv) (held : Option GoVal) (d : Int) :
    runStoreAcc F SharedStore_GetIntOr c held [.int d] = some [encI (getIntOr c (storeOf held) "k" (some d))] :=
  SharedStore_GetIntOr_refines_of_le c held d F (by decide)

theorem SharedStore_GetInt_refines_of_le (c : Conv) (held : Option GoVal) (fuel : Nat) (h : 40 ≤ fuel) :
    runStoreAcc fuel SharedStore_GetInt c held [] = some [encI (getInt c (storeOf held) "k")] := by
  obtain ⟨f, rfl⟩ := Nat.exists_eq_add_of_le' h
  accsimp [SharedStore_GetInt, getInt]
theorem SharedStore_GetInt_refines (c : Conv) (held : Option GoVal) :
    runStoreAcc F SharedStore_GetInt c held [] = some [encI (getInt c (storeOf held) "k")] :=
  SharedStore_GetInt_refines_of_le c held F (by decide)

theorem SharedStore_GetFloat64Or_refines_of_le (c : Conv) (held : Option GoVal) (d : Nat) (fuel : Nat) (h : 40 ≤ fuel) :
    runStoreAcc fuel SharedStore_GetFloat64Or c held [encF d] = some [encF (getFloat64Or c (storeOf held) "k" d)] := by
  obtain ⟨f, rfl⟩ := Nat.exists_eq_add_of_le' h
  cases held with
  | none => accsimp [SharedStore_GetFloat64Or, getFloat64Or]
  | some v =>
    rw [getFloat64Or_of_get c _ _ v _ (lookup_k v), asFloat64Or]
    refine storeSwitch_run c v (f := f + 35) (num_switch c v _ "float64" .float64 false _ _ rfl rfl (f := 5) ?_
      ([.float64, .float32] ++ docInts) (by decide) (fun _ h => (numTy_mem h).2) _ (by simp [docInts]))
    cases hx : numTy v with
    | none =>
      rw [(as_other c hx).2]
      accsimp [storeEnv]
    | some b =>
      obtain ⟨_, he, hok⟩ := numE_run c ⟨some v⟩ hx ⟨("v", bound v) :: storeEnv v (encF d), [], ()⟩ rfl
      simp only [hok]
      exact numBody_run _ _ _ b false _ _ he rfl
theorem SharedStore_GetFloat64Or_refines (c : Conv) (held : Option GoVal) (d : Nat) :
    runStoreAcc F SharedStore_GetFloat64Or c held [encF d] = some [encF (getFloat64Or c (storeOf held) "k" d)] :=
  SharedStore_GetFloat64Or_refines_of_le c held d F (by decide)

theorem SharedStore_GetFloat64_refines_of_le (c : Conv) (held : Option GoVal) (fuel : Nat) (h : 40 ≤ fuel) :
    runStoreAcc fuel SharedStore_GetFloat64 c held [] = some [encF (getFloat64 c (storeOf held) "k")] := by
  obtain ⟨f, rfl⟩ := Nat.exists_eq_add_of_le' h
  accsimp [SharedStore_GetFloat64, getFloat64]
theorem SharedStore_GetFloat64_refines (c : Conv) (held : Option GoVal) :
    runStoreAcc F SharedStore_GetFloat64 c held [] = some [encF (getFloat64 c (storeOf held) "k")] :=
  SharedStore_GetFloat64_refines_of_le c held F (by decide)

theorem SharedStore_GetBoolOr_refines_of_le (c : Conv) (held : Option GoVal) (d : Bool) (fuel : Nat) (h : 40 ≤ fuel) :
    runStoreAcc fuel SharedStore_GetBoolOr c held [.bool d] = some [.bool (getBoolOr (storeOf held) "k" d)] := by
  cases held with
  | none => exact getOr_run (valueWorld c .nil ⟨none⟩) "b" (by decide) (W_Get ..) ((W_assert_nil ..).trans (assertV_bool _)) h d _
  | some x =>
    rw [getBoolOr_of_get _ _ x d (lookup_k x)]
    exact getOr_run (valueWorld c x ⟨some x⟩) "b" (by decide) (W_Get ..) ((W_assert ..).trans (assertV_bool x)) h d _
theorem SharedStore_GetBoolOr_refines (c : Conv) (held : Option GoVal) (d : Bool) :
    runStoreAcc F SharedStore_GetBoolOr c held [.bool d] = some [.bool (getBoolOr (storeOf held) "k" d)] :=
  SharedStore_GetBoolOr_refines_of_le c held d F (by decide)

theorem SharedStore_GetBool_refines_of_le (c : Conv) (held : Option GoVal) (fuel : Nat) (h : 40 ≤ fuel) :
    runStoreAcc fuel SharedStore_GetBool c held [] = some [.bool (getBool (storeOf held) "k")] := by
  obtain ⟨f, rfl⟩ := Nat.exists_eq_add_of_le' h
  accsimp [SharedStore_GetBool, getBool]
theorem SharedStore_GetBool_refines (c : Conv) (held : Option GoVal) :
    runStoreAcc F SharedStore_GetBool c held [] = some [.bool (getBool (storeOf held) "k")] :=
  SharedStore_GetBool_refines_of_le c held F (by decide)

theorem SharedStore_GetMapOr_refines_of_le (c : Conv) (held : Option GoVal) (d : MapV) (fuel : Nat) (h : 40 ≤ fuel) :
    runStoreAcc fuel SharedStore_GetMapOr c held [encM d] = some [encM (getMapOr (storeOf held) "k" d)] := by
  cases held with
  | none => exact getOr_run (valueWorld c .nil ⟨none⟩) "m" (by decide) (W_Get ..) ((W_assert_nil ..).trans (assertV_map _)) h d _
  | some x =>
    rw [getMapOr_of_get _ _ x d (lookup_k x)]
    exact getOr_run (valueWorld c x ⟨some x⟩) "m" (by decide) (W_Get ..) ((W_assert ..).trans (assertV_map x)) h d _
theorem SharedStore_GetMapOr_refines (c : Conv) (held : Option GoVal) (d : MapV) :
    runStoreAcc F SharedStore_GetMapOr c held [encM d] = some [encM (getMapOr (storeOf held) "k" d)] :=
  SharedStore_GetMapOr_refines_of_le c held d F (by decide)

theorem SharedStore_GetMap_refines_of_le (c : Conv) (held : Option GoVal) (fuel : Nat) (h : 40 ≤ fuel) :
    runStoreAcc fuel SharedStore_GetMap c held [] = some [encM (getMap (storeOf held) "k")] := by
  obtain ⟨f, rfl⟩ := Nat.exists_eq_add_of_le' h
  accsimp [SharedStore_GetMap, getMap]
theorem SharedStore_GetMap_refines (c : Conv) (held : Option GoVal) :
    runStoreAcc F SharedStore_GetMap c held [] = some [encM (getMap (storeOf held) "k")] :=
  SharedStore_GetMap_refines_of_le c held F (by decide)

end Flyt.Refine.Acc
