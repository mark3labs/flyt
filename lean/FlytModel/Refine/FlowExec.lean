import FlytModel.GoIR.Worlds
import FlytModel.Expected.IR
import FlytModel.Proofs.Leaf
import FlytModel.Refine.Run
/-!
# `Flow.Exec` (translated Go source, `Expected.IR.Flow_Exec`) refines the model's `flowLoop`

The interpreter (`GoIR/Interp.lean`) run on the machine translation of `Flow.Exec` in the world `flowWorld`
(nested `Run` = the model's `runNode`, `f.transitions` = `buildTable ops`) returns exactly what `flowLoop` returns,
whenever the model does not run out of fuel. Interpreter fuel: any `fuel ≥ mfuel + 40` (one level per loop
iteration, at most `mfuel` iterations, a constant for the straight-line code).
-/
namespace Flyt.Refine
open Flyt Flyt.GoIR
set_option linter.unusedSimpArgs false

theorem containsW_cancelled : containsW "flow: exec cancelled: %w" = true := by
  simp (config := {decide := true}) [containsW, String.splitOn, String.splitOnAux]

def flowCond : Expr := .bin "!=" (.var "current") (.var "nil")

def flowBody : Block :=
B[
    (.ifS B[(.define ["err"] E[(.mcall (.var "ctx") "Err" E[])])] (.bin "!=" (.var "err") (.var "nil")) B[
      (.ret E[(.var "nil"), (.call "fmt.Errorf" E[(.str "flow: exec cancelled: %w"), (.var "err")])])] B[]),
    (.define ["action", "err"] E[(.call "Run" E[(.var "ctx"), (.var "current"), (.var "shared")])]),
    (.ifS B[] (.bin "!=" (.var "err") (.var "nil")) B[
      (.ret E[(.var "nil"), (.var "err")])] B[]),
    (.assign E[(.var "lastAction")] E[(.var "action")]),
    (.ifS B[(.define ["transitions", "ok"] E[(.index (.sel (.var "f") "transitions") (.var "current"))])] (.var "ok") B[
      (.ifS B[(.define ["next", "ok"] E[(.index (.var "transitions") (.var "action"))])] (.var "ok") B[
        (.assign E[(.var "current")] E[(.var "next")])] B[
        .brk])] B[
      .brk])]

theorem Flow_Exec_body : Flyt.Expected.IR.Flow_Exec.body =
  B[
  (.define ["shared", "ok"] E[(.assert (.var "prepResult") "*SharedStore")]),
  (.ifS B[] (.un "!" (.var "ok")) B[
    (.ret E[(.var "nil"), (.call "fmt.Errorf" E[(.str "flow: exec failed: invalid prepResult type %T, expected *SharedStore"), (.var "prepResult")])])] B[]),
  (.ifS B[] (.bin "==" (.sel (.var "f") "start") (.var "nil")) B[
    (.ret E[(.var "nil"), (.call "fmt.Errorf" E[(.str "flow: exec failed: no start node configured")])])] B[]),
  (.define ["current"] E[(.sel (.var "f") "start")]),
  (.declare "lastAction" "Action"),
  (.forS B[] flowCond B[] flowBody),
  (.ret E[(.var "lastAction"), (.var "nil")])] := rfl

def loopEnv (fid : NodeId) (cur : GV) (sid : StoreId) (la : String) : GoIR.Env :=
  [("lastAction", .str la), ("current", cur), ("ok", .bool true), ("shared", storeH sid),
   ("prepResult", storeH sid), ("ctx", ctxH), ("f", .node fid)]

def LoopGood (fid : NodeId) (sid : StoreId) (h : Heap) (evs0 : List Ev) (r : List Ev × RunSt × Outcome)
    (res : Option (Ctl × St FlowW)) : Prop :=
  match r.2.2 with
  | .ok a => ∃ c mf', res = some (.next, ⟨loopEnv fid c sid a, h, ⟨evs0 ++ r.1, r.2.1, mf'⟩⟩)
  | .err e => ∃ c la mf', res = some (.ret [.nil, .err e], ⟨loopEnv fid c sid la, h, ⟨evs0 ++ r.1, r.2.1, mf'⟩⟩)
  | _ => False

theorem flowWorld_assert (env : Flyt.Env) (start : Option NodeId) (tbl : Table) (x : GV) (ty : String) (w : FlowW) :
    (flowWorld env start tbl).assert x ty w =
      if ty == "*SharedStore" then
        match storeIdOf x with
        | some _ => some (x, true)
        | none => some (.nil, false)
      else none := rfl

theorem flowWorld_field (env : Flyt.Env) (start : Option NodeId) (tbl : Table) (x : GV) (f : String) (w : FlowW) :
    (flowWorld env start tbl).field x f w =
      match x with
      | .node _ =>
        if f == "start" then (match start with | some s => some (.node s) | none => some .nil)
        else if f == "transitions" then some (.ref "trans" 0)
        else none
      | _ => none := rfl

theorem flowWorld_err (env : Flyt.Env) (start : Option NodeId) (tbl : Table) (i : Nat) (h : Heap) (w : FlowW) :
    (flowWorld env start tbl).mcall (.ref "ctx" i) "Err" [] h w = some ([ctxErrGV w.st.ctx], h, w) := rfl

theorem flowWorld_run (env : Flyt.Env) (start : Option NodeId) (tbl : Table) (a : GV) (id sid : Nat) (h : Heap)
    (evs : List Ev) (st : RunSt) (mf : Nat) :
    (flowWorld env start tbl).call "Run" [a, .node id, .ref "store" sid] h ⟨evs, st, mf + 1⟩ =
      match (runNode env mf id sid st).2.2 with
      | .ok x => some ([.str x, .nil], h, ⟨evs ++ (runNode env mf id sid st).1, (runNode env mf id sid st).2.1, mf⟩)
      | .err e => some ([.str "", .err e], h, ⟨evs ++ (runNode env mf id sid st).1, (runNode env mf id sid st).2.1, mf⟩)
      | _ => none := rfl

theorem flowWorld_trans (env : Flyt.Env) (start : Option NodeId) (tbl : Table) (j cur : Nat) (w : FlowW) :
    (flowWorld env start tbl).mapIndex (.ref "trans" j) (.node cur) w =
      match assocGet tbl cur with
      | some _ => some (.ref "inner" cur, true)
      | none => some (.nil, false) := rfl

theorem flowWorld_inner (env : Flyt.Env) (start : Option NodeId) (tbl : Table) (cur : Nat) (a : String) (w : FlowW) :
    (flowWorld env start tbl).mapIndex (.ref "inner" cur) (.str a) w =
      match (assocGet tbl cur).bind (assocGet · a) with
      | some (some nxt) => some (.node nxt, true)
      | some none => some (.nil, true)
      | none => some (.nil, false) := rfl

theorem loop_refines (env : Flyt.Env) (fid : NodeId) (sid : StoreId) (start : Option NodeId) (tbl : Table) :
    ∀ (mf k : Nat) (cur : NodeId) (la : String) (evs0 : List Ev) (st : RunSt) (h : Heap),
      (flowLoop env mf tbl cur sid st).2.2 ≠ .fuel →
      (∀ a e, (flowLoop env mf tbl cur sid st).2.2 ≠ .both a e) →
      LoopGood fid sid h evs0 (flowLoop env mf tbl cur sid st)
        (loopFor (flowWorld env start tbl) (k + mf + 33) flowCond B[] flowBody
          ⟨loopEnv fid (.node cur) sid la, h, ⟨evs0, st, mf⟩⟩) := by
  intro mf
  induction mf with
  | zero => intro k cur la evs0 st h hne; simp [flowLoop] at hne
  | succ mf ih =>
    intro k cur la evs0 st h hne hnb
    have hf : k + (mf + 1) + 33 = (k + mf + 33) + 1 := by omega
    rw [hf, loopFor]
    generalize hL : loopFor (flowWorld env start tbl) (k + mf + 33) flowCond B[] flowBody = L
    simp only [flowLoop] at hne hnb ⊢
    cases hc : st.ctx with
    | done kd =>
      simp only [hc] at hne hnb ⊢
      gosimp [LoopGood, flowCond, flowBody, loopEnv, ctxH, storeH, expr_sel, flowWorld_err, flowWorld_run, flowWorld_trans, flowWorld_inner, flowWorld_field, errorf, containsW_cancelled, hc, ctxErrGV]
    | live =>
      simp only [hc] at hne hnb ⊢
      cases hr : runNode env mf cur sid st with
      | mk evs1 p =>
        obtain ⟨st1, out⟩ := p
        simp only [hr] at hne hnb ⊢
        cases out with
        | fuel => simp at hne
        | both a e => exact absurd rfl (hnb a e)
        | err e =>
          gosimp [LoopGood, flowCond, flowBody, loopEnv, ctxH, storeH, expr_sel, flowWorld_err, flowWorld_run, flowWorld_trans, flowWorld_inner, flowWorld_field, hc, hr, ctxErrGV]
        | ok a =>
          simp only [tableLookup] at hne hnb ⊢
          cases hA : assocGet tbl cur with
          | none =>
            gosimp [LoopGood, flowCond, flowBody, loopEnv, ctxH, storeH, expr_sel, flowWorld_err, flowWorld_run, flowWorld_trans, flowWorld_inner, flowWorld_field, hc, hr, hA, ctxErrGV]
          | some inner =>
            simp only [hA] at hne hnb ⊢
            cases hB : assocGet inner a with
            | none =>
              gosimp [LoopGood, flowCond, flowBody, loopEnv, ctxH, storeH, expr_sel, flowWorld_err, flowWorld_run, flowWorld_trans, flowWorld_inner, flowWorld_field, hc, hr, hA, hB, ctxErrGV]
            | some tgt =>
              cases tgt with
              | none =>
                gosimp [LoopGood, flowCond, flowBody, loopEnv, ctxH, storeH, expr_sel, flowWorld_err, flowWorld_run, flowWorld_trans, flowWorld_inner, flowWorld_field, hc, hr, hA, hB, ctxErrGV]
                refine ⟨.nil, mf, ?_⟩
                subst hL
                rw [loopFor]
                simp [flowCond, evalExpr, Env.get, GV.eqv, GV.isNil]
              | some nxt =>
                gosimp [LoopGood, flowCond, flowBody, loopEnv, ctxH, storeH, expr_sel, flowWorld_err, flowWorld_run, flowWorld_trans, flowWorld_inner, flowWorld_field, hc, hr, hA, hB, ctxErrGV]
                simp only [hB] at hne hnb
                have h1 := ih k nxt a (evs0 ++ evs1) st1 h hne hnb
                simpa [LoopGood, loopEnv, ctxH, storeH, hL, List.append_assoc] using h1

theorem Flow_Exec_recv : Flyt.Expected.IR.Flow_Exec.recv = "f" := rfl
theorem Flow_Exec_params : Flyt.Expected.IR.Flow_Exec.params = ["ctx", "prepResult"] := rfl

theorem FlowExec_refines_flowLoop_core (env : Flyt.Env) (fid s : NodeId) (ops : List ConnOp) (mfuel k : Nat) (sid : StoreId) (st : RunSt)
    (hne : (flowLoop env mfuel (buildTable ops) s sid st).2.2 ≠ .fuel)
    (hnb : ∀ a e, (flowLoop env mfuel (buildTable ops) s sid st).2.2 ≠ .both a e) :
    GoIR.flowExecIR (k + mfuel + 40) Flyt.Expected.IR.Flow_Exec env fid (some s) ops mfuel sid st
      = some (flowLoop env mfuel (buildTable ops) s sid st) := by
  have hloop := loop_refines env fid sid (some s) (buildTable ops) mfuel k s "" [] st [] hne hnb
  simp only [LoopGood, loopEnv, ctxH, storeH, List.nil_append] at hloop
  rcases hfl : flowLoop env mfuel (buildTable ops) s sid st with ⟨evs, st', out⟩
  rw [hfl] at hloop
  cases out with
  | fuel => simp [hfl] at hne
  | both a e => exact absurd (by rw [hfl]) (hnb a e)
  | ok a =>
    obtain ⟨c, mf', hloop⟩ := hloop
    gosimp [flowExecIR, callFunc, Flow_Exec_body, Flow_Exec_recv, Flow_Exec_params, expr_sel, expr_not, flowWorld_assert, flowWorld_field, ctxH, storeH, storeIdOf, fwTagOf, flowOutcomeOf, hloop]
  | err e =>
    obtain ⟨c, la, mf', hloop⟩ := hloop
    gosimp [flowExecIR, callFunc, Flow_Exec_body, Flow_Exec_recv, Flow_Exec_params, expr_sel, expr_not, flowWorld_assert, flowWorld_field, ctxH, storeH, storeIdOf, fwTagOf, flowOutcomeOf, hloop]

theorem FlowExec_no_start_core (env : Flyt.Env) (fid : NodeId) (ops : List ConnOp) (mfuel k : Nat) (sid : StoreId) (st : RunSt) :
    GoIR.flowExecIR (k + 40) Flyt.Expected.IR.Flow_Exec env fid none ops mfuel sid st = some ([], st, .err (.fw .noStart)) := by
  gosimp [flowExecIR, callFunc, Flow_Exec_body, Flow_Exec_recv, Flow_Exec_params, expr_sel, expr_not, flowWorld_assert, flowWorld_field, ctxH, storeH, storeIdOf, fwTagOf, flowOutcomeOf]

/-- the model's `flowLoop` never returns `.both` (it is `Proper` whenever it is not `.fuel`) -/
theorem flowLoop_never_both (env : Flyt.Env) (ops : List ConnOp) (mfuel : Nat) (s : NodeId) (sid : StoreId) (st : RunSt)
    (a : Action) (e : ErrRoot) : (flowLoop env mfuel (buildTable ops) s sid st).2.2 ≠ .both a e := by
  intro h
  rcases hfl : flowLoop env mfuel (buildTable ops) s sid st with ⟨evs, st', out⟩
  rw [hfl] at h
  simp only at h
  subst h
  have hp := Flyt.Proofs.big_proper (Flyt.Proofs.big_of_flowLoop hfl (by simp))
  simp [Flyt.Proofs.Outcome.Proper] at hp

/-- `Flow.Exec` refines `flowLoop`, at every interpreter fuel `≥ mfuel + 40` -/
theorem FlowExec_refines_flowLoop_ge (env : Flyt.Env) (fid s : NodeId) (ops : List ConnOp) (mfuel : Nat) (sid : StoreId)
    (st : RunSt) (fuel : Nat) (hfuel : mfuel + 40 ≤ fuel)
    (hne : (flowLoop env mfuel (buildTable ops) s sid st).2.2 ≠ .fuel) :
    GoIR.flowExecIR fuel Flyt.Expected.IR.Flow_Exec env fid (some s) ops mfuel sid st
      = some (flowLoop env mfuel (buildTable ops) s sid st) := by
  obtain ⟨k, rfl⟩ : ∃ k, fuel = k + mfuel + 40 := ⟨fuel - (mfuel + 40), by omega⟩
  exact FlowExec_refines_flowLoop_core env fid s ops mfuel k sid st hne (flowLoop_never_both env ops mfuel s sid st)

theorem FlowExec_refines_flowLoop (env : Flyt.Env) (fid s : NodeId) (ops : List ConnOp) (mfuel : Nat) (sid : StoreId) (st : RunSt)
    (hne : (flowLoop env mfuel (buildTable ops) s sid st).2.2 ≠ .fuel) :
    GoIR.flowExecIR (mfuel + 40) Flyt.Expected.IR.Flow_Exec env fid (some s) ops mfuel sid st
      = some (flowLoop env mfuel (buildTable ops) s sid st) :=
  FlowExec_refines_flowLoop_ge env fid s ops mfuel sid st (mfuel + 40) (Nat.le_refl _) hne

/-- a flow without a start node: "flow: exec failed: no start node configured", for every fuel `≥ 40` -/
theorem FlowExec_no_start_ge (env : Flyt.Env) (fid : NodeId) (ops : List ConnOp) (mfuel : Nat) (sid : StoreId) (st : RunSt)
    (fuel : Nat) (hfuel : 40 ≤ fuel) :
    GoIR.flowExecIR fuel Flyt.Expected.IR.Flow_Exec env fid none ops mfuel sid st = some ([], st, .err (.fw .noStart)) := by
  obtain ⟨k, rfl⟩ : ∃ k, fuel = k + 40 := ⟨fuel - 40, by omega⟩
  exact FlowExec_no_start_core env fid ops mfuel k sid st

theorem FlowExec_no_start (env : Flyt.Env) (fid : NodeId) (ops : List ConnOp) (mfuel : Nat) (sid : StoreId) (st : RunSt) :
    GoIR.flowExecIR 40 Flyt.Expected.IR.Flow_Exec env fid none ops mfuel sid st = some ([], st, .err (.fw .noStart)) :=
  FlowExec_no_start_ge env fid ops mfuel sid st 40 (Nat.le_refl _)

end Flyt.Refine

