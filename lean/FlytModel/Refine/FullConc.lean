import FlytModel.GoIR.FullConcWorld
import FlytModel.Refine.BatchStack
import FlytModel.Refine.FullStack
/-!
# `runBatch` with BOTH executors as interpreted source, and the orchestration over it

`Refine/BatchStack.lean` interprets the sequential executor below `runBatch` (`runBatch_over_interpreted_sequential`); for
`cfg.conc > 0` the call `runBatchConcurrent(…)` keeps `batchWorld`'s modelled meaning there (`GoIR/Worlds.lean`, clause
`"runBatchConcurrent"`):

    itemsSerialPool kind n v { cfg with stop := eh == "stop", conc := c.toNat } scr items 0 false w.ctx

on the items read from the caller's window, slots written into the caller's `results` window, events appended, context replaced,
no return values: the SERIAL schedule of the pool (every submitted task runs to completion at submit time), starting with
`shouldStop = false`. `BatchStack.runBatchConcurrent_serial_over_interpreted_items` identifies the interpreted concurrent executor
with that same function, so in `stackBatchWorld2` (`GoIR/FullConcWorld.lean`) the interpreted call agrees with the modelled one at
the call site (`SB2_pool_eq_W_pool`); the callee runs on the caller's heap, world state and arguments, as the sequential one does.

`runBatch_over_interpreted_executors`: `runBatch` in `stackBatchWorld2` is the model's `runBatch`, for all configurations.
`fullRun2_eq_runNode`: the orchestration of `Refine/FullStack.lean` over that interpretation of `runBatch`.
-/

namespace Flyt.Refine.FullConc
open Flyt Flyt.GoIR Flyt.Refine Flyt.Refine.BatchStack
set_option linter.unusedSimpArgs false

theorem stackConc_call (fi : Nat) (kind : CtxKind) (n : NodeId) (v : Nat) (cfg : BatchCfg) (scr : BatchScript)
    (idxOf : Result → Nat) (hfi : itemFuel cfg ≤ fi) (items : List Result) (evs : List Ev) (ctx : Ctx)
    (hidx : ∀ i (h : i < items.length), idxOf items[i] = i) (fc : Nat) (hfc : items.length + 37 ≤ fc) :
    callFunc (stackConcSerialWorld fi Flyt.Expected.IR.runExecWithRetries kind n v cfg scr idxOf) fc
        Flyt.Expected.IR.runBatchConcurrent
        [ctxH, .node n, .slice 0 0 items.length, .slice 1 0 items.length, .int cfg.conc, .str (ehOf cfg)]
        [items, List.replicate items.length ⟨Val.nil, none⟩] ⟨evs, ctx⟩
      = some ([], [items, (itemsSerialPool kind n v cfg scr items 0 false ctx).2.2],
          ⟨evs ++ (itemsSerialPool kind n v cfg scr items 0 false ctx).1,
           (itemsSerialPool kind n v cfg scr items 0 false ctx).2.1⟩) :=
  conc_call kind n v cfg scr (stackConc_serial fi kind n v cfg scr idxOf) items
    (stackConc_calls fi kind n v cfg scr idxOf hfi items hidx) evs ctx fc hfc

section
variable (fs fc fi : Nat) (kind : CtxKind) (n : NodeId) (v : Nat) (sid : StoreId) (cfg : BatchCfg) (scr : BatchScript)
  (idxOf : Result → Nat)

local notation "W" => batchWorld kind n v cfg scr
local notation "SBW" =>
  stackBatchWorld2 fs fc fi Flyt.Expected.IR.runBatchSequential Flyt.Expected.IR.runBatchConcurrent
    Flyt.Expected.IR.runExecWithRetries kind n v cfg scr idxOf

/-! every entry of the composed world except the two executor calls IS `batchWorld`'s -/
theorem SB2_mcall : (SBW).mcall = (W).mcall := rfl
theorem SB2_assert : (SBW).assert = (W).assert := rfl
theorem SB2_global : (SBW).global = (W).global := rfl
theorem SB2_toSlice (a : GV) (h : Heap) (w : SeqW) : (SBW).call "ToSlice" [a] h w = (W).call "ToSlice" [a] h w := rfl

theorem SB2_agrees : Batch.Agrees kind n v cfg scr SBW := ⟨rfl, rfl, rfl, fun _ _ _ => rfl⟩

theorem SB2_pool (hfi : itemFuel cfg ≤ fi) (items : List Result) (hfc : items.length + 37 ≤ fc)
    (hidx : ∀ i (h : i < items.length), idxOf items[i] = i) :
    Batch.Calls n SBW "runBatchConcurrent" [.int cfg.conc, .str (ehOf cfg)] items
      (itemsSerialPool kind n v cfg scr items 0 false) := by
  intro w
  have h := stackConc_call fi kind n v cfg scr idxOf hfi items w.evs w.ctx hidx fc hfc
  simpa [stackBatchWorld2, ctxH] using h

/-- at the site where `runBatch` makes it, the interpreted `runBatchConcurrent` call and `batchWorld`'s modelled one agree -/
theorem SB2_pool_eq_W_pool (hfi : itemFuel cfg ≤ fi) (items : List Result) (hfc : items.length + 37 ≤ fc)
    (hidx : ∀ i (h : i < items.length), idxOf items[i] = i) (w : SeqW) :
    (SBW).call "runBatchConcurrent"
        [.ref "ctx" 0, .node n, .slice 0 0 items.length, .slice 1 0 items.length, .int cfg.conc, .str (ehOf cfg)]
        [items, List.replicate items.length ⟨Val.nil, none⟩] w
      = (W).call "runBatchConcurrent"
        [.ref "ctx" 0, .node n, .slice 0 0 items.length, .slice 1 0 items.length, .int cfg.conc, .str (ehOf cfg)]
        [items, List.replicate items.length ⟨Val.nil, none⟩] w :=
  (SB2_pool fs fc fi kind n v cfg scr idxOf hfi items hfc hidx w).trans (Batch.W_pool kind n v cfg scr items w).symm

theorem SB2_seq (hfi : itemFuel cfg ≤ fi) (items : List Result) (hfs : items.length + 23 ≤ fs)
    (hidx : ∀ i (h : i < items.length), idxOf items[i] = i) :
    Batch.Calls n SBW "runBatchSequential" [.str (ehOf cfg)] items (itemsSeq kind n v cfg scr items 0) := by
  intro w
  have h := stackSeq_call fi kind n v cfg scr idxOf hfi items w.evs w.ctx hidx fs hfs
  simpa [stackBatchWorld2, ctxH] using h

end

/-- fuel for the interpreted concurrent executor inside `runBatch`: one level per item plus a constant -/
def stackConcFuel (scr : BatchScript) : Nat := Batch.prepLen scr + 37

/-- `runBatch_over_interpreted_executors` with fuel hypotheses only for the executor the configuration selects -/
theorem runBatch_over_interpreted_executors' (kind : CtxKind) (n : NodeId) (v : Nat) (sid : StoreId) (cfg : BatchCfg)
    (scr : BatchScript) (idxOf : Result → Nat) (ctx : Ctx)
    (hidx : ∀ l, scr.prep.res = .ok l →
      ∀ i (h : i < (normItems cfg.shape l).length), idxOf (normItems cfg.shape l)[i] = i)
    (fi : Nat) (hfi : itemFuel cfg ≤ fi) (fs : Nat) (hfs : ¬ cfg.conc > 0 → stackSeqFuel scr ≤ fs)
    (fc : Nat) (hfc : cfg.conc > 0 → stackConcFuel scr ≤ fc) (fuel : Nat) (hf : batchFuel scr ≤ fuel) :
    GoIR.stackBatchIR2 fuel fs fc fi Flyt.Expected.IR.runBatch Flyt.Expected.IR.runBatchSequential
        Flyt.Expected.IR.runBatchConcurrent Flyt.Expected.IR.runExecWithRetries kind n v sid cfg scr idxOf ctx
      = some (Flyt.runBatch kind n v sid cfg scr ctx) := by
  obtain ⟨c, rfl⟩ := Nat.exists_eq_add_of_le hf
  rw [show batchFuel scr + c = Batch.prepLen scr + c + 21 from by unfold batchFuel; omega]
  refine (Batch.obs_callFunc _ _ n sid ctx).trans
    (Batch.refines_in sid (SB2_agrees fs fc fi kind n v cfg scr idxOf) ?_ ?_ ctx c)
  all_goals
    intro hc l hp
    have hle := normItems_length_le cfg.shape l
    have hL : Batch.prepLen scr = l.length := by simp [Batch.prepLen, hp]
  · have := hfs hc
    exact SB2_seq fs fc fi kind n v cfg scr idxOf hfi _ (by unfold stackSeqFuel at this; omega) (hidx l hp)
  · have := hfc hc
    exact SB2_pool fs fc fi kind n v cfg scr idxOf hfi _ (by unfold stackConcFuel at this; omega) (hidx l hp)

/-- The translated `runBatch` in `stackBatchWorld2` — `batchWorld` except that BOTH executor calls are interpreted source
    (`runBatchSequential` in `stackSeqWorld`, `runBatchConcurrent` in `stackConcSerialWorld`: the serial schedule of the worker
    pool), each on the caller's heap, world state and argument values, with the per-item call `runExecWithRetries(…)` the
    translated source in the item's own world — returns exactly the model's `runBatch`, for ALL configurations. What the worlds
    still give: the user's batch prep / post scripts, the node's settings, `ToSlice`, the pool's serial `Submit` / `Wait` /
    `Close` / mutex, the scripted `Exec` / `ExecFallback` / timers of the item world. `idxOf` (the item world's way to tell
    which item it is handed) must recover the position of every prepared item, on both paths. -/
theorem runBatch_over_interpreted_executors (kind : CtxKind) (n : NodeId) (v : Nat) (sid : StoreId) (cfg : BatchCfg)
    (scr : BatchScript) (idxOf : Result → Nat) (ctx : Ctx)
    (hidx : ∀ l, scr.prep.res = .ok l →
      ∀ i (h : i < (normItems cfg.shape l).length), idxOf (normItems cfg.shape l)[i] = i)
    (fi : Nat) (hfi : itemFuel cfg ≤ fi) (fs : Nat) (hfs : stackSeqFuel scr ≤ fs)
    (fc : Nat) (hfc : stackConcFuel scr ≤ fc) (fuel : Nat) (hf : batchFuel scr ≤ fuel) :
    GoIR.stackBatchIR2 fuel fs fc fi Flyt.Expected.IR.runBatch Flyt.Expected.IR.runBatchSequential
        Flyt.Expected.IR.runBatchConcurrent Flyt.Expected.IR.runExecWithRetries kind n v sid cfg scr idxOf ctx
      = some (Flyt.runBatch kind n v sid cfg scr ctx) :=
  runBatch_over_interpreted_executors' kind n v sid cfg scr idxOf ctx hidx fi hfi fs (fun _ => hfs) fc (fun _ => hfc) fuel hf

/-- the fully composed interpretation and the half-composed one of `BatchStack` (concurrent executor modelled) are the same
    function of the inputs -/
theorem stackBatchIR2_eq_stackBatchIR (kind : CtxKind) (n : NodeId) (v : Nat) (sid : StoreId) (cfg : BatchCfg)
    (scr : BatchScript) (idxOf : Result → Nat) (ctx : Ctx)
    (hidx : ∀ l, scr.prep.res = .ok l →
      ∀ i (h : i < (normItems cfg.shape l).length), idxOf (normItems cfg.shape l)[i] = i)
    (fi : Nat) (hfi : itemFuel cfg ≤ fi) (fs : Nat) (hfs : stackSeqFuel scr ≤ fs)
    (fc : Nat) (hfc : stackConcFuel scr ≤ fc) (fuel : Nat) (hf : batchFuel scr ≤ fuel) :
    GoIR.stackBatchIR2 fuel fs fc fi Flyt.Expected.IR.runBatch Flyt.Expected.IR.runBatchSequential
        Flyt.Expected.IR.runBatchConcurrent Flyt.Expected.IR.runExecWithRetries kind n v sid cfg scr idxOf ctx
      = GoIR.stackBatchIR fuel fs fi Flyt.Expected.IR.runBatch Flyt.Expected.IR.runBatchSequential
        Flyt.Expected.IR.runExecWithRetries kind n v sid cfg scr idxOf ctx := by
  rw [runBatch_over_interpreted_executors kind n v sid cfg scr idxOf ctx hidx fi hfi fs hfs fc hfc fuel hf,
    runBatch_over_interpreted_sequential kind n v sid cfg scr idxOf ctx (fun _ => hidx) fi hfi fs hfs fuel hf]

/-- `BatchStack.exCfg` on the CONCURRENT path: pool of 2, `stop` mode, 2 attempts, 5 ms wait, custom fallback, `[]any` items, a post -/
def exCfg2 : BatchCfg := { exCfg with conc := 2, shape := .anys }
/-- three items (tokens 100, 101, 102); item 0: first attempt fails, the retry (after a wait) succeeds; item 1: both attempts fail,
    the fallback fails too and cancels the context; item 2 is then not run (`shouldStop`) -/
def exScr2 : BatchScript := { exScr with prep := { res := .ok [.tok 100, .tok 101, .tok 102] } }

theorem exIdx2_ok : ∀ l, exScr2.prep.res = .ok l →
    ∀ i (h : i < (normItems exCfg2.shape l).length), exIdx (normItems exCfg2.shape l)[i] = i := by
  intro l hl i h
  have hl' : [Val.tok 100, .tok 101, .tok 102] = l := by simpa [exScr2] using hl
  subst hl'
  rcases i with _ | _ | _ | i
  · rfl
  · rfl
  · rfl
  · exact absurd h (by simp [normItems, exCfg2])

/-- fuels `batchFuel = 3 + 21`, `stackSeqFuel = 3 + 23`, `stackConcFuel = 3 + 37`, `itemFuel = 2 + 30`
    (`GoIR/FullConcTest.lean` evaluates both sides on generated batches) -/
example :
    GoIR.stackBatchIR2 24 26 40 32 Flyt.Expected.IR.runBatch Flyt.Expected.IR.runBatchSequential
        Flyt.Expected.IR.runBatchConcurrent Flyt.Expected.IR.runExecWithRetries .canceled 3 1 8 exCfg2 exScr2 exIdx .live
      = some (Flyt.runBatch .canceled 3 1 8 exCfg2 exScr2 .live) :=
  runBatch_over_interpreted_executors .canceled 3 1 8 exCfg2 exScr2 exIdx .live exIdx2_ok
    32 (by decide) 26 (by decide) 40 (by decide) 24 (by decide)

/-- the common value: prep, item 0 retried after a wait, item 1 failing through its fallback (which cancels), item 2
    marked "batch stopped" without being run, post handed the three slots -/
example :
    Flyt.runBatch .canceled 3 1 8 exCfg2 exScr2 .live =
      ([.bprep 3 1 8,
        .bexec 3 1 0 0 (.res (.tok 100) none), .bwait 3 1 0 1 5 true, .bexec 3 1 0 1 (.res (.tok 100) none),
        .bexec 3 1 1 0 (.res (.tok 101) none), .bwait 3 1 1 1 5 true, .bexec 3 1 1 1 (.res (.tok 101) none),
        .bfb 3 1 1 (.res (.tok 101) none) (.user 11),
        .bpost 3 1 8 [.res (.tok 100) none, .res (.tok 101) none, .res (.tok 102) none]
          [.res (.tok 7) none, .res (.tok 0) (some (.user 99)), .res (.tok 0) (some (.fw .batchStopped))]],
       .done .canceled, .ok "a") := by
  decide

end Flyt.Refine.FullConc

namespace Flyt.Refine.FullConc
open Flyt Flyt.GoIR Flyt.Refine Flyt.Refine.FullStack

theorem fullConcFuel_eq (scr : BatchScript) : fullConcFuel scr = stackConcFuel scr := rfl

/-- the `hidx` of `runBatch_over_interpreted_executors` for one node, visit: the prepared items are told apart by `idxOf`, on
    BOTH paths (`IdxOKAt` without the guard `¬ cfg.conc > 0`) -/
def IdxOKAt2 (cfg : BatchCfg) (scr : BatchScript) (idxOf : Result → Nat) : Prop :=
  ∀ l, scr.prep.res = .ok l → ∀ i (h : i < (normItems cfg.shape l).length), idxOf (normItems cfg.shape l)[i] = i

theorem IdxOKAt2.toIdxOKAt {cfg : BatchCfg} {scr : BatchScript} {idxOf : Result → Nat} (h : IdxOKAt2 cfg scr idxOf) :
    IdxOKAt cfg scr idxOf := fun _ => h

theorem fullBatch2_ok (kind : CtxKind) (n : NodeId) (v : Nat) (cfg : BatchCfg) (scr : BatchScript) (idxOf : Result → Nat)
    (hidx : IdxOKAt2 cfg scr idxOf) : BatchOK kind n v cfg scr (fullBatch2 kind n v cfg scr idxOf) := by
  intro sid ctx
  exact runBatch_over_interpreted_executors kind n v sid cfg scr idxOf ctx hidx
    (fullItemFuel cfg) (Nat.le_refl _) (fullSeqFuel scr) (Nat.le_refl _) (fullConcFuel scr) (Nat.le_refl _)
    (fullBatchFuel scr) (Nat.le_refl _)

/-- `Run` on a batch node, interpreted down to the item callbacks, whatever its concurrency: `Run`'s dispatch → `runBatch` →
    `runBatchSequential` or `runBatchConcurrent` (serial schedule) → `runExecWithRetries`, every one the interpretation of its
    translated source, is the model's `runBatch`. -/
theorem fullBatchNode2_eq (kind : CtxKind) (n : NodeId) (v : Nat) (sid : StoreId) (cfg : BatchCfg) (scr : BatchScript)
    (idxOf : Result → Nat) (vb : Bool) (ctx : Ctx) (hidx : IdxOKAt2 cfg scr idxOf) :
    fullBatchNode2 kind n v sid cfg scr idxOf vb ctx = some (Flyt.runBatch kind n v sid cfg scr ctx) :=
  Run_over_runBatch kind n v sid cfg scr vb ctx _ (fullBatch2_ok kind n v cfg scr idxOf hidx) batchIRFuel (Nat.le_refl _)

/-- the hypothesis on the arena: EVERY batch node (sequential or concurrent) has, on every visit, prepared items that
    `idxOf id v` tells apart (`idxOf id v items[i] = i`) -/
def IdxOK2 (env : Flyt.Env) (idxOf : NodeId → Nat → Result → Nat) : Prop :=
  ∀ id cfg, env.arena id = .batch cfg → ∀ v, IdxOKAt2 cfg (env.batchBeh id v) (idxOf id v)

theorem IdxOK2.toIdxOK {env : Flyt.Env} {idxOf : NodeId → Nat → Result → Nat} (h : IdxOK2 env idxOf) : IdxOK env idxOf :=
  fun id cfg ha v => (h id cfg ha v).toIdxOKAt

theorem fullLevel2_eq (env : Flyt.Env) (idxOf : NodeId → Nat → Result → Nat) (hidx : IdxOK2 env idxOf) (k : Nat) (R : Nat → RunFn)
    (hR : Stack.RunOK env k R) (id : NodeId) (sid : StoreId) (st : RunSt)
    (hne : (runNode env (k + 1) id sid st).2.2 ≠ .fuel) :
    fullLevel2 env idxOf k R id sid st = some (runNode env (k + 1) id sid st) := by
  unfold fullLevel2
  cases harena : env.arena id with
  | leaf cfg => exact Stack.leafLevel_eq env k id sid st cfg harena
  | batch cfg =>
    simp only
    rw [fullBatchNode2_eq env.kind id (st.visits id) sid cfg (env.batchBeh id (st.visits id)) (idxOf id (st.visits id)) false st.ctx
      (hidx id cfg harena (st.visits id))]
    exact Stack.batchLevel_eq env k id sid st cfg harena
  | flow start ops =>
    exact Stack.Run_over_interpreted_FlowExec env id start ops k sid st _ (Stack.deepExec_ok env id start ops k R hR) harena hne

/-- **The full stack, both batch executors included.** `fullRun_eq_runNode` for `fullRun2`: on a batch node `Run`'s
    dispatch, `runBatch`, the executor the node's concurrency selects — `runBatchSequential`, or `runBatchConcurrent` on the serial
    schedule of the pool — and every item's `runExecWithRetries` are interpreted source, down to the scripted user callbacks.
    Hypothesis `IdxOK2`: `IdxOK` for ALL batch nodes, not only the sequential ones. -/
theorem fullRun2_eq_runNode (env : Flyt.Env) (idxOf : NodeId → Nat → Result → Nat) (hidx : IdxOK2 env idxOf) :
    ∀ (k : Nat) (id : NodeId) (sid : StoreId) (st : RunSt),
      (runNode env k id sid st).2.2 ≠ .fuel → fullRun2 env idxOf k id sid st = some (runNode env k id sid st) :=
  Stack.run_of_level env (fullLevel2 env idxOf) (fullRun2 env idxOf) (fun k => by rw [fullRun2]) (fullLevel2_eq env idxOf hidx)

/-- `fullRun2` is the same function as `fullRun` (concurrent executor modelled) wherever the model does not run out of fuel -/
theorem fullRun2_eq_fullRun (env : Flyt.Env) (idxOf : NodeId → Nat → Result → Nat) (hidx : IdxOK2 env idxOf)
    (k : Nat) (id : NodeId) (sid : StoreId) (st : RunSt) (hne : (runNode env k id sid st).2.2 ≠ .fuel) :
    fullRun2 env idxOf k id sid st = fullRun env idxOf k id sid st := by
  rw [fullRun2_eq_runNode env idxOf hidx k id sid st hne, fullRun_eq_runNode env idxOf hidx.toIdxOK k id sid st hne]

theorem fullLevel2'_eq_fullLevel2 (env : Flyt.Env) (idxOf : NodeId → Nat → Result → Nat) (k : Nat) (R : Nat → RunFn) :
    fullLevel2' env idxOf k R = fullLevel2 env idxOf k R := by
  funext id sid st
  unfold fullLevel2' fullLevel2
  cases env.arena id with
  | leaf cfg => rfl
  | batch cfg => rfl
  | flow start ops => simp only [flowNodeWorldFull_eq]

/-- `fullRun2_eq_runNode` for `fullRun2'` (additionally the flow node's `Prep` / `Post` and the embedded `BaseNode`'s getters / fallback interpreted,
    as in `fullRun'_eq_runNode`) -/
theorem fullRun2'_eq_runNode (env : Flyt.Env) (idxOf : NodeId → Nat → Result → Nat) (hidx : IdxOK2 env idxOf) :
    ∀ (k : Nat) (id : NodeId) (sid : StoreId) (st : RunSt),
      (runNode env k id sid st).2.2 ≠ .fuel → fullRun2' env idxOf k id sid st = some (runNode env k id sid st) :=
  Stack.run_of_level env (fullLevel2 env idxOf) (fullRun2' env idxOf) (fun k => by rw [fullRun2', fullLevel2'_eq_fullLevel2])
    (fullLevel2_eq env idxOf hidx)

/-- `NodupOK` without the restriction to sequential nodes -/
def NodupOK2 (env : Flyt.Env) : Prop :=
  ∀ id cfg, env.arena id = .batch cfg → ∀ v l, (env.batchBeh id v).prep.res = .ok l → (normItems cfg.shape l).Nodup

theorem canonIdx_ok2 (env : Flyt.Env) (h : NodupOK2 env) : IdxOK2 env (canonIdx env) := by
  intro id cfg harena v l hl i hi
  simp only [canonIdx, harena, hl]
  exact idxOf_getElem_of_nodup _ (h id cfg harena v l hl) i hi

/-- conversely `IdxOK2` for ANY `idxOf` forces distinct items: `NodupOK2` is the weakest form of the hypothesis -/
theorem nodup_of_idxOK2 (env : Flyt.Env) (idxOf : NodeId → Nat → Result → Nat) (h : IdxOK2 env idxOf) : NodupOK2 env := by
  intro id cfg harena v l hl
  have hi := h id cfg harena v l hl
  exact nodup_of_index _ (idxOf id v) 0 (by simpa using hi)

theorem fullRunCanon2_eq_runNode (env : Flyt.Env) (hnd : NodupOK2 env) (k : Nat) (id : NodeId) (sid : StoreId) (st : RunSt)
    (hne : (runNode env k id sid st).2.2 ≠ .fuel) : fullRunCanon2 env k id sid st = some (runNode env k id sid st) :=
  fullRun2_eq_runNode env (canonIdx env) (canonIdx_ok2 env hnd) k id sid st hne

def nodupAt2 (env : Flyt.Env) (id : NodeId) (v : Nat) : Bool :=
  match env.arena id with
  | .batch cfg =>
    (match (env.batchBeh id v).prep.res with
     | .ok l => decide (normItems cfg.shape l).Nodup
     | .error _ => true)
  | _ => true

/-- Boolean check of `NodupOK2` for an arena whose batch nodes are among `ids` and whose scripts do not change after visit `V` -/
def nodupCheck2 (env : Flyt.Env) (ids : List NodeId) (V : Nat) : Bool :=
  ids.all fun id => (List.range (V + 1)).all fun v => nodupAt2 env id v

theorem nodupOK2_of_check (env : Flyt.Env) (ids : List NodeId) (V : Nat)
    (hids : ∀ id cfg, env.arena id = .batch cfg → id ∈ ids)
    (hV : ∀ id v, id ∈ ids → env.batchBeh id v = env.batchBeh id (min v V))
    (hchk : nodupCheck2 env ids V = true) : NodupOK2 env := by
  intro id cfg harena v l hl
  have hmem := hids id cfg harena
  have h1 := (List.all_eq_true.mp hchk) id hmem
  have h2 := (List.all_eq_true.mp h1) (min v V) (by simp [List.mem_range]; omega)
  rw [hV id v hmem] at hl
  simp only [nodupAt2, harena, hl] at h2
  simpa using h2

/-! `FullEx.envB`: the root flow passes through the CONCURRENT batch node 11 (`cfgConc`, pool of 2) -/
open FullEx in
theorem envB_nodup2 : NodupOK2 envB := by
  apply nodupOK2_of_check envB [8, 9, 10, 11] 1
  · intro id cfg h
    simp only [envB] at h
    unfold arenaB at h
    split at h <;> cases h <;> simp
  · intro id v _
    cases v with
    | zero => rfl
    | succ v =>
      have : min (v + 1) 1 = 1 := by omega
      rw [this]
      simp only [envB]
      unfold behB
      split <;> first | rfl | simp_all
  · decide

/-- the root flow (sequential nodes 8, 9 twice, the nested flow with 10, the concurrent node 11), depth 12 -/
theorem envB_root2 :
    fullRunCanon2 FullEx.envB 12 0 7 Proofs.Ex.st0 = some (runNode FullEx.envB 12 0 7 Proofs.Ex.st0) :=
  fullRunCanon2_eq_runNode FullEx.envB envB_nodup2 12 0 7 Proofs.Ex.st0 (by decide +kernel)

example : fullRunCanon2 FullEx.envB 1 11 7 Proofs.Ex.st0 = some (runNode FullEx.envB 1 11 7 Proofs.Ex.st0) :=
  fullRunCanon2_eq_runNode FullEx.envB envB_nodup2 1 11 7 Proofs.Ex.st0 (by decide)

end Flyt.Refine.FullConc

#print axioms Flyt.Refine.FullConc.stackConc_call
#print axioms Flyt.Refine.FullConc.runBatch_over_interpreted_executors'
#print axioms Flyt.Refine.FullConc.runBatch_over_interpreted_executors
#print axioms Flyt.Refine.FullConc.stackBatchIR2_eq_stackBatchIR
#print axioms Flyt.Refine.FullConc.fullBatchNode2_eq
#print axioms Flyt.Refine.FullConc.fullRun2_eq_runNode
#print axioms Flyt.Refine.FullConc.fullRun2'_eq_runNode
#print axioms Flyt.Refine.FullConc.fullRunCanon2_eq_runNode
#print axioms Flyt.Refine.FullConc.nodupOK2_of_check
#print axioms Flyt.Refine.FullConc.envB_root2
