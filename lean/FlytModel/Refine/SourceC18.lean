import FlytModel.Refine.SourceBase
import FlytModel.Props.C18
/-!
# C18 (a successful run never yields the empty action, for any node kind) about the interpreted source

One corollary per kind of node, each about its own layer: `Run` on a plain / function-style node (`runLeafIR`), `runBatch` and `Run`
on a batch node (`runBatchIR`, `runBatchNodeIR`), `Run` on a flow (`runFlowNodeIR`; in its world `Flow.Exec` is the model's
`flowLoop`), `Flow.Exec` (`flowExecIR`; in its world a nested `Run` is the model's `runNode`). What is derived from the source is the
layer's own normalisation (`Run`: `if action == "" { action = DefaultAction }`). The runs composed over all layers are
`Stack.deepRun_eq_runNode`, `FullStack.fullRun_eq_runNode`, `FullConc.fullRun2_eq_runNode`.
"Succeeds" = `Run` returns `(a, nil)`, which `outcomeOf` reads as `.ok a`. `hne` (flow rows): the model's own fuel does not run out;
the refinement theorem needs it, the model theorems do not (`.fuel` is not `.ok`).
Not carried over: `successor_followed`, `default_connection_followed` (the routing of the interpreted `Flow.Exec` is
`FlowExec_refines_flowLoop`; as a property, `C03_for_interpreted_source` of `Refine/BridgeFlow.lean`), and the theorems of
`Props/C18.lean` about the driver's predicates.
-/
set_option autoImplicit false
namespace Flyt.Refine.Source
open Flyt Flyt.GoIR Flyt.Refine

/-- the arena in which every node is the leaf `cfg` with script `scr`: `runLeaf` read as `runNode`, the subject of `Props/C18.lean` -/
def oneLeafEnv (kind : CtxKind) (cfg : LeafCfg) (scr : LeafScript) : Env :=
  { kind := kind, arena := fun _ => .leaf cfg, leafBeh := fun _ _ => scr,
    batchBeh := fun _ _ => { prep := { res := .error 0 }, post := { res := .error 0 },
                             item := fun _ => { exec := fun _ => { res := .error 0 }, waitCancel := fun _ => false, fb := { res := .error 0 } } } }

def oneBatchEnv (kind : CtxKind) (cfg : BatchCfg) (scr : BatchScript) : Env :=
  { kind := kind, arena := fun _ => .batch cfg, batchBeh := fun _ _ => scr,
    leafBeh := fun _ _ => { prep := { res := .error 0 }, exec := fun _ => { res := .error 0 }, waitCancel := fun _ => false,
                            fb := { res := .error 0 }, post := { res := .error 0 } } }

/-- **C18: whenever the interpreted `Run` on a plain / function-style node succeeds, the action it reports is non-empty, and it is
    `norm` of what post returned** (the default action for a node without post). Every context.
    Mirrors `Props.C18.success_action_nonempty` (leaf root), `never_action_and_error`, `leaf_reports_normalised`. -/
theorem C18_leaf_for_interpreted_source (kind : CtxKind) (n v sid : Nat) (cfg : LeafCfg) (scr : LeafScript) (ctx : Ctx)
    (fuel : Nat) (hf : runFuel cfg ≤ fuel) :
    ∃ evs ctx' out, runLeafIR fuel Flyt.Expected.IR.Run kind n v sid cfg scr ctx = some (evs, ctx', out) ∧
      (∀ a, out = .ok a → a ≠ "") ∧ (∀ a e, out ≠ .both a e) ∧
      (∀ a, out = .ok a → (cfg.postS = .absent ∧ a = defaultAction) ∨ (∃ a', scr.post.res = .ok a' ∧ a = norm a')) := by
  refine transfer (Run_refines_runLeaf_of_le kind n v sid cfg scr ctx fuel hf) ⟨?_, ?_, ?_⟩
  · intro a ha
    let env : Env := oneLeafEnv kind cfg scr
    let st : RunSt := { ctx := ctx, visits := fun _ => v }
    have h := Props.C18.success_action_nonempty env 1 n sid st a
    rw [Flyt.Proofs.Flow.runNode_leaf env 0 n sid st cfg rfl] at h
    exact h ha
  · intro a e
    let env : Env := oneLeafEnv kind cfg scr
    let st : RunSt := { ctx := ctx, visits := fun _ => v }
    have h := Props.C18.never_action_and_error env 1 n sid st a e
    rw [Flyt.Proofs.Flow.runNode_leaf env 0 n sid st cfg rfl] at h
    exact h
  · exact fun a ha => Props.C18.leaf_reports_normalised kind n v sid cfg scr ctx a ha

/-- **C18, … uniformly for batch nodes, including a batch whose prep produced no items**: the interpreted `runBatch` reports a non-empty
    action, `norm` of what batch post returned (the default action without a post function).
    Mirrors `Props.C18.success_action_nonempty` (batch root), `never_action_and_error`, `batch_reports_normalised`. -/
theorem C18_batch_for_interpreted_source (kind : CtxKind) (n v sid : Nat) (cfg : BatchCfg) (scr : BatchScript) (ctx : Ctx)
    (fuel : Nat) (hf : batchFuel scr ≤ fuel) :
    ∃ evs ctx' out, runBatchIR fuel Flyt.Expected.IR.runBatch kind n v sid cfg scr ctx = some (evs, ctx', out) ∧
      (∀ a, out = .ok a → a ≠ "") ∧ (∀ a e, out ≠ .both a e) ∧
      (∀ a, out = .ok a → (cfg.hasPost = false ∧ a = defaultAction) ∨ (∃ a', scr.post.res = .ok a' ∧ a = norm a')) := by
  refine transfer (runBatch_refines_of_le kind n v sid cfg scr ctx fuel hf) ⟨?_, ?_, ?_⟩
  · intro a ha
    let env : Env := oneBatchEnv kind cfg scr
    let st : RunSt := { ctx := ctx, visits := fun _ => v }
    have h := Props.C18.success_action_nonempty env 1 n sid st a
    rw [Flyt.Proofs.Flow.runNode_batch env 0 n sid st cfg rfl] at h
    exact h ha
  · intro a e
    let env : Env := oneBatchEnv kind cfg scr
    let st : RunSt := { ctx := ctx, visits := fun _ => v }
    have h := Props.C18.never_action_and_error env 1 n sid st a e
    rw [Flyt.Proofs.Flow.runNode_batch env 0 n sid st cfg rfl] at h
    exact h
  · exact fun a ha => Props.C18.batch_reports_normalised kind n v sid cfg scr ctx a ha

/-- … the same for the interpreted `Run` on the batch node (bare `*BatchNode` or the builder), which only dispatches to `runBatch` -/
theorem C18_batch_Run_for_interpreted_source (kind : CtxKind) (n v sid : Nat) (cfg : BatchCfg) (scr : BatchScript) (viaBuilder : Bool)
    (ctx : Ctx) (fuel : Nat) (hf : batchNodeFuel ≤ fuel) :
    ∃ evs ctx' out, runBatchNodeIR fuel Flyt.Expected.IR.Run kind n v sid cfg scr viaBuilder ctx = some (evs, ctx', out) ∧
      (∀ a, out = .ok a → a ≠ "") ∧ (∀ a e, out ≠ .both a e) ∧
      (∀ a, out = .ok a → (cfg.hasPost = false ∧ a = defaultAction) ∨ (∃ a', scr.post.res = .ok a' ∧ a = norm a')) := by
  obtain ⟨evs, ctx', out, h, hP⟩ := C18_batch_for_interpreted_source kind n v sid cfg scr ctx (batchFuel scr) (Nat.le_refl _)
  rw [runBatch_refines_of_le kind n v sid cfg scr ctx (batchFuel scr) (Nat.le_refl _)] at h
  refine ⟨evs, ctx', out, ?_, hP⟩
  rw [Run_dispatches_to_runBatch_of_le kind n v sid cfg scr viaBuilder ctx fuel hf, h]

/-- **C18, … and for a flow used as a node**: when the interpreted `Run` on a flow succeeds, the action is non-empty, never paired with an
    error, and it is `norm` of the action the flow's loop ended with.
    Mirrors `Props.C18.success_action_nonempty` (flow root), `never_action_and_error`, `flow_reports_normalised`. -/
theorem C18_flow_node_for_interpreted_source (env : Env) (fid : NodeId) (start : Option NodeId) (ops : List ConnOp) (mfuel : Nat)
    (sid : StoreId) (st : RunSt) (harena : env.arena fid = .flow start ops) (hne : (runNode env (mfuel + 1) fid sid st).2.2 ≠ .fuel)
    (fuel : Nat) (hf : flowNodeFuel ≤ fuel) :
    ∃ evs st' out, runFlowNodeIR fuel Flyt.Expected.IR.Run env fid start ops mfuel sid st = some (evs, st', out) ∧
      (∀ a, out = .ok a → a ≠ "") ∧ (∀ a e, out ≠ .both a e) ∧
      (∀ a, out = .ok a → ∃ s a', start = some s ∧ (flowLoop env mfuel (buildTable ops) s sid st).2.2 = .ok a' ∧ a = norm a') :=
  transfer (Run_refines_runNode_flow_of_le env fid start ops mfuel sid st harena hne fuel hf)
    ⟨fun a ha => Props.C18.success_action_nonempty env (mfuel + 1) fid sid st a ha,
     fun a e => Props.C18.never_action_and_error env (mfuel + 1) fid sid st a e,
     fun a ha => Props.C18.flow_reports_normalised env mfuel fid sid st start ops harena a ha⟩

/-- **C18: the action the interpreted `Flow.Exec` ends with (and hands to `Flow.Post`) is non-empty.**
    Mirrors `Props.C18.flow_exec_action_nonempty` (for the table `buildTable ops` of a flow built by `Connect` calls). -/
theorem C18_flow_exec_action_nonempty_for_interpreted_source (env : Env) (fid s : NodeId) (ops : List ConnOp) (mfuel : Nat)
    (sid : StoreId) (st : RunSt) (hne : (flowLoop env mfuel (buildTable ops) s sid st).2.2 ≠ .fuel) (fuel : Nat) (hf : mfuel + 40 ≤ fuel) :
    ∃ evs st' out, flowExecIR fuel Flyt.Expected.IR.Flow_Exec env fid (some s) ops mfuel sid st = some (evs, st', out) ∧
      ∀ a, out = .ok a → a ≠ "" :=
  transfer (FlowExec_refines_flowLoop_ge env fid s ops mfuel sid st fuel hf hne)
    (fun a ha => Props.C18.flow_exec_action_nonempty env mfuel (buildTable ops) s sid st a ha)

/-! ### non-vacuity: the scenario of `Props/C18.lean` (every post returns the empty action; the batch has no items) -/

example : ∃ evs ctx', runLeafIR 44 Flyt.Expected.IR.Run .canceled 1 0 0 Props.C18.exLeaf Props.C18.exLeafScr .live
    = some (evs, ctx', .ok "default") := by
  refine ⟨(runLeaf .canceled 1 0 0 Props.C18.exLeaf Props.C18.exLeafScr .live).1,
    (runLeaf .canceled 1 0 0 Props.C18.exLeaf Props.C18.exLeafScr .live).2.1, ?_⟩
  rw [Run_refines_runLeaf_of_le _ _ _ _ _ _ _ 44 (by decide)]
  exact congrArg some (Prod.ext rfl (Prod.ext rfl (by decide)))

example : runBatchIR 21 Flyt.Expected.IR.runBatch .canceled 2 0 0 Props.C18.exBatch Props.C18.exBatchScr .live =
    some ([.bprep 2 0 0, .bpost 2 0 0 [] []], .live, .ok "default") := by
  rw [runBatch_refines_of_le _ _ _ _ _ _ _ 21 (by decide)]; decide

end Flyt.Refine.Source
