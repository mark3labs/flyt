import FlytModel.Refine.Run
import FlytModel.Refine.Item
import FlytModel.Refine.Seq
import FlytModel.Refine.Batch
import FlytModel.Refine.FlowExec
import FlytModel.Refine.RunNode
import FlytModel.Refine.ConcSerial
import FlytModel.Proofs.L.Flow
/-!
# Property theorems about the interpreted source: the common transfer step

Every `Refine/SourceCnn.lean` restates headline theorems of `Props/Cnn.lean` with the model function replaced by what the interpreter
(`GoIR/Interp.lean`) makes of the translated Go source (`Expected/IR.lean`) in the matching world (`GoIR/Worlds.lean`). The refinement
theorem says the interpretation equals `some (model …)` at every sufficient depth, so a fact `P` about the model's result carries over
(`transfer`) with no further hypothesis. Conclusions read `∃ result, interpretation = some result ∧ P result`: the interpretation
terminates (not stuck, not out of depth) and its result has the property.
-/
set_option autoImplicit false
namespace Flyt.Refine.Source
open Flyt Flyt.GoIR Flyt.Refine

/-- `x` is what the interpreter returns, `hx` the refinement theorem that applies, `m` the model's result -/
theorem transfer {α β γ : Type} {x : Option (α × β × γ)} {m : α × β × γ} (hx : x = some m) {P : α → β → γ → Prop}
    (h : P m.1 m.2.1 m.2.2) : ∃ a b c, x = some (a, b, c) ∧ P a b c :=
  ⟨_, _, _, hx, h⟩

/-- `hidx` is met by `items.idxOf` when no item repeats. With two equal items no `idxOf` satisfies `hidx` and the corollaries about
    `runBatchSequential` / `runBatchConcurrent` say nothing: in the world of `Refine/Seq.lean` the item handed to `runExecWithRetries` is
    all that tells the world which item script to follow. -/
theorem hidx_of_nodup (items : List Result) (hnd : items.Nodup) :
    ∀ i (h : i < items.length), (fun r => items.idxOf r) items[i] = i :=
  fun i h => hnd.idxOf_getElem i h

/-! `Props` theorems about `runNode env fuel root …` are carried over per kind of root. On a leaf / a batch node `runNode` is `runLeaf` /
`runBatch` with the node's id, its visit number, that visit's script and the current context; afterwards the node's visit counter is
bumped iff a callback ran. -/

/-- the model's run state after a visit of node `id` that recorded `evs` and left the context `ctx'` -/
def stateAfter (st : RunSt) (id : NodeId) (evs : List Ev) (ctx' : Ctx) : RunSt :=
  { (st.bumpIf (!evs.isEmpty) id) with ctx := ctx' }

theorem runNode_leaf_ne_fuel (env : Env) (mf : Nat) (id : NodeId) (sid : StoreId) (st : RunSt) (cfg : LeafCfg)
    (harena : env.arena id = .leaf cfg) : (runNode env (mf + 1) id sid st).2.2 ≠ .fuel := by
  rw [Flyt.Proofs.Flow.runNode_leaf env mf id sid st cfg harena]
  have hp := Flyt.Proofs.runLeaf_proper env.kind id (st.visits id) sid cfg (env.leafBeh id (st.visits id)) st.ctx
  intro hc; simp only [] at hc; rw [hc] at hp; exact hp

theorem runNode_batch_ne_fuel (env : Env) (mf : Nat) (id : NodeId) (sid : StoreId) (st : RunSt) (cfg : BatchCfg)
    (harena : env.arena id = .batch cfg) : (runNode env (mf + 1) id sid st).2.2 ≠ .fuel := by
  rw [Flyt.Proofs.Flow.runNode_batch env mf id sid st cfg harena]
  have hp := Flyt.Proofs.runBatch_proper env.kind id (st.visits id) sid cfg (env.batchBeh id (st.visits id)) st.ctx
  intro hc; simp only [] at hc; rw [hc] at hp; exact hp

/-- root = a plain / function-style node: a fact about `runNode env (mf + 1) id …` is a fact about the interpreted `Run` on that node -/
theorem arena_leaf_transfer (env : Env) (mf : Nat) (id : NodeId) (sid : StoreId) (st : RunSt) (cfg : LeafCfg)
    (harena : env.arena id = .leaf cfg) (fuel : Nat) (hf : runFuel cfg ≤ fuel) (P : List Ev → RunSt → Outcome → Prop)
    (h : P (runNode env (mf + 1) id sid st).1 (runNode env (mf + 1) id sid st).2.1 (runNode env (mf + 1) id sid st).2.2) :
    ∃ evs ctx' out,
      runLeafIR fuel Flyt.Expected.IR.Run env.kind id (st.visits id) sid cfg (env.leafBeh id (st.visits id)) st.ctx
        = some (evs, ctx', out) ∧ P evs (stateAfter st id evs ctx') out := by
  rw [Flyt.Proofs.Flow.runNode_leaf env mf id sid st cfg harena] at h
  exact transfer (Run_refines_runLeaf_of_le env.kind id (st.visits id) sid cfg (env.leafBeh id (st.visits id)) st.ctx fuel hf) h

/-- root = a batch node: … about the interpreted `runBatch` -/
theorem arena_batch_transfer (env : Env) (mf : Nat) (id : NodeId) (sid : StoreId) (st : RunSt) (cfg : BatchCfg)
    (harena : env.arena id = .batch cfg) (fuel : Nat) (hf : batchFuel (env.batchBeh id (st.visits id)) ≤ fuel)
    (P : List Ev → RunSt → Outcome → Prop)
    (h : P (runNode env (mf + 1) id sid st).1 (runNode env (mf + 1) id sid st).2.1 (runNode env (mf + 1) id sid st).2.2) :
    ∃ evs ctx' out,
      runBatchIR fuel Flyt.Expected.IR.runBatch env.kind id (st.visits id) sid cfg (env.batchBeh id (st.visits id)) st.ctx
        = some (evs, ctx', out) ∧ P evs (stateAfter st id evs ctx') out := by
  rw [Flyt.Proofs.Flow.runNode_batch env mf id sid st cfg harena] at h
  exact transfer (runBatch_refines_of_le env.kind id (st.visits id) sid cfg (env.batchBeh id (st.visits id)) st.ctx fuel hf) h

/-- root = a batch node: … about the interpreted `Run` on that node (which only dispatches to `runBatch`) -/
theorem arena_batchNode_transfer (env : Env) (mf : Nat) (id : NodeId) (sid : StoreId) (st : RunSt) (cfg : BatchCfg)
    (harena : env.arena id = .batch cfg) (viaBuilder : Bool) (fuel : Nat) (hf : batchNodeFuel ≤ fuel)
    (P : List Ev → RunSt → Outcome → Prop)
    (h : P (runNode env (mf + 1) id sid st).1 (runNode env (mf + 1) id sid st).2.1 (runNode env (mf + 1) id sid st).2.2) :
    ∃ evs ctx' out,
      runBatchNodeIR fuel Flyt.Expected.IR.Run env.kind id (st.visits id) sid cfg (env.batchBeh id (st.visits id)) viaBuilder st.ctx
        = some (evs, ctx', out) ∧ P evs (stateAfter st id evs ctx') out := by
  rw [Flyt.Proofs.Flow.runNode_batch env mf id sid st cfg harena] at h
  exact transfer (Run_dispatches_to_runBatch_of_le env.kind id (st.visits id) sid cfg (env.batchBeh id (st.visits id)) viaBuilder
    st.ctx fuel hf) h

end Flyt.Refine.Source
