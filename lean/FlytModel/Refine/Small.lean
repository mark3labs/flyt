import FlytModel.GoIR.SmallWorld
import FlytModel.Expected.IR
import FlytModel.Refine.RunNode
import FlytModel.Refine.Adapters
/-!
# Refinement of the remaining small functions of the package (`Flyt.Expected.IR`); worlds: `GoIR/SmallWorld.lean`

* `BaseNode.Prep / Exec / Post / ExecFallback` (flyt.go:605-628), in EVERY world: the defaults, nothing called. They are the entries
  of `leafWorld` (`GoIR/Worlds.lean`; read by `w_prep_absent` … `w_fb_pass` in `Refine/Run.lean`) for a phase of `Style.absent` and a fallback of `FbKind.passThrough`.
* `NodeBuilder.Prep / Exec / Post / ExecFallback` (builder.go:18-35), `BatchNodeBuilder.Prep / Exec / Post` (batch.go:86-96), in every
  world in which the builder's embedded-node field reads `cn`: the call IS `W.mcall cn m args`.
* `BatchNode.Prep / Post` (batch.go:35-51), in every world: the user's batch function if the field holding it is set, the embedded
  `CustomNode`'s `Prep` / the `BaseNode` default otherwise; in `batchNodeWorld` these are the `Prep` / `Post` entries of `batchWorld`
  (the world of `runBatch_refines`, `Refine/Batch.lean`).
* `NewResult`, `NewErrorResult`, `R`, `Result.IsNil / Type / Value / IsError / Error` (result.go:18-30, 337-368) in `resultWorld`, where
  `Result` is a struct with the fields `value`, `err`: the sources compute what the interpreter's BUILT-IN `NewResult(x)`,
  `NewErrorResult(x)`, `r.IsError()`, `r.Value()` return (for `Value` up to the encoding of a nil `any`: `sameAny`).
* `(*BatchError).Error()` (batch.go:15-23) in `batchErrorWorld`: which format and which operands it hands `fmt.Sprintf`.

Every depth bound is the LEAST depth at which the run is not stuck (the last `#eval` of `GoIR/SmallTest.lean` checks this).
-/
namespace Flyt.Refine.Small
open Flyt Flyt.GoIR Flyt.GoIR.SmallW Flyt.Expected.IR Flyt.Refine
set_option linter.unusedSimpArgs false

/-- the recursion depth of the executable test (`GoIR/SmallTest.lean`) -/
def F : Nat := 30

section steps
variable {Ω : Type} (W : World Ω)
/-- `x.(T)`, single-value form: stuck (a panic) when the assertion fails -/
theorem expr_assert (f : Nat) (a : Expr) (ty : String) (st : St Ω) :
    evalExpr W (f + 1) (.assert a ty) st =
      match evalExpr W f a st with
      | some ([x], st1) =>
        (match W.assert x ty st1.w with
         | some (v, true) => some ([v], st1)
         | _ => none)
      | _ => none := rfl
/-- a method call with at least one argument is never one of the built-in `Result` methods: it is the world's -/
theorem mcall_cons (r : GV) (m : String) (a : GV) (as : List GV) (h : Heap) (w : Ω) (st : St Ω) :
    (match r, a :: as with
     | .result x, [] =>
       if m == "IsError" then some ([.bool x.isError], st)
       else if m == "Value" then some ([GV.ofVal x.valueOf], st)
       else none
     | _, _ =>
       match W.mcall r m (a :: as) h w with
       | some (rs, h', w') => some (rs, { st with heap := h', w := w' })
       | none => none) =
    (match W.mcall r m (a :: as) h w with
     | some (rs, h', w') => some (rs, { st with heap := h', w := w' })
     | none => none) := by
  cases r <;> rfl
end steps

section base
variable {Ω : Type} (W : World Ω)

/-- `BaseNode.Prep` (flyt.go:605) returns `(nil, nil)`: no call, no effect, whatever receiver, context and store -/
theorem BaseNode_Prep_refines_of_le (n ctx sh : GV) (h : Heap) (w : Ω) (fuel : Nat) (hf : 5 ≤ fuel) :
    callFunc W fuel BaseNode_Prep [n, ctx, sh] h w = some ([.nil, .nil], h, w) := by
  obtain ⟨f, rfl⟩ := Nat.exists_eq_add_of_le' hf; rfl
/-- `BaseNode.Exec` (flyt.go:612) returns `(nil, nil)` -/
theorem BaseNode_Exec_refines_of_le (n ctx pv : GV) (h : Heap) (w : Ω) (fuel : Nat) (hf : 5 ≤ fuel) :
    callFunc W fuel BaseNode_Exec [n, ctx, pv] h w = some ([.nil, .nil], h, w) := by
  obtain ⟨f, rfl⟩ := Nat.exists_eq_add_of_le' hf; rfl
/-- `BaseNode.Post` (flyt.go:619) returns `(DefaultAction, nil)` -/
theorem BaseNode_Post_refines_of_le (hG : W.global "DefaultAction" = some (.str defaultAction)) (n ctx sh pv ev : GV) (h : Heap) (w : Ω)
    (fuel : Nat) (hf : 5 ≤ fuel) :
    callFunc W fuel BaseNode_Post [n, ctx, sh, pv, ev] h w = some ([.str defaultAction, .nil], h, w) := by
  obtain ⟨f, rfl⟩ := Nat.exists_eq_add_of_le' hf
  gosimp [callFunc, BaseNode_Post, hG]
/-- `BaseNode.ExecFallback` (flyt.go:626) returns `(nil, err)`: the error it is handed, unchanged -/
theorem BaseNode_ExecFallback_refines_of_le (n pv err : GV) (h : Heap) (w : Ω) (fuel : Nat) (hf : 5 ≤ fuel) :
    callFunc W fuel BaseNode_ExecFallback [n, pv, err] h w = some ([.nil, err], h, w) := by
  obtain ⟨f, rfl⟩ := Nat.exists_eq_add_of_le' hf; rfl
end base

/-! `leafWorld` is the world of `Run_refines_runLeaf`; the translated `BaseNode` methods are run in `leafWorld` itself. (`adapterWorld`'s
entries for the embedded `BaseNode` of a `CustomNode`, `Refine/Adapters.lean`, are the same four right-hand sides.) -/

section leaf
variable (kind : CtxKind) (n : NodeId) (v : Nat) (cfg : LeafCfg) (scr : LeafScript)

theorem BaseNode_Prep_is_leafWorld_absent (hs : cfg.prepS = .absent) (recv ctx sh : GV) (h : Heap) (w : LeafW) (fuel : Nat)
    (hf : 5 ≤ fuel) :
    callFunc (leafWorld kind n v cfg scr) fuel BaseNode_Prep [recv, ctx, sh] h w =
      (leafWorld kind n v cfg scr).mcall (.node n) "Prep" [ctx, sh] h w := by
  rw [BaseNode_Prep_refines_of_le _ recv ctx sh h w fuel hf, w_prep_absent kind n v cfg scr hs]
theorem BaseNode_Exec_is_leafWorld_absent (hs : cfg.execS = .absent) (recv ctx pv : GV) (h : Heap) (w : LeafW) (fuel : Nat)
    (hf : 5 ≤ fuel) :
    callFunc (leafWorld kind n v cfg scr) fuel BaseNode_Exec [recv, ctx, pv] h w =
      (leafWorld kind n v cfg scr).mcall (.node n) "Exec" [ctx, pv] h w := by
  rw [BaseNode_Exec_refines_of_le _ recv ctx pv h w fuel hf, w_exec_absent kind n v cfg scr hs]
theorem BaseNode_Post_is_leafWorld_absent (hs : cfg.postS = .absent) (recv ctx sh pv ev : GV) (h : Heap) (w : LeafW) (fuel : Nat)
    (hf : 5 ≤ fuel) :
    callFunc (leafWorld kind n v cfg scr) fuel BaseNode_Post [recv, ctx, sh, pv, ev] h w =
      (leafWorld kind n v cfg scr).mcall (.node n) "Post" [ctx, sh, pv, ev] h w := by
  rw [BaseNode_Post_refines_of_le _ (w_global kind n v cfg scr) recv ctx sh pv ev h w fuel hf, w_post_absent kind n v cfg scr hs]
theorem BaseNode_ExecFallback_is_leafWorld_passThrough (hs : cfg.fb = .passThrough) (recv pv : GV) (e : ErrRoot) (h : Heap)
    (w : LeafW) (fuel : Nat) (hf : 5 ≤ fuel) :
    callFunc (leafWorld kind n v cfg scr) fuel BaseNode_ExecFallback [recv, pv, .err e] h w =
      (leafWorld kind n v cfg scr).mcall (.node n) "ExecFallback" [pv, .err e] h w := by
  rw [BaseNode_ExecFallback_refines_of_le _ recv pv (.err e) h w fuel hf, w_fb_pass kind n v cfg scr hs]
end leaf

/-! The model itself (`Model/Run.lean`) at the same places: an absent prep is no event and the payload `Val.nil` (= `GV.nil.toVal`); an
absent exec succeeds at once with `Val.nil`; an absent post is `defaultAction`; a pass-through fallback returns the last error. -/

theorem model_nil_payload : GV.nil.toVal = Val.nil := rfl

theorem model_absent_exec (kind : CtxKind) (mkExec : Nat → Ev) (mkWait : Nat → Bool → Ev) (exec : Nat → Out Val)
    (wc : Nat → Bool) (wait rem : Nat) (last : Option Nat) :
    attempts kind mkExec mkWait exec wc .absent wait 0 (rem + 1) last .live = ([], .live, .ok Val.nil) := by
  simp [attempts]

theorem model_passThrough (kind : CtxKind) (mkFb : Nat → Ev) (fbOut : Out Val) (ctx : Ctx) (e : Nat) :
    fallbackPhase kind .passThrough mkFb fbOut ctx (.failed e) = ([], ctx, .error (.user e)) := rfl

/-- a node with no phase at all (a bare `BaseNode`): no event, the context untouched, `DefaultAction` -/
theorem model_runLeaf_all_absent (kind : CtxKind) (n : NodeId) (v : Nat) (sid : StoreId) (cfg : LeafCfg) (scr : LeafScript)
    (hp : cfg.prepS = .absent) (he : cfg.execS = .absent) (ho : cfg.postS = .absent) (hb : 0 < cfg.effBudget) :
    runLeaf kind n v sid cfg scr .live = ([], .live, .ok defaultAction) := by
  obtain ⟨b, hb'⟩ := Nat.exists_eq_add_of_le' hb
  simp [runLeaf, hp, he, ho, hb', attempts, fallbackPhase]

/-! The delegations of `NodeBuilder` / `BatchNodeBuilder`: `hF` says which object the builder embeds; ALL results of the embedded
node's method (values, heap, world state — or its being stuck) are passed through unchanged. -/

section deleg
variable {Ω : Type} (W : World Ω)

/-- a function whose body is `return x.fld.m(args…)`, `x` bound to `b` by the call and `b.fld` reading `e`: the call IS `e`'s method
    `m` on the values of `args`. For the seven builders below every hypothesis but `hF` is a computation. -/
theorem callFunc_ret_embedded (f : Nat) {fn : Func} {x fld m : String} {args : Exprs} {vals : List GV} {env : GoIR.Env} {b e a : GV}
    {as : List GV} {h : Heap} {w : Ω} (hbody : fn.body = B[(.ret E[(.mcall (.sel (.var x) fld) m args)])])
    (henv : GoIR.Env.pushAll [] ((if fn.recv == "" then [] else [fn.recv]) ++ fn.params) vals = some env)
    (hb : env.get x = some b) (hF : W.field b fld w = some e)
    (hA : evalArgs W (f + 2) args ⟨env, h, w⟩ = some (a :: as, ⟨env, h, w⟩)) :
    callFunc W (f + 6) fn vals h w = W.mcall e m (a :: as) h w := by
  simp only [callFunc, henv, hbody]
  cases hm : W.mcall e m (a :: as) h w <;>
    gosimp [expr_sel, hb, hF, hA, mcall_cons, hm]

theorem NodeBuilder_Prep_refines_of_le (b cn ctx sh : GV) (h : Heap) (w : Ω) (hF : W.field b "CustomNode" w = some cn)
    (fuel : Nat) (hf : 7 ≤ fuel) :
    callFunc W fuel NodeBuilder_Prep [b, ctx, sh] h w = W.mcall cn "Prep" [ctx, sh] h w := by
  obtain ⟨f, rfl⟩ := Nat.exists_eq_add_of_le' hf
  exact callFunc_ret_embedded W (f + 1) rfl rfl rfl hF rfl
theorem NodeBuilder_Exec_refines_of_le (b cn ctx pv : GV) (h : Heap) (w : Ω) (hF : W.field b "CustomNode" w = some cn)
    (fuel : Nat) (hf : 7 ≤ fuel) :
    callFunc W fuel NodeBuilder_Exec [b, ctx, pv] h w = W.mcall cn "Exec" [ctx, pv] h w := by
  obtain ⟨f, rfl⟩ := Nat.exists_eq_add_of_le' hf
  exact callFunc_ret_embedded W (f + 1) rfl rfl rfl hF rfl
theorem NodeBuilder_Post_refines_of_le (b cn ctx sh pv ev : GV) (h : Heap) (w : Ω) (hF : W.field b "CustomNode" w = some cn)
    (fuel : Nat) (hf : 9 ≤ fuel) :
    callFunc W fuel NodeBuilder_Post [b, ctx, sh, pv, ev] h w = W.mcall cn "Post" [ctx, sh, pv, ev] h w := by
  obtain ⟨f, rfl⟩ := Nat.exists_eq_add_of_le' hf
  exact callFunc_ret_embedded W (f + 3) rfl rfl rfl hF rfl
theorem NodeBuilder_ExecFallback_refines_of_le (b cn pv err : GV) (h : Heap) (w : Ω) (hF : W.field b "CustomNode" w = some cn)
    (fuel : Nat) (hf : 7 ≤ fuel) :
    callFunc W fuel NodeBuilder_ExecFallback [b, pv, err] h w = W.mcall cn "ExecFallback" [pv, err] h w := by
  obtain ⟨f, rfl⟩ := Nat.exists_eq_add_of_le' hf
  exact callFunc_ret_embedded W (f + 1) rfl rfl rfl hF rfl
theorem BatchNodeBuilder_Prep_refines_of_le (b bn ctx sh : GV) (h : Heap) (w : Ω) (hF : W.field b "BatchNode" w = some bn)
    (fuel : Nat) (hf : 7 ≤ fuel) :
    callFunc W fuel BatchNodeBuilder_Prep [b, ctx, sh] h w = W.mcall bn "Prep" [ctx, sh] h w := by
  obtain ⟨f, rfl⟩ := Nat.exists_eq_add_of_le' hf
  exact callFunc_ret_embedded W (f + 1) rfl rfl rfl hF rfl
theorem BatchNodeBuilder_Exec_refines_of_le (b bn ctx pv : GV) (h : Heap) (w : Ω) (hF : W.field b "BatchNode" w = some bn)
    (fuel : Nat) (hf : 7 ≤ fuel) :
    callFunc W fuel BatchNodeBuilder_Exec [b, ctx, pv] h w = W.mcall bn "Exec" [ctx, pv] h w := by
  obtain ⟨f, rfl⟩ := Nat.exists_eq_add_of_le' hf
  exact callFunc_ret_embedded W (f + 1) rfl rfl rfl hF rfl
theorem BatchNodeBuilder_Post_refines_of_le (b bn ctx sh pv ev : GV) (h : Heap) (w : Ω) (hF : W.field b "BatchNode" w = some bn)
    (fuel : Nat) (hf : 9 ≤ fuel) :
    callFunc W fuel BatchNodeBuilder_Post [b, ctx, sh, pv, ev] h w = W.mcall bn "Post" [ctx, sh, pv, ev] h w := by
  obtain ⟨f, rfl⟩ := Nat.exists_eq_add_of_le' hf
  exact callFunc_ret_embedded W (f + 3) rfl rfl rfl hF rfl
end deleg

/-! In `delegWorld`, the world of the executable test: one recorded call of the embedded node, with the builder's arguments. -/

section delegWorld
variable (ret : String → List GV → Option (List GV))

theorem dw_field_nb (i : Nat) (w : DW) : (delegWorld ret).field (.ref "nb" i) "CustomNode" w = some cnH := rfl
theorem dw_field_bnb (i : Nat) (w : DW) : (delegWorld ret).field (.ref "bnb" i) "BatchNode" w = some bnH := rfl
theorem dw_mcall_cn (m : String) (args : List GV) (h : Heap) (w : DW) :
    (delegWorld ret).mcall cnH m args h w = (ret m args).map fun rs => (rs, h, w ++ [⟨cnH, m, args⟩]) := rfl
theorem dw_mcall_bn (m : String) (args : List GV) (h : Heap) (w : DW) :
    (delegWorld ret).mcall bnH m args h w = (ret m args).map fun rs => (rs, h, w ++ [⟨bnH, m, args⟩]) := rfl

theorem runDeleg_of {fuel : Nat} {fn : Func} {b e : GV} {m : String} {args : List GV}
    (hc : callFunc (delegWorld ret) fuel fn (b :: args) [] [] = (ret m args).map fun rs => (rs, [], [] ++ [⟨e, m, args⟩])) :
    runDeleg fuel fn ret (b :: args) = (ret m args).map fun rs => (rs, [⟨e, m, args⟩]) := by
  rw [runDeleg, hc]; cases ret m args <;> rfl

theorem NodeBuilder_Prep_delegWorld (a b : GV) (fuel : Nat) (hf : 7 ≤ fuel) :
    runDeleg fuel NodeBuilder_Prep ret [nbH, a, b] = (ret "Prep" [a, b]).map fun rs => (rs, [⟨cnH, "Prep", [a, b]⟩]) :=
  runDeleg_of ret (by rw [NodeBuilder_Prep_refines_of_le _ nbH cnH a b [] [] (dw_field_nb ret 0 []) fuel hf, dw_mcall_cn])
theorem NodeBuilder_Exec_delegWorld (a b : GV) (fuel : Nat) (hf : 7 ≤ fuel) :
    runDeleg fuel NodeBuilder_Exec ret [nbH, a, b] = (ret "Exec" [a, b]).map fun rs => (rs, [⟨cnH, "Exec", [a, b]⟩]) :=
  runDeleg_of ret (by rw [NodeBuilder_Exec_refines_of_le _ nbH cnH a b [] [] (dw_field_nb ret 0 []) fuel hf, dw_mcall_cn])
theorem NodeBuilder_Post_delegWorld (a b c d : GV) (fuel : Nat) (hf : 9 ≤ fuel) :
    runDeleg fuel NodeBuilder_Post ret [nbH, a, b, c, d] =
      (ret "Post" [a, b, c, d]).map fun rs => (rs, [⟨cnH, "Post", [a, b, c, d]⟩]) :=
  runDeleg_of ret (by rw [NodeBuilder_Post_refines_of_le _ nbH cnH a b c d [] [] (dw_field_nb ret 0 []) fuel hf, dw_mcall_cn])
theorem NodeBuilder_ExecFallback_delegWorld (a b : GV) (fuel : Nat) (hf : 7 ≤ fuel) :
    runDeleg fuel NodeBuilder_ExecFallback ret [nbH, a, b] =
      (ret "ExecFallback" [a, b]).map fun rs => (rs, [⟨cnH, "ExecFallback", [a, b]⟩]) :=
  runDeleg_of ret (by rw [NodeBuilder_ExecFallback_refines_of_le _ nbH cnH a b [] [] (dw_field_nb ret 0 []) fuel hf, dw_mcall_cn])
theorem BatchNodeBuilder_Prep_delegWorld (a b : GV) (fuel : Nat) (hf : 7 ≤ fuel) :
    runDeleg fuel BatchNodeBuilder_Prep ret [bnbH, a, b] = (ret "Prep" [a, b]).map fun rs => (rs, [⟨bnH, "Prep", [a, b]⟩]) :=
  runDeleg_of ret (by rw [BatchNodeBuilder_Prep_refines_of_le _ bnbH bnH a b [] [] (dw_field_bnb ret 0 []) fuel hf, dw_mcall_bn])
theorem BatchNodeBuilder_Exec_delegWorld (a b : GV) (fuel : Nat) (hf : 7 ≤ fuel) :
    runDeleg fuel BatchNodeBuilder_Exec ret [bnbH, a, b] = (ret "Exec" [a, b]).map fun rs => (rs, [⟨bnH, "Exec", [a, b]⟩]) :=
  runDeleg_of ret (by rw [BatchNodeBuilder_Exec_refines_of_le _ bnbH bnH a b [] [] (dw_field_bnb ret 0 []) fuel hf, dw_mcall_bn])
theorem BatchNodeBuilder_Post_delegWorld (a b c d : GV) (fuel : Nat) (hf : 9 ≤ fuel) :
    runDeleg fuel BatchNodeBuilder_Post ret [bnbH, a, b, c, d] =
      (ret "Post" [a, b, c, d]).map fun rs => (rs, [⟨bnH, "Post", [a, b, c, d]⟩]) :=
  runDeleg_of ret (by rw [BatchNodeBuilder_Post_refines_of_le _ bnbH bnH a b c d [] [] (dw_field_bnb ret 0 []) fuel hf, dw_mcall_bn])
end delegWorld

/-! `BatchNode.Prep` / `BatchNode.Post`, in EVERY world: a field that is set reads a function value, which is a `GV.ref`; one call, its
results (the heap, the world state, or its being stuck) passed through. -/

section batchNode
variable {Ω : Type} (W : World Ω)

theorem BatchNode_Prep_set (f : Nat) (n ctx sh : GV) (k : String) (i : Nat) (h : Heap) (w : Ω)
    (hF : W.field n "batchPrepFunc" w = some (.ref k i)) :
    callFunc W (f + 9) BatchNode_Prep [n, ctx, sh] h w = W.mcall n "batchPrepFunc" [ctx, sh] h w := by
  cases hm : W.mcall n "batchPrepFunc" [ctx, sh] h w <;>
    gosimp [callFunc, BatchNode_Prep, expr_sel, hF, mcall_cons, hm]

theorem BatchNode_Prep_unset (f : Nat) (n cn ctx sh : GV) (h : Heap) (w : Ω) (hF : W.field n "batchPrepFunc" w = some .nil)
    (hC : W.field n "CustomNode" w = some cn) :
    callFunc W (f + 9) BatchNode_Prep [n, ctx, sh] h w = W.mcall cn "Prep" [ctx, sh] h w := by
  gosimp [callFunc, BatchNode_Prep, expr_sel, hF, hC, mcall_cons]
  cases W.mcall cn "Prep" [ctx, sh] h w <;> rfl

/-- `pv.([]Result)`, `ev.([]Result)` are what `batchPostFunc` is handed; a failing assertion panics -/
theorem BatchNode_Post_set (f : Nat) (n ctx sh pv ev pv' ev' : GV) (k : String) (i : Nat) (h : Heap) (w : Ω)
    (hF : W.field n "batchPostFunc" w = some (.ref k i)) (hP : W.assert pv "[]Result" w = some (pv', true))
    (hE : W.assert ev "[]Result" w = some (ev', true)) :
    callFunc W (f + 13) BatchNode_Post [n, ctx, sh, pv, ev] h w = W.mcall n "batchPostFunc" [ctx, sh, pv', ev'] h w := by
  cases hm : W.mcall n "batchPostFunc" [ctx, sh, pv', ev'] h w <;>
    gosimp [callFunc, BatchNode_Post, expr_sel, expr_assert, hF, hP, hE, mcall_cons, hm]

theorem BatchNode_Post_unset (f : Nat) (n ctx sh pv ev : GV) (h : Heap) (w : Ω) (hF : W.field n "batchPostFunc" w = some .nil)
    (hG : W.global "DefaultAction" = some (.str defaultAction)) :
    callFunc W (f + 13) BatchNode_Post [n, ctx, sh, pv, ev] h w = some ([.str defaultAction, .nil], h, w) := by
  gosimp [callFunc, BatchNode_Post, expr_sel, hF, hG]

end batchNode

section batchNodeWorld
variable (kind : CtxKind) (n : NodeId) (v : Nat) (cfg : BatchCfg) (scr : BatchScript)

/-- what `batchWorld` (the world of `runBatch_refines`, `Refine/Batch.lean`) assumes `node.Prep(ctx, shared)` to do -/
theorem batchWorld_Prep (ctx sh : GV) (h : Heap) (w : SeqW) :
    (batchWorld kind n v cfg scr).mcall (.node n) "Prep" [ctx, sh] h w =
      (if cfg.shape = .results then userBatchPrep kind n v scr sh h w else customPrep kind n v cfg.shape scr sh h w) := by
  obtain ⟨budget, wait, fb, conc, stop, execS, hasPost, shape⟩ := cfg
  cases shape <;> rfl

/-- what `batchWorld` assumes `node.Post(ctx, shared, items, results)` to do -/
theorem batchWorld_Post (ctx sh its res : GV) (h : Heap) (w : SeqW) :
    (batchWorld kind n v cfg scr).mcall (.node n) "Post" [ctx, sh, its, res] h w =
      (if cfg.hasPost then userBatchPost kind n v scr sh its res h w else some ([.str defaultAction, .nil], h, w)) := by
  obtain ⟨budget, wait, fb, conc, stop, execS, hasPost, shape⟩ := cfg
  cases hasPost <;> rfl

/-- `BatchNode.Prep` (batch.go:35), run in `batchNodeWorld`, does what `batchWorld` says `node.Prep(ctx, shared)` does: the event
    `Ev.bprep n v sid` with the store it was handed, the context after the callback, and — `cfg.shape = .results`, i.e.
    `batchPrepFunc` set — a fresh `[]Result` holding `normItems .results l = l.map toResult`, else the embedded node's prep value. -/
theorem BatchNode_Prep_refines_of_le (ctx sh : GV) (h : Heap) (w : SeqW) (fuel : Nat) (hf : 9 ≤ fuel) :
    callFunc (batchNodeWorld kind n v cfg scr) fuel BatchNode_Prep [bnH, ctx, sh] h w =
      (batchWorld kind n v cfg scr).mcall (.node n) "Prep" [ctx, sh] h w := by
  obtain ⟨f, rfl⟩ := Nat.exists_eq_add_of_le' hf
  rw [batchWorld_Prep]
  obtain ⟨budget, wait, fb, conc, stop, execS, hasPost, shape⟩ := cfg
  cases shape
  · exact BatchNode_Prep_set _ f bnH ctx sh "fn" 0 h w rfl
  all_goals exact BatchNode_Prep_unset _ f bnH cnH ctx sh h w rfl rfl

/-- `BatchNode.Post` (batch.go:44), handed two `[]Result` values, does what `batchWorld` says `node.Post(ctx, shared, items, results)`
    does: `cfg.hasPost` — the event `Ev.bpost n v sid` with the CONTENTS of the two slices it was handed and the callback's answer;
    otherwise `(DefaultAction, nil)` and nothing else. -/
theorem BatchNode_Post_refines_of_le (ctx sh : GV) (a o k a' o' k' : Nat) (h : Heap) (w : SeqW) (fuel : Nat) (hf : 13 ≤ fuel) :
    callFunc (batchNodeWorld kind n v cfg scr) fuel BatchNode_Post [bnH, ctx, sh, .slice a o k, .slice a' o' k'] h w =
      (batchWorld kind n v cfg scr).mcall (.node n) "Post" [ctx, sh, .slice a o k, .slice a' o' k'] h w := by
  obtain ⟨f, rfl⟩ := Nat.exists_eq_add_of_le' hf
  rw [batchWorld_Post]
  obtain ⟨budget, wait, fb, conc, stop, execS, hasPost, shape⟩ := cfg
  cases hasPost
  · exact BatchNode_Post_unset _ f bnH ctx sh _ _ h w rfl rfl
  · exact BatchNode_Post_set _ f bnH ctx sh _ _ _ _ "fn" 1 h w rfl rfl rfl

/-- the `[]Result` a batch prep function returns reads back as the model's `normItems .results` of the scripted values -/
theorem userBatchPrep_items (sid : StoreId) (l : List Val) (h : Heap) (w : SeqW) (hr : scr.prep.res = .ok l) :
    ∃ s h' w', userBatchPrep kind n v scr (storeH sid) h w = some ([s, .nil], h', w') ∧
      readWindow h' s = some (normItems .results l) ∧ w'.evs = w.evs ++ [.bprep n v sid] ∧
      w'.ctx = w.ctx.after kind scr.prep.cancels := by
  refine ⟨.slice h.length 0 l.length, h ++ [l.map toResult], _, by simp [userBatchPrep, storeH, storeIdOf, hr]; rfl, ?_, rfl, rfl⟩
  simp [readWindow, normItems]
  exact List.take_of_length_le (by simp)

end batchNodeWorld

section steps
variable {Ω : Type} (W : World Ω)
/-- a keyed literal `Result{k: e}` (the bodies of `NewResult` / `NewErrorResult`) is the world's `lit:Result:k,`, like every struct
    literal; only the empty `Result{}` is the interpreter's own zero `Result` -/
theorem expr_lit_Result_keyed (f : Nat) (e : Expr) (es : Exprs) (st : St Ω) :
    evalExpr W (f + 1) (.lit "Result" (.cons e es)) st =
      match evalArgs W f (litValues (.cons e es)) st with
      | some (vs, st1) =>
        (match W.call ("lit:" ++ "Result" ++ ":" ++ litKeys (.cons e es)) vs st1.heap st1.w with
         | some (rs, h, w) => some (rs, { st1 with heap := h, w := w })
         | none => none)
      | none => none := rfl
end steps

section result
variable (tyName : Val → String)

/-! Every argument and the world being concrete, each run below is a computation: `rfl`, after the case split that decides which
way the program branches. -/

/-- `NewResult` (result.go:18) computes `newResult` (`FlytModel/Core.lean`) — what the interpreter's built-in `NewResult` returns (`builtin_NewResult`) -/
theorem NewResult_refines_of_le (x : GV) (h : Heap) (w : Unit) (fuel : Nat) (hf : 6 ≤ fuel) :
    callFunc (resultWorld tyName) fuel NewResult [x] h w = some ([.result (newResult x.toVal)], h, w) := by
  obtain ⟨f, rfl⟩ := Nat.exists_eq_add_of_le' hf
  rfl
/-- `NewErrorResult` (result.go:23) computes `newErrorResult` (`FlytModel/Core.lean`) — the built-in's answer (`builtin_NewErrorResult`) -/
theorem NewErrorResult_refines_of_le (e : ErrRoot) (h : Heap) (w : Unit) (fuel : Nat) (hf : 6 ≤ fuel) :
    callFunc (resultWorld tyName) fuel NewErrorResult [.err e] h w = some ([.result (newErrorResult e)], h, w) := by
  obtain ⟨f, rfl⟩ := Nat.exists_eq_add_of_le' hf
  rfl
theorem NewErrorResult_nil_refines_of_le (h : Heap) (w : Unit) (fuel : Nat) (hf : 6 ≤ fuel) :
    callFunc (resultWorld tyName) fuel NewErrorResult [.nil] h w = some ([.result ⟨Val.nil, none⟩], h, w) := by
  obtain ⟨f, rfl⟩ := Nat.exists_eq_add_of_le' hf
  rfl
/-- `Result.IsError` (result.go:361) computes `Result.isError` — the built-in's answer (`builtin_IsError`) -/
theorem Result_IsError_refines_of_le (r : Result) (h : Heap) (w : Unit) (fuel : Nat) (hf : 6 ≤ fuel) :
    callFunc (resultWorld tyName) fuel Result_IsError [.result r] h w = some ([.bool r.isError], h, w) := by
  obtain ⟨f, rfl⟩ := Nat.exists_eq_add_of_le' hf
  obtain ⟨val, _ | e⟩ := r <;> rfl
/-- `Result.Value` (result.go:353): the literal `nil` for an error result, the `value` field otherwise — `Result.valueOf` as a
    payload (`Value_toVal`), the built-in's `GV.ofVal r.valueOf` up to the encoding of a nil `any` (`Value_sameAny`) -/
theorem Result_Value_refines_of_le (r : Result) (h : Heap) (w : Unit) (fuel : Nat) (hf : 6 ≤ fuel) :
    callFunc (resultWorld tyName) fuel Result_Value [.result r] h w =
      some ([if r.isError then .nil else GV.ofVal r.value], h, w) := by
  obtain ⟨f, rfl⟩ := Nat.exists_eq_add_of_le' hf
  obtain ⟨val, _ | e⟩ := r <;> rfl
theorem Result_Error_refines_of_le (r : Result) (h : Heap) (w : Unit) (fuel : Nat) (hf : 5 ≤ fuel) :
    callFunc (resultWorld tyName) fuel Result_Error [.result r] h w = some ([errGV r.err], h, w) := by
  obtain ⟨f, rfl⟩ := Nat.exists_eq_add_of_le' hf
  rfl
theorem Result_IsNil_refines_of_le (r : Result) (h : Heap) (w : Unit) (fuel : Nat) (hf : 6 ≤ fuel) :
    callFunc (resultWorld tyName) fuel Result_IsNil [.result r] h w = some ([.bool (resIsNil r)], h, w) := by
  obtain ⟨f, rfl⟩ := Nat.exists_eq_add_of_le' hf
  obtain ⟨_ | ⟨val, e⟩, er⟩ := r <;> rfl
/-- `Result.Type` (result.go:343): `"nil"` for a nil value, else the name of the value's dynamic type (`fmt.Sprintf("%T", r.value)`,
    a world call) -/
theorem Result_Type_refines_of_le (r : Result) (h : Heap) (w : Unit) (fuel : Nat) (hf : 9 ≤ fuel) :
    callFunc (resultWorld tyName) fuel Result_Type [.result r] h w = some ([.str (resType tyName r)], h, w) := by
  obtain ⟨f, rfl⟩ := Nat.exists_eq_add_of_le' hf
  obtain ⟨(_ | k) | ⟨val, e⟩, er⟩ := r <;> rfl
end result

/-- `R(v)` (result.go:28) = `NewResult(v)`, in every world (`NewResult` is a built-in of the interpreter, justified by
    `NewResult_refines_of_le`) -/
theorem R_refines_of_le {Ω : Type} (W : World Ω) (x : GV) (h : Heap) (w : Ω) (fuel : Nat) (hf : 6 ≤ fuel) :
    callFunc W fuel R [x] h w = some ([.result (newResult x.toVal)], h, w) := by
  obtain ⟨f, rfl⟩ := Nat.exists_eq_add_of_le' hf; rfl

section builtin
variable {Ω : Type} (W : World Ω)

theorem builtin_NewResult (f : Nat) (x : String) (v : GV) (st : St Ω) (hx : st.env.get x = some v) :
    evalExpr W (f + 3) (.call "NewResult" E[(.var x)]) st = some ([.result (newResult v.toVal)], st) := by
  rw [expr_call W _ _ _ _ (by decide), args_one, expr_var, hx]; rfl
theorem builtin_NewErrorResult (f : Nat) (x : String) (e : ErrRoot) (st : St Ω) (hx : st.env.get x = some (.err e)) :
    evalExpr W (f + 3) (.call "NewErrorResult" E[(.var x)]) st = some ([.result (newErrorResult e)], st) := by
  rw [expr_call W _ _ _ _ (by decide), args_one, expr_var, hx]; rfl
theorem builtin_IsError (f : Nat) (x : String) (r : Result) (st : St Ω) (hx : st.env.get x = some (.result r)) :
    evalExpr W (f + 2) (.mcall (.var x) "IsError" E[]) st = some ([.bool r.isError], st) := by
  rw [expr_mcall, expr_var, hx]; rfl
theorem builtin_Value (f : Nat) (x : String) (r : Result) (st : St Ω) (hx : st.env.get x = some (.result r)) :
    evalExpr W (f + 2) (.mcall (.var x) "Value" E[]) st = some ([GV.ofVal r.valueOf], st) := by
  rw [expr_mcall, expr_var, hx]; rfl
end builtin

/-- two encodings of one `any`: the same payload for every consumer (`NewResult`, the user's callbacks, the events) and the same
    answer to `== nil` — `GV.nil` (the literal `nil`) and `GV.val Val.nil` (a nil payload) are such a pair -/
def sameAny (a b : GV) : Prop := a.toVal = b.toVal ∧ a.isNil = b.isNil

/-- what the source of `Result.Value` returns is the built-in's `GV.ofVal r.valueOf`, up to the encoding of a nil `any` -/
theorem Value_sameAny (r : Result) : sameAny (if r.isError then GV.nil else GV.ofVal r.value) (GV.ofVal r.valueOf) := by
  obtain ⟨val, _ | e⟩ := r
  · exact ⟨rfl, rfl⟩
  · exact ⟨rfl, rfl⟩
theorem Value_toVal (r : Result) : (if r.isError then GV.nil else GV.ofVal r.value).toVal = r.valueOf := by
  rw [(Value_sameAny r).1, toVal_ofVal]

/-- the built-in is justified: `NewResult(x)` as a built-in call = the source of `NewResult` applied to the value of `x` -/
theorem NewResult_source_eq_builtin (tyName : Val → String) {Ω : Type} (W : World Ω) (x : String) (v : GV) (st : St Ω)
    (hx : st.env.get x = some v) (h : Heap) (fuel fuel' : Nat) (hf : 6 ≤ fuel) (hf' : 3 ≤ fuel') :
    (callFunc (resultWorld tyName) fuel NewResult [v] h ()).map (·.1) =
      (evalExpr W fuel' (.call "NewResult" E[(.var x)]) st).map (·.1) := by
  obtain ⟨g, rfl⟩ := Nat.exists_eq_add_of_le' hf'
  rw [NewResult_refines_of_le tyName v h () fuel hf, builtin_NewResult W g x v st hx]; rfl
theorem NewErrorResult_source_eq_builtin (tyName : Val → String) {Ω : Type} (W : World Ω) (x : String) (e : ErrRoot) (st : St Ω)
    (hx : st.env.get x = some (.err e)) (h : Heap) (fuel fuel' : Nat) (hf : 6 ≤ fuel) (hf' : 3 ≤ fuel') :
    (callFunc (resultWorld tyName) fuel NewErrorResult [.err e] h ()).map (·.1) =
      (evalExpr W fuel' (.call "NewErrorResult" E[(.var x)]) st).map (·.1) := by
  obtain ⟨g, rfl⟩ := Nat.exists_eq_add_of_le' hf'
  rw [NewErrorResult_refines_of_le tyName e h () fuel hf, builtin_NewErrorResult W g x e st hx]; rfl
theorem Result_IsError_source_eq_builtin (tyName : Val → String) {Ω : Type} (W : World Ω) (x : String) (r : Result) (st : St Ω)
    (hx : st.env.get x = some (.result r)) (h : Heap) (fuel fuel' : Nat) (hf : 6 ≤ fuel) (hf' : 2 ≤ fuel') :
    (callFunc (resultWorld tyName) fuel Result_IsError [.result r] h ()).map (·.1) =
      (evalExpr W fuel' (.mcall (.var x) "IsError" E[]) st).map (·.1) := by
  obtain ⟨g, rfl⟩ := Nat.exists_eq_add_of_le' hf'
  rw [Result_IsError_refines_of_le tyName r h () fuel hf, builtin_IsError W g x r st hx]; rfl
/-- `r.Value()`: one value each, the same `any` up to the encoding of nil -/
theorem Result_Value_source_sameAny_builtin (tyName : Val → String) {Ω : Type} (W : World Ω) (x : String) (r : Result) (st : St Ω)
    (hx : st.env.get x = some (.result r)) (h : Heap) (fuel fuel' : Nat) (hf : 6 ≤ fuel) (hf' : 2 ≤ fuel') :
    ∃ a b, (callFunc (resultWorld tyName) fuel Result_Value [.result r] h ()).map (·.1) = some [a] ∧
      (evalExpr W fuel' (.mcall (.var x) "Value" E[]) st).map (·.1) = some [b] ∧ sameAny a b := by
  obtain ⟨g, rfl⟩ := Nat.exists_eq_add_of_le' hf'
  rw [Result_Value_refines_of_le tyName r h () fuel hf, builtin_Value W g x r st hx]
  exact ⟨_, _, rfl, rfl, Value_sameAny r⟩

section steps
variable {Ω : Type} (W : World Ω)
theorem expr_index (f : Nat) (a i : Expr) (st : St Ω) :
    evalExpr W (f + 1) (.index a i) st =
      match evalExpr W f a st with
      | some ([.slice ad off n], st1) =>
        (match evalExpr W f i st1 with
         | some ([.int k], st2) =>
           if 0 ≤ k ∧ k.toNat < n then (heapGet st2.heap ad (off + k.toNat)).map fun r => ([.result r], st2) else none
         | _ => none)
      | some ([mv], st1) =>
        (match evalExpr W f i st1 with
         | some ([kv], st2) => (W.mapIndex mv kv st2.w).map fun (v, _) => ([v], st2)
         | _ => none)
      | _ => none := rfl
end steps

/-- `(*BatchError).Error()` (batch.go:15). No errors: the fixed text; one error: `"batch: %v"` of it; more:
    `"batch: %d errors occurred, first: %v"` of their number and the FIRST one -/
theorem BatchError_Error_refines_of_le (sprintf : String → List GV → String) (errs : List ErrRoot) (h : Heap) (w : Unit) (fuel : Nat)
    (hf : 12 ≤ fuel) :
    callFunc (batchErrorWorld sprintf errs) fuel BatchError_Error [beH] h w = some ([.str (batchErrorMsg sprintf errs)], h, w) := by
  obtain ⟨f, rfl⟩ := Nat.exists_eq_add_of_le' hf
  obtain _ | ⟨e, _ | ⟨e', rest⟩⟩ := errs <;> rfl

end Flyt.Refine.Small
