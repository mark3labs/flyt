import FlytModel.GoIR.Worlds
import FlytModel.Expected.IR
import FlytModel.Refine.Mono
/-!
# Refinement: the translated Go source of `flyt.Run` (`Flyt.Expected.IR.Run`), run by the definitional
interpreter of `GoIR/Interp.lean` in the leaf world of `GoIR/Worlds.lean`, computes exactly `runLeaf`.

* `containsW` on the seven format strings of `Run` (`String.splitOn` is defined by well-founded recursion and does
  not reduce; a fuel-indexed copy is proved sound and evaluated by `decide`);
* one unfolding lemma for each syntax constructor that `Run` uses, collected in the macro `gosimp` (so that folded program pieces
  are never unfolded symbolically; `expr_sel`, `expr_not`, `loopFor_succ` are given where they are needed); the files on the other functions state the lemmas for the constructors they meet in addition
  (`rangeS`, `typeSwitch`, …) in their own namespaces;
* the statements of the loop body, the fallback statement and the post block one by one, and everything before the loop
  (`prefix_spec`), in ANY world, given what the world answers to the calls made: `Refine/RunNode.lean` runs the same pieces in
  the world of a flow node;
* what `leafWorld` answers to each call `Run` makes, one equation per method;
* the `for` loop against `attempts`, by induction on the remaining budget (`loop_spec`); fallback / post / normalisation against
  `fallbackPhase` and the post phase of `runLeaf` (`tail_spec`); `runLeaf_live`: the model as prep phase, then loop and tail.
-/
namespace Flyt.Refine
open Flyt Flyt.GoIR

/-- fuel-indexed copy of `String.splitOnAux` (which is defined by well-founded recursion and does not reduce) -/
def splitOnAuxF : Nat → String → String → String.Pos.Raw → String.Pos.Raw → String.Pos.Raw → List String → Option (List String)
  | 0, _, _, _, _, _, _ => none
  | n + 1, s, sep, b, i, j, r =>
    if i.atEnd s then
      some ((b.extract s i :: r).reverse)
    else
      if i.get s == j.get sep then
        if (j.next sep).atEnd sep then
          splitOnAuxF n s sep (i.next s) (i.next s) 0 (b.extract s ((i.next s).unoffsetBy (j.next sep)) :: r)
        else
          splitOnAuxF n s sep b (i.next s) (j.next sep) r
      else
        splitOnAuxF n s sep b ((i.unoffsetBy j).next s) 0 r

theorem splitOnAuxF_sound : ∀ (n : Nat) (s sep : String) (b i j : String.Pos.Raw) (r l : List String),
    splitOnAuxF n s sep b i j r = some l → String.splitOnAux s sep b i j r = l := by
  intro n
  induction n with
  | zero => intro s sep b i j r l h; simp [splitOnAuxF] at h
  | succ n ih =>
    intro s sep b i j r l h
    rw [String.splitOnAux]
    simp only [splitOnAuxF] at h
    split at h
    · rename_i h1; simp only [h1, if_true]; simpa using h
    · rename_i h1
      simp only [h1]
      split at h
      · rename_i h2
        simp only [h2, if_true]
        split at h
        · rename_i h3; simp only [h3, if_true]; exact ih _ _ _ _ _ _ _ h
        · rename_i h3; simp only [h3]; exact ih _ _ _ _ _ _ _ h
      · rename_i h2; simp only [h2]; exact ih _ _ _ _ _ _ _ h

theorem containsW_of (n : Nat) (s : String)
    (h : (splitOnAuxF n s "%w" 0 0 0 []).map (fun l => decide (l.length > 1)) = some true) : containsW s = true := by
  unfold containsW String.splitOn
  have : ("%w" == "") = false := by decide
  simp only [this]
  cases h' : splitOnAuxF n s "%w" 0 0 0 [] with
  | none => simp [h'] at h
  | some l =>
    rw [splitOnAuxF_sound _ _ _ _ _ _ _ _ h']
    simpa [h'] using h

-- the format strings of `Run`; `+kernel`: the elaborator's own evaluation of the string positions costs three times the kernel's check
theorem cw1 : containsW "run: context cancelled: %w" = true := containsW_of 60 _ (by decide +kernel)
theorem cw2 : containsW "run: prep failed: %w" = true := containsW_of 60 _ (by decide +kernel)
theorem cw3 : containsW "run: context cancelled after prep: %w" = true := containsW_of 60 _ (by decide +kernel)
theorem cw4 : containsW "run: context cancelled during retry: %w" = true := containsW_of 60 _ (by decide +kernel)
theorem cw5 : containsW "run: context cancelled during wait: %w" = true := containsW_of 60 _ (by decide +kernel)
theorem cw6 : containsW "run: exec failed after %d retries: %w" = true := containsW_of 60 _ (by decide +kernel)
theorem cw7 : containsW "run: post failed: %w" = true := containsW_of 60 _ (by decide +kernel)

section steps
variable {Ω : Type} (W : World Ω)

theorem block_nil (f : Nat) (st : St Ω) : execBlock W (f + 1) .nil st = some (.next, st) := rfl
theorem block_cons (f : Nat) (s : Stmt) (rest : Block) (st : St Ω) :
    execBlock W (f + 1) (.cons s rest) st =
      match execStmt W f s st with
      | some (.next, st1) => execBlock W f rest st1
      | r => r := rfl

theorem stmt_define (f : Nat) (lhs : List String) (rhs : Exprs) (st : St Ω) :
    execStmt W (f + 1) (.define lhs rhs) st =
      match evalRhs W f lhs.length rhs st with
      | some (vs, st1) => (st1.env.pushAll lhs vs).map fun e => (.next, { st1 with env := e })
      | none => none := rfl
theorem stmt_declare (f : Nat) (x ty : String) (st : St Ω) :
    execStmt W (f + 1) (.declare x ty) st =
      match zeroOf ty with
      | some z => some (.next, { st with env := st.env.push x z })
      | none => (W.global ("zero:" ++ ty)).map fun z => (.next, { st with env := st.env.push x z }) := rfl
theorem stmt_assign (f : Nat) (lhs rhs : Exprs) (st : St Ω) :
    execStmt W (f + 1) (.assign lhs rhs) st =
      match evalRhs W f lhs.length rhs st with
      | some (vs, st1) => (assignAll W f lhs.toList vs st1).map fun st2 => (.next, st2)
      | none => none := rfl
theorem stmt_if (f : Nat) (init : Block) (cond : Expr) (thn els : Block) (st : St Ω) :
    execStmt W (f + 1) (.ifS init cond thn els) st =
      match execBlock W f init st with
      | some (.next, st1) =>
        (match evalExpr W f cond st1 with
         | some ([.bool true], st2) =>
           (execBlock W f thn st2).map fun (c, st3) => (c, popSt st3 st.env.length)
         | some ([.bool false], st2) =>
           (execBlock W f els st2).map fun (c, st3) => (c, popSt st3 st.env.length)
         | _ => none)
      | _ => none := rfl
theorem stmt_for (f : Nat) (init : Block) (cond : Expr) (post body : Block) (st : St Ω) :
    execStmt W (f + 1) (.forS init cond post body) st =
      match execBlock W f init st with
      | some (.next, st1) => (loopFor W f cond post body st1).map fun (c, st2) => (c, popSt st2 st.env.length)
      | _ => none := rfl
theorem stmt_select (f : Nat) (cases : Cases) (st : St Ω) :
    execStmt W (f + 1) (.selectS cases) st =
      match evalGuards W f cases st with
      | some (chans, st1) =>
        (match W.select chans st1.w with
         | some (i, w) =>
           (match nthBody cases i with
            | some b =>
              (execBlock W f b { st1 with w := w }).map fun (c, st2) => (c, popSt st2 st1.env.length)
            | none => none)
         | none => none)
      | none => none := rfl
theorem stmt_ret_nil (f : Nat) (st : St Ω) : execStmt W (f + 1) (.ret .nil) st = some (.ret [], st) := rfl
theorem stmt_ret_cons (f : Nat) (e : Expr) (es : Exprs) (st : St Ω) :
    execStmt W (f + 1) (.ret (.cons e es)) st = (evalArgs W f (.cons e es) st).map fun (vs, st1) => (.ret vs, st1) := rfl
theorem stmt_brk (f : Nat) (st : St Ω) : execStmt W (f + 1) .brk st = some (.brk, st) := rfl
theorem stmt_incr (f : Nat) (x : String) (st : St Ω) :
    execStmt W (f + 1) (.incr x) st =
      match st.env.get x with
      | some (.int k) => (st.env.set x (.int (k + 1))).map fun e => (.next, { st with env := e })
      | _ => none := rfl

theorem expr_var (f : Nat) (x : String) (st : St Ω) :
    evalExpr W (f + 1) (.var x) st =
      match st.env.get x with
      | some v => some ([v], st)
      | none =>
        if x == "nil" then some ([.nil], st) else if x == "true" then some ([.bool true], st)
        else if x == "false" then some ([.bool false], st)
        else
          match W.global x with
          | some v => some ([v], st)
          | none => (W.readVar x st.w).map fun v => ([v], st) := rfl
theorem expr_str (f : Nat) (s : String) (st : St Ω) : evalExpr W (f + 1) (.str s) st = some ([.str s], st) := rfl
theorem expr_int (f : Nat) (n : Nat) (st : St Ω) : evalExpr W (f + 1) (.int n) st = some ([.int n], st) := rfl
theorem expr_and (f : Nat) (a b : Expr) (st : St Ω) :
    evalExpr W (f + 1) (.bin "&&" a b) st =
        match evalExpr W f a st with
        | some ([.bool false], st1) => some ([.bool false], st1)
        | some ([.bool true], st1) =>
          (match evalExpr W f b st1 with
           | some ([.bool q], st2) => some ([.bool q], st2)
           | _ => none)
        | _ => none := rfl
theorem expr_bin (f : Nat) (op : String) (a b : Expr) (st : St Ω) (h1 : op ≠ "&&") (h2 : op ≠ "||") :
    evalExpr W (f + 1) (.bin op a b) st =
        match evalExpr W f a st with
        | some ([x], st1) =>
          (match evalExpr W f b st1 with
           | some ([y], st2) =>
             if op == "==" then (x.eqv y).map fun r => ([.bool r], st2)
             else if op == "!=" then (x.eqv y).map fun r => ([.bool !r], st2)
             else
               match x, y with
               | .int m, .int n => (intBin op m n).map fun r => ([r], st2)
               | _, _ => none
           | _ => none)
        | _ => none := by
  have h0 : evalExpr W (f + 1) (.bin op a b) st = (if op == "&&" then _ else if op == "||" then _ else _) := rfl
  rw [h0, beq_eq_false_iff_ne.mpr h1, beq_eq_false_iff_ne.mpr h2]; rfl
theorem expr_call (f : Nat) (fn : String) (args : Exprs) (st : St Ω) (h : fn ≠ "make") :
    evalExpr W (f + 1) (.call fn args) st =
        match evalArgs W f args st with
        | none => none
        | some (vs, st1) =>
          if fn == "len" then
            match vs with
            | [.slice _ _ n] => some ([.int n], st1)
            | [.anys l] => some ([.int l.length], st1)
            | [.nil] => some ([.int 0], st1)
            | _ =>
              (match W.call "len" vs st1.heap st1.w with
               | some (rs, h, w) => some (rs, { st1 with heap := h, w := w })
               | none => none)
          else if fn == "NewResult" then
            match vs with
            | [v] => some ([.result (mkNewResult v)], st1)
            | _ => none
          else if fn == "NewErrorResult" then
            match vs with
            | [.err e] => some ([.result (newErrorResult e)], st1)
            | _ => none
          else if fn == "fmt.Errorf" then
            (errorf vs).map fun r => ([r], st1)
          else
            match st.env.get fn with
            | some fv =>
              (match W.callVar fn fv vs st1.heap st1.w with
               | some (rs, h, w) => some (rs, { st1 with heap := h, w := w })
               | none => none)
            | none =>
              match W.call fn vs st1.heap st1.w with
              | some (rs, h, w) => some (rs, { st1 with heap := h, w := w })
              | none => none := by
  have h0 : evalExpr W (f + 1) (.call fn args) st = (if fn == "make" then _ else _) := rfl
  rw [h0, beq_eq_false_iff_ne.mpr h]; rfl
theorem expr_not (f : Nat) (a : Expr) (st : St Ω) :
    evalExpr W (f + 1) (.un "!" a) st =
      match evalExpr W f a st with
      | some ([.bool p], st1) => some ([.bool !p], st1)
      | _ => none := rfl
theorem expr_sel (f : Nat) (a : Expr) (fl : String) (st : St Ω) :
    evalExpr W (f + 1) (.sel a fl) st =
      match evalExpr W f a st with
      | some ([x], st1) => (W.field x fl st1.w).map fun v => ([v], st1)
      | _ => none := rfl
theorem expr_mcall (f : Nat) (recv : Expr) (m : String) (args : Exprs) (st : St Ω) :
    evalExpr W (f + 1) (.mcall recv m args) st =
      match evalExpr W f recv st with
      | some ([r], st1) =>
        (match evalArgs W f args st1 with
         | none => none
         | some (vs, st2) =>
           match r, vs with
           | .result x, [] =>
             if m == "IsError" then some ([.bool x.isError], st2)
             else if m == "Value" then some ([GV.ofVal x.valueOf], st2)
             else none
           | _, _ =>
             match W.mcall r m vs st2.heap st2.w with
             | some (rs, h, w) => some (rs, { st2 with heap := h, w := w })
             | none => none)
      | _ => none := rfl

theorem args_nil (f : Nat) (st : St Ω) : evalArgs W (f + 1) .nil st = some ([], st) := rfl
theorem args_one (f : Nat) (e : Expr) (st : St Ω) : evalArgs W (f + 1) (.cons e .nil) st = evalExpr W f e st := rfl
theorem args_cons (f : Nat) (e e' : Expr) (rest : Exprs) (st : St Ω) :
    evalArgs W (f + 1) (.cons e (.cons e' rest)) st =
      match evalExpr W f e st with
      | some ([v], st1) =>
        (match evalArgs W f (.cons e' rest) st1 with
         | some (vs, st2) => some (v :: vs, st2)
         | none => none)
      | _ => none := rfl

theorem guards_nil (f : Nat) (st : St Ω) : evalGuards W (f + 1) .nil st = some ([], st) := rfl
theorem guards_recv (f : Nat) (e : Expr) (b : Block) (rest : Cases) (st : St Ω) :
    evalGuards W (f + 1) (.cons (.un "<-" e) b rest) st =
        match evalExpr W f e st with
        | some ([c], st1) => (evalGuards W f rest st1).map fun (l, st2) => (c :: l, st2)
        | _ => none := rfl

theorem loopFor_succ (f : Nat) (cond : Expr) (post body : Block) (st : St Ω) :
    loopFor W (f + 1) cond post body st =
      match evalExpr W f cond st with
      | some ([.bool false], st1) => some (.next, st1)
      | some ([.bool true], st1) =>
        (match execBlock W f body st1 with
         | some (.brk, st2) => some (.next, popSt st2 st1.env.length)
         | some (.ret vs, st2) => some (.ret vs, popSt st2 st1.env.length)
         | some (_, st2) =>
           (match execBlock W f post (popSt st2 st1.env.length) with
            | some (.next, st3) => loopFor W f cond post body st3
            | _ => none)
         | none => none)
      | _ => none := rfl
end steps

def loopCond : Expr := .bin "<" (.var "attempt") (.var "maxRetries")
def loopPost : Block := B[(.incr "attempt")]
def loopBody : Block := B[
    (.ifS B[(.define ["err"] E[(.mcall (.var "ctx") "Err" E[])])] (.bin "!=" (.var "err") (.var "nil")) B[
      (.ret E[(.str ""), (.call "fmt.Errorf" E[(.str "run: context cancelled during retry: %w"), (.var "err")])])] B[]),
    (.ifS B[] (.bin "&&" (.bin ">" (.var "attempt") (.int 0)) (.bin ">" (.var "wait") (.int 0))) B[
      (.selectS (Cases.ofList [
        ((.un "<-" (.call "time.After" E[(.var "wait")])), B[]),
        ((.un "<-" (.mcall (.var "ctx") "Done" E[])), B[
          (.ret E[(.str ""), (.call "fmt.Errorf" E[(.str "run: context cancelled during wait: %w"), (.mcall (.var "ctx") "Err" E[])])])])]))] B[]),
    (.assign E[(.var "execResult"), (.var "execErr")] E[(.mcall (.var "node") "Exec" E[(.var "ctx"), (.var "prepResult")])]),
    (.ifS B[] (.bin "==" (.var "execErr") (.var "nil")) B[
      .brk] B[])]
def fbStmt : Stmt :=
  (.ifS B[] (.bin "!=" (.var "execErr") (.var "nil")) B[
    (.ifS B[(.define ["fallback", "ok"] E[(.assert (.var "node") "FallbackNode")])] (.var "ok") B[
      (.assign E[(.var "execResult"), (.var "execErr")] E[(.mcall (.var "fallback") "ExecFallback" E[(.var "prepResult"), (.var "execErr")])])] B[]),
    (.ifS B[] (.bin "!=" (.var "execErr") (.var "nil")) B[
      (.ret E[(.str ""), (.call "fmt.Errorf" E[(.str "run: exec failed after %d retries: %w"), (.var "maxRetries"), (.var "execErr")])])] B[])] B[])
def postBlock : Block := B[
  (.define ["action", "err"] E[(.mcall (.var "node") "Post" E[(.var "ctx"), (.var "shared"), (.var "prepResult"), (.var "execResult")])]),
  (.ifS B[] (.bin "!=" (.var "err") (.var "nil")) B[
    (.ret E[(.str ""), (.call "fmt.Errorf" E[(.str "run: post failed: %w"), (.var "err")])])] B[]),
  (.ifS B[] (.bin "==" (.var "action") (.str "")) B[
    (.assign E[(.var "action")] E[(.var "DefaultAction")])] B[]),
  (.ret E[(.var "action"), (.var "nil")])]
def suffix : Block := .cons fbStmt postBlock
def tailBlock : Block := .cons (.forS B[(.define ["attempt"] E[(.int 0)])] loopCond loopPost loopBody) suffix

/-- `if err := ctx.Err(); err != nil { return "", fmt.Errorf(msg, err) }` -/
def ctxCheckS (msg : String) : Stmt :=
  .ifS B[(.define ["err"] E[(.mcall (.var "ctx") "Err" E[])])] (.bin "!=" (.var "err") (.var "nil")) B[
    (.ret E[(.str ""), (.call "fmt.Errorf" E[(.str msg), (.var "err")])])] B[]
def waitS : Stmt :=
  .ifS B[] (.bin "&&" (.bin ">" (.var "attempt") (.int 0)) (.bin ">" (.var "wait") (.int 0))) B[
    (.selectS (Cases.ofList [
      ((.un "<-" (.call "time.After" E[(.var "wait")])), B[]),
      ((.un "<-" (.mcall (.var "ctx") "Done" E[])), B[
        (.ret E[(.str ""), (.call "fmt.Errorf" E[(.str "run: context cancelled during wait: %w"), (.mcall (.var "ctx") "Err" E[])])])])]))] B[]
def execAssignS : Stmt :=
  .assign E[(.var "execResult"), (.var "execErr")] E[(.mcall (.var "node") "Exec" E[(.var "ctx"), (.var "prepResult")])]
def brkS : Stmt := .ifS B[] (.bin "==" (.var "execErr") (.var "nil")) B[.brk] B[]

theorem loopBody_eq :
    loopBody = B[ctxCheckS "run: context cancelled during retry: %w", waitS, execAssignS, brkS] := rfl

theorem Run_body : Flyt.Expected.IR.Run.body =
  .cons (.ifS B[(.define ["_", "ok"] E[(.assert (.var "node") "*BatchNode")])] (.var "ok") B[
    (.ret E[(.call "runBatch" E[(.var "ctx"), (.var "node"), (.var "shared")])])] B[]) (
  .cons (.ifS B[(.define ["batchBuilder", "ok"] E[(.assert (.var "node") "*BatchNodeBuilder")])] (.var "ok") B[
    (.ret E[(.call "runBatch" E[(.var "ctx"), (.sel (.var "batchBuilder") "BatchNode"), (.var "shared")])])] B[]) (
  .cons (.ifS B[(.define ["err"] E[(.mcall (.var "ctx") "Err" E[])])] (.bin "!=" (.var "err") (.var "nil")) B[
    (.ret E[(.str ""), (.call "fmt.Errorf" E[(.str "run: context cancelled: %w"), (.var "err")])])] B[]) (
  .cons (.define ["prepResult", "err"] E[(.mcall (.var "node") "Prep" E[(.var "ctx"), (.var "shared")])]) (
  .cons (.ifS B[] (.bin "!=" (.var "err") (.var "nil")) B[
    (.ret E[(.str ""), (.call "fmt.Errorf" E[(.str "run: prep failed: %w"), (.var "err")])])] B[]) (
  .cons (.ifS B[(.define ["err"] E[(.mcall (.var "ctx") "Err" E[])])] (.bin "!=" (.var "err") (.var "nil")) B[
    (.ret E[(.str ""), (.call "fmt.Errorf" E[(.str "run: context cancelled after prep: %w"), (.var "err")])])] B[]) (
  .cons (.define ["maxRetries"] E[(.int 1)]) (
  .cons (.define ["wait"] E[(.int 0)]) (
  .cons (.ifS B[(.define ["retryable", "ok"] E[(.assert (.var "node") "RetryableNode")])] (.var "ok") B[
    (.assign E[(.var "maxRetries")] E[(.mcall (.var "retryable") "GetMaxRetries" E[])]),
    (.assign E[(.var "wait")] E[(.mcall (.var "retryable") "GetWait" E[])])] B[]) (
  .cons (.declare "execResult" "any") (
  .cons (.declare "execErr" "error") tailBlock)))))))))) := rfl

def envL (ee er : GV) (wI m : Int) (pv : GV) (sid : StoreId) (n : NodeId) : GoIR.Env :=
  [("execErr", ee), ("execResult", er), ("wait", .int wI), ("maxRetries", .int m), ("err", .nil), ("prepResult", pv),
   ("shared", .ref "store" sid), ("node", .node n), ("ctx", .ref "ctx" 0)]

/-- the locals inside the retry loop -/
def envA (a : Int) (ee er : GV) (wI m : Int) (pv : GV) (sid : StoreId) (n : NodeId) : GoIR.Env :=
  ("attempt", .int a) :: envL ee er wI m pv sid n

def lastGV : Option Nat → GV
  | none => .nil
  | some e => .err (.user e)

def LoopRes (res : Option (Ctl × St LeafW)) (wI m : Int) (pv : GV) (sid : StoreId) (n : NodeId) (evs0 : List Ev) :
    List Ev × Ctx × AttemptRes → Prop
  | (evs, ctx', .ok r) => ∃ gv c, res = some (.next, ⟨envL .nil gv wI m pv sid n, [], ⟨evs0 ++ evs, ctx', c⟩⟩) ∧ gv.toVal = r
  | (evs, ctx', .failed e) => ∃ gv c, res = some (.next, ⟨envL (.err (.user e)) gv wI m pv sid n, [], ⟨evs0 ++ evs, ctx', c⟩⟩)
  | (evs, ctx', .cancelled kd) => ∃ env c, res = some (.ret [.str "", .err (.ctx kd)], ⟨env, [], ⟨evs0 ++ evs, ctx', c⟩⟩)

theorem LoopRes_shift {res wI m pv sid n evs0 pre} {A : List Ev × Ctx × AttemptRes}
    (h : LoopRes res wI m pv sid n (evs0 ++ pre) A) : LoopRes res wI m pv sid n evs0 (pre ++ A.1, A.2.1, A.2.2) := by
  obtain ⟨evs, c, r⟩ := A
  cases r <;> simpa [LoopRes, List.append_assoc] using h

theorem fb_ne1 : (FbKind.passThrough != FbKind.absent) = true := by decide
theorem fb_ne2 : (FbKind.custom != FbKind.absent) = true := by decide

theorem toVal_ofVal (x : Val) : (GV.ofVal x).toVal = x := by
  cases x <;> simp [GV.ofVal, Val.asResult?, GV.toVal, Result.box]

macro "gosimp" " [" ts:Lean.Parser.Tactic.simpLemma,* "]" : tactic =>
  `(tactic| simp [block_nil, block_cons, stmt_define, stmt_declare, stmt_assign, stmt_if, stmt_for, stmt_select, stmt_ret_nil, stmt_ret_cons,
      stmt_brk, stmt_incr, expr_var, expr_str, expr_int, expr_and, expr_bin, expr_call, expr_mcall, args_nil, args_one, args_cons,
      guards_nil, guards_recv,
      evalRhs, isCommaOk, evalCommaOk, Env.get, Env.set, Env.push, Env.pushAll,
      popSt, Env.popTo, ctxErrGV, GV.eqv, GV.isNil, errorf, assignAll, assignTo, zeroOf, Exprs.length, Exprs.toList, intBin, nthBody, Cases.ofList,
      cw1, cw2, cw3, cw4, cw5, cw6, cw7, fb_ne1, fb_ne2, $ts,*])

section loopSteps
variable {Ω : Type} (W : World Ω) (sid : StoreId) (n : NodeId)
  (f : Nat) (a : Int) (ee er : GV) (wI m : Int) (pv : GV) (h : Heap) (w : Ω)

theorem cond_spec :
    evalExpr W (f + 2) loopCond ⟨envA a ee er wI m pv sid n, h, w⟩
      = some ([.bool (decide (a < m))], ⟨envA a ee er wI m pv sid n, h, w⟩) := by
  gosimp [loopCond, envA, envL]

theorem incr_spec :
    execBlock W (f + 2) loopPost ⟨envA a ee er wI m pv sid n, h, w⟩
      = some (.next, ⟨envA (a + 1) ee er wI m pv sid n, h, w⟩) := by
  gosimp [loopPost, envA, envL]

theorem ctxCheck_spec (c : Ctx) (hErr : W.mcall (.ref "ctx" 0) "Err" [] h w = some ([ctxErrGV c], h, w)) :
    execStmt W (f + 10) (ctxCheckS "run: context cancelled during retry: %w") ⟨envA a ee er wI m pv sid n, h, w⟩ =
      match c with
      | .live => some (.next, ⟨envA a ee er wI m pv sid n, h, w⟩)
      | .done k => some (.ret [.str "", .err (.ctx k)], ⟨envA a ee er wI m pv sid n, h, w⟩) := by
  cases c <;> gosimp [ctxCheckS, envA, envL, hErr]

theorem wait_first :
    execStmt W (f + 12) waitS ⟨envA 0 ee er wI m pv sid n, h, w⟩
      = some (.next, ⟨envA 0 ee er wI m pv sid n, h, w⟩) := by
  gosimp [waitS, envA, envL]

variable (h' : Heap) (w' : Ω) (r : GV)

theorem exec_step (e : GV) (hcall : W.mcall (.node n) "Exec" [.ref "ctx" 0, pv] h w = some ([r, e], h', w')) :
    execStmt W (f + 6) execAssignS ⟨envA a ee er wI m pv sid n, h, w⟩
      = some (.next, ⟨envA a e r wI m pv sid n, h', w'⟩) := by
  gosimp [execAssignS, envA, envL, hcall]

theorem brk_nil :
    execStmt W (f + 5) brkS ⟨envA a .nil er wI m pv sid n, h, w⟩
      = some (.brk, ⟨envA a .nil er wI m pv sid n, h, w⟩) := by
  gosimp [brkS, envA, envL]

theorem brk_err (e : ErrRoot) :
    execStmt W (f + 5) brkS ⟨envA a (.err e) er wI m pv sid n, h, w⟩
      = some (.next, ⟨envA a (.err e) er wI m pv sid n, h, w⟩) := by
  gosimp [brkS, envA, envL]

theorem popSt_envA :
    popSt (⟨envA a ee er wI m pv sid n, h, w⟩ : St Ω) 9 = ⟨envL ee er wI m pv sid n, h, w⟩ := rfl

theorem popSt_envA_length (a' : Int) (ee' er' : GV) :
    popSt (⟨envA a ee er wI m pv sid n, h, w⟩ : St Ω) (envA a' ee' er' wI m pv sid n).length
      = ⟨envA a ee er wI m pv sid n, h, w⟩ := rfl

theorem for_spec :
    execStmt W (f + 31) (.forS B[(.define ["attempt"] E[(.int 0)])] loopCond loopPost loopBody) ⟨envL ee er wI m pv sid n, h, w⟩
      = (loopFor W (f + 30) loopCond loopPost loopBody ⟨envA 0 ee er wI m pv sid n, h, w⟩).map
          fun (c, st2) => (c, popSt st2 9) := by
  gosimp [envA, envL]

theorem fb_skip :
    execStmt W (f + 19) fbStmt ⟨envL .nil er wI m pv sid n, h, w⟩ = some (.next, ⟨envL .nil er wI m pv sid n, h, w⟩) := by
  gosimp [fbStmt, envL]

variable (e : ErrRoot) (fbv : GV)

theorem fb_none (has : W.assert (.node n) "FallbackNode" w = some (fbv, false)) :
    ∃ env, execStmt W (f + 19) fbStmt ⟨envL (.err e) er wI m pv sid n, h, w⟩
      = some (.ret [.str "", .err e], ⟨env, h, w⟩) := by
  gosimp [fbStmt, envL, has]

variable (has : W.assert (.node n) "FallbackNode" w = some (fbv, true))
include has

theorem fb_err (e' : ErrRoot) (hcall : W.mcall fbv "ExecFallback" [pv, .err e] h w = some ([r, .err e'], h', w')) :
    ∃ env, execStmt W (f + 19) fbStmt ⟨envL (.err e) er wI m pv sid n, h, w⟩
      = some (.ret [.str "", .err e'], ⟨env, h', w'⟩) := by
  gosimp [fbStmt, envL, has, hcall]

theorem fb_ok (hcall : W.mcall fbv "ExecFallback" [pv, .err e] h w = some ([r, .nil], h', w')) :
    execStmt W (f + 19) fbStmt ⟨envL (.err e) er wI m pv sid n, h, w⟩
      = some (.next, ⟨envL .nil r wI m pv sid n, h', w'⟩) := by
  gosimp [fbStmt, envL, has, hcall]

omit has
variable (x : String)

theorem post_err (hcall : W.mcall (.node n) "Post" [.ref "ctx" 0, .ref "store" sid, pv, er] h w = some ([.str x, .err e], h', w')) :
    ∃ env, execBlock W (f + 19) postBlock ⟨envL ee er wI m pv sid n, h, w⟩
      = some (.ret [.str "", .err e], ⟨env, h', w'⟩) := by
  gosimp [postBlock, envL, hcall]

theorem post_ok (hcall : W.mcall (.node n) "Post" [.ref "ctx" 0, .ref "store" sid, pv, er] h w = some ([.str x, .nil], h', w'))
    (hg : W.global "DefaultAction" = some (.str defaultAction)) :
    ∃ env, execBlock W (f + 19) postBlock ⟨envL ee er wI m pv sid n, h, w⟩
      = some (.ret [.str (norm x), .nil], ⟨env, h', w'⟩) := by
  by_cases hx : x = ""
  · gosimp [postBlock, envL, hcall, hg, hx, norm]
  · have hb : (x == "") = false := by simp [hx]
    gosimp [postBlock, envL, hcall, hg, hx, hb, norm]
end loopSteps

/-- the locals `Run` starts with -/
@[reducible] def env0 (sid : StoreId) (n : NodeId) : GoIR.Env :=
  [("shared", .ref "store" sid), ("node", .node n), ("ctx", .ref "ctx" 0)]

/-- `Run` up to the retry loop, in any world where the node is no batch node: `c` is the context at the start, `pv`, `e` what `Prep`
    returns, `c'` the context after it, `rt`, `mr`, `wt` the node's retry settings -/
theorem prefix_spec {Ω : Type} (W : World Ω) (sid : StoreId) (n : NodeId) (f : Nat) (h h' : Heap) (w w' : Ω)
    (c c' : Ctx) (pv : GV) (e : Option ErrRoot) (rt : Bool) (mr wt : Nat)
    (has1 : W.assert (.node n) "*BatchNode" w = some (.nil, false))
    (has2 : W.assert (.node n) "*BatchNodeBuilder" w = some (.nil, false))
    (hErr : W.mcall (.ref "ctx" 0) "Err" [] h w = some ([ctxErrGV c], h, w))
    (hcall : W.mcall (.node n) "Prep" [.ref "ctx" 0, .ref "store" sid] h w = some ([pv, e.elim .nil .err], h', w'))
    (hErr' : W.mcall (.ref "ctx" 0) "Err" [] h' w' = some ([ctxErrGV c'], h', w'))
    (hret : W.assert (.node n) "RetryableNode" w' = some (.node n, rt))
    (hm : W.mcall (.node n) "GetMaxRetries" [] h' w' = some ([.int mr], h', w'))
    (hw : W.mcall (.node n) "GetWait" [] h' w' = some ([.int wt], h', w')) :
    ∃ env, execBlock W (f + 43) Flyt.Expected.IR.Run.body ⟨env0 sid n, h, w⟩ =
      match c, e, c' with
      | .done k, _, _ => some (.ret [.str "", .err (.ctx k)], ⟨env, h, w⟩)
      | .live, some u, _ => some (.ret [.str "", .err u], ⟨env, h', w'⟩)
      | .live, none, .done k => some (.ret [.str "", .err (.ctx k)], ⟨env, h', w'⟩)
      | .live, none, .live => execBlock W (f + 32) tailBlock
          ⟨envL .nil (.val Val.nil) (if rt then wt else 0 : Nat) (if rt then mr else 1 : Nat) pv sid n, h', w'⟩ := by
  cases c with
  | done k => gosimp [Run_body, has1, has2, hErr]
  | live =>
    cases e with
    | some u => gosimp [Run_body, has1, has2, hErr, hcall]
    | none =>
      cases c' with
      | done k => gosimp [Run_body, has1, has2, hErr, hcall, hErr']
      | live => cases rt <;> gosimp [Run_body, envL, has1, has2, hErr, hcall, hErr', hret, hm, hw]

section leaf
variable (kind : CtxKind) (n : NodeId) (v : Nat) (sid : StoreId) (cfg : LeafCfg) (scr : LeafScript)
local notation "W" => leafWorld kind n v cfg scr

@[simp] theorem w_after (d : Int) (h : Heap) (w : LeafW) :
    (W).call "time.After" [.int d] h w = some ([.ref "timer" d.toNat], h, w) := rfl
@[simp] theorem w_err (i : Nat) (h : Heap) (w : LeafW) :
    (W).mcall (.ref "ctx" i) "Err" [] h w = some ([ctxErrGV w.ctx], h, w) := rfl
@[simp] theorem w_done (i : Nat) (h : Heap) (w : LeafW) :
    (W).mcall (.ref "ctx" i) "Done" [] h w = some ([.ref "done" 0], h, w) := rfl
@[simp] theorem w_maxr (i : Nat) (h : Heap) (w : LeafW) :
    (W).mcall (.node i) "GetMaxRetries" [] h w = some ([.int cfg.budget], h, w) := rfl
@[simp] theorem w_wait (i : Nat) (h : Heap) (w : LeafW) :
    (W).mcall (.node i) "GetWait" [] h w = some ([.int cfg.wait], h, w) := rfl

theorem w_prep (i : Nat) (a : GV) (sid : Nat) (h : Heap) (w : LeafW) :
    (W).mcall (.node i) "Prep" [a, .ref "store" sid] h w =
      if cfg.prepS = .absent then some ([.nil, .nil], h, w)
      else match scr.prep.res with
        | .ok x => some ([GV.ofVal (prepRet cfg.prepS x), .nil], h,
            { w with evs := w.evs ++ [.prep n v sid], ctx := w.ctx.after kind scr.prep.cancels })
        | .error e => some ([.nil, .err (.user e)], h,
            { w with evs := w.evs ++ [.prep n v sid], ctx := w.ctx.after kind scr.prep.cancels }) := by
  obtain ⟨_, _, _, _, s, _, _⟩ := cfg
  cases s <;> rfl
theorem w_prep_absent (hs : cfg.prepS = .absent) (i : Nat) (a sh : GV) (h : Heap) (w : LeafW) :
    (W).mcall (.node i) "Prep" [a, sh] h w = some ([.nil, .nil], h, w) := by
  obtain ⟨_, _, _, _, s, _, _⟩ := cfg
  cases hs
  rfl

theorem w_exec (i : Nat) (a pv : GV) (h : Heap) (w : LeafW) :
    (W).mcall (.node i) "Exec" [a, pv] h w =
      if cfg.execS = .absent then some ([.nil, .nil], h, w)
      else match (scr.exec w.execCalls).res with
        | .ok x => some ([GV.ofVal (execRet cfg.execS x), .nil], h,
            { w with evs := w.evs ++ [.exec n v w.execCalls (execArg cfg.execS pv.toVal)],
                     ctx := w.ctx.after kind (scr.exec w.execCalls).cancels, execCalls := w.execCalls + 1 })
        | .error e => some ([.nil, .err (.user e)], h,
            { w with evs := w.evs ++ [.exec n v w.execCalls (execArg cfg.execS pv.toVal)],
                     ctx := w.ctx.after kind (scr.exec w.execCalls).cancels, execCalls := w.execCalls + 1 }) := by
  obtain ⟨_, _, _, _, _, s, _⟩ := cfg
  cases s <;> rfl
theorem w_exec_absent (hs : cfg.execS = .absent) (i : Nat) (a pv : GV) (h : Heap) (w : LeafW) :
    (W).mcall (.node i) "Exec" [a, pv] h w = some ([.nil, .nil], h, w) := by
  rw [w_exec, if_pos hs]

theorem w_fb (i : Nat) (pv : GV) (e : ErrRoot) (h : Heap) (w : LeafW) :
    (W).mcall (.node i) "ExecFallback" [pv, .err e] h w =
      match cfg.fb with
      | .absent => none
      | .passThrough => some ([.nil, .err e], h, w)
      | .custom =>
        match scr.fb.res with
        | .ok x => some ([GV.ofVal x, .nil], h,
            { w with evs := w.evs ++ [.fb n v pv.toVal e], ctx := w.ctx.after kind scr.fb.cancels })
        | .error e' => some ([.nil, .err (.user e')], h,
            { w with evs := w.evs ++ [.fb n v pv.toVal e], ctx := w.ctx.after kind scr.fb.cancels }) := rfl
theorem w_fb_pass (hs : cfg.fb = .passThrough) (i : Nat) (pv : GV) (e : ErrRoot) (h : Heap) (w : LeafW) :
    (W).mcall (.node i) "ExecFallback" [pv, .err e] h w = some ([.nil, .err e], h, w) := by
  rw [w_fb, hs]

theorem w_post (i : Nat) (a pv ev : GV) (sid : Nat) (h : Heap) (w : LeafW) :
    (W).mcall (.node i) "Post" [a, .ref "store" sid, pv, ev] h w =
      if cfg.postS = .absent then some ([.str defaultAction, .nil], h, w)
      else match scr.post.res with
        | .ok x => some ([.str x, .nil], h,
            { w with evs := w.evs ++ [.post n v sid (postArgs cfg.postS pv.toVal ev.toVal).1 (postArgs cfg.postS pv.toVal ev.toVal).2],
                     ctx := w.ctx.after kind scr.post.cancels })
        | .error e => some ([.str (scr.post.junk.getD ""), .err (.user e)], h,
            { w with evs := w.evs ++ [.post n v sid (postArgs cfg.postS pv.toVal ev.toVal).1 (postArgs cfg.postS pv.toVal ev.toVal).2],
                     ctx := w.ctx.after kind scr.post.cancels }) := by
  obtain ⟨_, _, _, _, _, _, s⟩ := cfg
  cases s <;> rfl
theorem w_post_absent (hs : cfg.postS = .absent) (i : Nat) (a sh pv ev : GV) (h : Heap) (w : LeafW) :
    (W).mcall (.node i) "Post" [a, sh, pv, ev] h w = some ([.str defaultAction, .nil], h, w) := by
  obtain ⟨_, _, _, _, _, _, s⟩ := cfg
  cases hs
  rfl

@[simp] theorem w_as_retry (i : Nat) (w : LeafW) :
    (W).assert (.node i) "RetryableNode" w = some (.node i, cfg.retryable) := rfl
@[simp] theorem w_as_fb (i : Nat) (w : LeafW) :
    (W).assert (.node i) "FallbackNode" w = some (.node i, cfg.fb != .absent) := rfl
@[simp] theorem w_as_bn (i : Nat) (w : LeafW) :
    (W).assert (.node i) "*BatchNode" w = some (.nil, false) := rfl
@[simp] theorem w_as_bnb (i : Nat) (w : LeafW) :
    (W).assert (.node i) "*BatchNodeBuilder" w = some (.nil, false) := rfl
@[simp] theorem w_global : (W).global "DefaultAction" = some (.str defaultAction) := rfl

theorem w_select (d j : Nat) (w : LeafW) :
    (W).select [.ref "timer" d, .ref "done" j] w =
      match w.ctx with
      | .done _ => some (1, w)
      | .live =>
        if scr.waitCancel w.execCalls then
          some (1, { w with evs := w.evs ++ [.wait n v w.execCalls d false], ctx := .done kind })
        else some (0, { w with evs := w.evs ++ [.wait n v w.execCalls d true] }) := rfl
theorem w_sel_done (d j : Nat) (w : LeafW) {k : CtxKind} (hc : w.ctx = .done k) :
    (W).select [.ref "timer" d, .ref "done" j] w = some (1, w) := by
  rw [w_select, hc]

theorem cond_unfold (f : Nat) (st : St LeafW) :
    evalExpr W f loopCond st = evalExpr W f (.bin "<" (.var "attempt") (.var "maxRetries")) st := rfl
theorem post_unfold (f : Nat) (st : St LeafW) :
    execBlock W f loopPost st = execBlock W f B[(.incr "attempt")] st := rfl
theorem body_unfold (f : Nat) (st : St LeafW) :
    execBlock W f loopBody st = execBlock W f B[
    (.ifS B[(.define ["err"] E[(.mcall (.var "ctx") "Err" E[])])] (.bin "!=" (.var "err") (.var "nil")) B[
      (.ret E[(.str ""), (.call "fmt.Errorf" E[(.str "run: context cancelled during retry: %w"), (.var "err")])])] B[]),
    (.ifS B[] (.bin "&&" (.bin ">" (.var "attempt") (.int 0)) (.bin ">" (.var "wait") (.int 0))) B[
      (.selectS (Cases.ofList [
        ((.un "<-" (.call "time.After" E[(.var "wait")])), B[]),
        ((.un "<-" (.mcall (.var "ctx") "Done" E[])), B[
          (.ret E[(.str ""), (.call "fmt.Errorf" E[(.str "run: context cancelled during wait: %w"), (.mcall (.var "ctx") "Err" E[])])])])]))] B[]),
    (.assign E[(.var "execResult"), (.var "execErr")] E[(.mcall (.var "node") "Exec" E[(.var "ctx"), (.var "prepResult")])]),
    (.ifS B[] (.bin "==" (.var "execErr") (.var "nil")) B[
      .brk] B[])] st := rfl

theorem wait_spec (f k wt : Nat) (ee er : GV) (m : Int) (pv : GV) (evs : List Ev) :
    execStmt W (f + 12) waitS ⟨envA k ee er wt m pv sid n, [], ⟨evs, .live, k⟩⟩ =
      if k > 0 ∧ wt > 0 ∧ scr.waitCancel k then
        some (.ret [.str "", .err (.ctx kind)],
          ⟨envA k ee er wt m pv sid n, [], ⟨evs ++ [.wait n v k wt false], .done kind, k⟩⟩)
      else
        some (.next, ⟨envA k ee er wt m pv sid n, [],
          ⟨evs ++ (if k > 0 ∧ wt > 0 then [.wait n v k wt true] else []), .live, k⟩⟩) := by
  rcases Nat.eq_zero_or_pos k with hk | hk
  · subst hk; simp [wait_first]
  · have hk' : (0 : Int) < (k : Int) := by omega
    rcases Nat.eq_zero_or_pos wt with hw | hw
    · subst hw; gosimp [waitS, envA, envL, hk, hk']
    · have hw' : (0 : Int) < (wt : Int) := by omega
      cases hc : scr.waitCancel k <;> gosimp [waitS, envA, envL, hk, hk', hw, hw', hc, w_select]

theorem loop_spec (wt : Nat) (pv : GV) (rem : Nat) :
    ∀ (k : Nat) (m : Int) (_ : m = k + rem) (lastN : Option Nat) (er : GV) (_ : er.toVal = Val.nil)
      (evs0 : List Ev) (ctx : Ctx),
    LoopRes ((loopFor W (rem + 30) loopCond loopPost loopBody
                ⟨envA k (lastGV lastN) er wt m pv sid n, [], ⟨evs0, ctx, k⟩⟩).map
              (fun (c, st2) => (c, popSt st2 9)))
      wt m pv sid n evs0
      (attempts kind (fun k => .exec n v k (execArg cfg.execS pv.toVal)) (fun k f => .wait n v k wt f)
        scr.exec scr.waitCancel cfg.execS wt k rem lastN ctx) := by
  induction rem with
  | zero =>
    intro k m hm lastN er her evs0 ctx
    have hlt : ¬ ((k : Int) < m) := by omega
    rw [loopFor_succ, cond_spec]
    simp only [hlt, decide_false, Option.map, popSt_envA, attempts]
    cases lastN
    · exact ⟨_, _, by rw [List.append_nil]; rfl, her⟩
    · exact ⟨_, _, by rw [List.append_nil]; rfl⟩
  | succ rem ih =>
    intro k m hm lastN er her evs0 ctx
    have hlt : (k : Int) < m := by omega
    rw [show rem + 1 + 30 = (rem + 30) + 1 by omega, loopFor_succ, cond_spec]
    simp only [hlt, decide_true, loopBody_eq, block_cons, ctxCheck_spec (W) sid n _ _ _ _ _ _ _ _ _ _ (w_err kind n v cfg scr 0 _ _)]
    cases ctx with
    | done kd =>
      simp only [Option.map, popSt_envA_length, popSt_envA, attempts, LoopRes, List.append_nil]
      exact ⟨_, _, rfl⟩
    | live =>
      simp only [wait_spec, attempts]
      by_cases hc : k > 0 ∧ wt > 0 ∧ scr.waitCancel k = true
      · simp only [if_pos hc, Option.map, popSt_envA_length, popSt_envA]
        exact ⟨_, _, rfl⟩
      · simp only [if_neg hc]
        generalize (if k > 0 ∧ wt > 0 then [Ev.wait n v k wt true] else []) = wev
        cases hs : cfg.execS
        · rw [exec_step (W) sid n (hcall := by rw [w_exec, if_pos hs])]
          simp only [brk_nil, Option.map, popSt_envA_length, popSt_envA]
          exact ⟨_, _, rfl, rfl⟩
        all_goals
          have hs' : cfg.execS ≠ .absent := by simp [hs]
          cases hx : (scr.exec k).res with
          | ok x =>
            rw [exec_step (W) sid n (hcall := by rw [w_exec, if_neg hs', hx])]
            simp only [brk_nil, Option.map, popSt_envA_length, popSt_envA, List.append_assoc, hs]
            exact ⟨_, _, rfl, toVal_ofVal _⟩
          | error e =>
            rw [exec_step (W) sid n (hcall := by rw [w_exec, if_neg hs', hx])]
            simp only [brk_err, block_nil, popSt_envA_length, incr_spec, hs]
            rw [List.append_assoc evs0 wev]
            have ih' := ih (k + 1) m (by omega) (some e) .nil rfl
              (evs0 ++ (wev ++ [Ev.exec n v k (execArg cfg.execS pv.toVal)])) (Ctx.live.after kind (scr.exec k).cancels)
            rw [hs, Int.natCast_succ] at ih'
            exact LoopRes_shift ih'

/-- the model's post phase, given the events so far -/
def postM (pvV : Val) (evs : List Ev) (ctx3 : Ctx) (ev : Val) : List Ev × Ctx × Outcome :=
  if cfg.postS = .absent then (evs, ctx3, .ok defaultAction)
  else
    match scr.post.res with
    | .error e => (evs ++ [.post n v sid (postArgs cfg.postS pvV ev).1 (postArgs cfg.postS pvV ev).2], ctx3.after kind scr.post.cancels, .err (.user e))
    | .ok a => (evs ++ [.post n v sid (postArgs cfg.postS pvV ev).1 (postArgs cfg.postS pvV ev).2], ctx3.after kind scr.post.cancels, .ok (norm a))

/-- the model after the retry loop -/
def tailM (pvV : Val) (evs : List Ev) (ctx2 : Ctx) (ares : AttemptRes) : List Ev × Ctx × Outcome :=
  match fallbackPhase kind cfg.fb (fun e => .fb n v pvV (.user e)) scr.fb ctx2 ares with
  | (fev, ctx3, .error e) => (evs ++ fev, ctx3, .err e)
  | (fev, ctx3, .ok ev) => postM kind n v sid cfg scr pvV (evs ++ fev) ctx3 ev

def FinalRes (res : Option (Ctl × St LeafW)) (out : List Ev × Ctx × Outcome) : Prop :=
  ∃ rs env c, res = some (.ret rs, ⟨env, [], ⟨out.1, out.2.1, c⟩⟩) ∧ outcomeOf rs = some out.2.2

theorem post_spec (f : Nat) (ee gv : GV) (wI m : Int) (pv : GV) (evs : List Ev) (ctx : Ctx) (c : Nat) :
    FinalRes (execBlock W (f + 19) postBlock ⟨envL ee gv wI m pv sid n, [], ⟨evs, ctx, c⟩⟩)
      (postM kind n v sid cfg scr pv.toVal evs ctx gv.toVal) := by
  have hcall := w_post kind n v cfg scr n (.ref "ctx" 0) pv gv sid [] ⟨evs, ctx, c⟩
  unfold postM
  by_cases hs : cfg.postS = .absent
  · rw [if_pos hs] at hcall ⊢
    obtain ⟨env, hE⟩ := post_ok (W) sid n f ee gv wI m pv [] _ _ _ _ hcall (w_global kind n v cfg scr)
    exact ⟨_, env, c, hE, rfl⟩
  · rw [if_neg hs] at hcall ⊢
    cases hx : scr.post.res with
    | error e =>
      rw [hx] at hcall
      obtain ⟨env, hE⟩ := post_err (W) sid n f ee gv wI m pv [] _ _ _ _ _ hcall
      exact ⟨_, env, c, hE, rfl⟩
    | ok a =>
      rw [hx] at hcall
      obtain ⟨env, hE⟩ := post_ok (W) sid n f ee gv wI m pv [] _ _ _ _ hcall (w_global kind n v cfg scr)
      exact ⟨_, env, c, hE, rfl⟩

theorem suffix_ok (f : Nat) (gv : GV) (r : Val) (hgv : gv.toVal = r) (wI m : Int) (pv : GV) (evs : List Ev) (ctx : Ctx) (c : Nat) :
    FinalRes (execBlock W (f + 20) suffix ⟨envL .nil gv wI m pv sid n, [], ⟨evs, ctx, c⟩⟩)
      (tailM kind n v sid cfg scr pv.toVal evs ctx (.ok r)) := by
  rw [suffix, block_cons, fb_skip]
  subst hgv
  simpa [tailM, fallbackPhase] using post_spec kind n v sid cfg scr f .nil gv wI m pv evs ctx c

theorem suffix_failed (f : Nat) (gv : GV) (e : Nat) (wI m : Int) (pv : GV) (evs : List Ev) (ctx : Ctx) (c : Nat) :
    FinalRes (execBlock W (f + 20) suffix ⟨envL (.err (.user e)) gv wI m pv sid n, [], ⟨evs, ctx, c⟩⟩)
      (tailM kind n v sid cfg scr pv.toVal evs ctx (.failed e)) := by
  have has := w_as_fb kind n v cfg scr n ⟨evs, ctx, c⟩
  have hcall := w_fb kind n v cfg scr n pv (.user e) [] ⟨evs, ctx, c⟩
  rw [suffix, block_cons]
  cases hfb : cfg.fb <;> rw [hfb] at has hcall <;> simp only [tailM, fallbackPhase, hfb, List.append_nil]
  · obtain ⟨env, hE⟩ := fb_none (W) sid n f gv wI m pv [] _ (.user e) _ has
    rw [hE]
    exact ⟨_, env, c, rfl, rfl⟩
  · obtain ⟨env, hE⟩ := fb_err (W) sid n f gv wI m pv [] _ _ _ _ (.user e) _ has _ hcall
    rw [hE]
    exact ⟨_, env, c, rfl, rfl⟩
  · cases hx : scr.fb.res <;> rw [hx] at hcall
    · obtain ⟨env, hE⟩ := fb_err (W) sid n f gv wI m pv [] _ _ _ _ (.user e) _ has _ hcall
      rw [hE]
      exact ⟨_, env, c, rfl, rfl⟩
    · rw [fb_ok (W) sid n f gv wI m pv [] _ _ _ _ (.user e) _ has hcall]
      simpa [toVal_ofVal] using post_spec kind n v sid cfg scr f .nil (GV.ofVal _) wI m pv _ _ c

/-- the model from the retry loop on: `pvV` is what the prep phase returned, `pev` what it recorded -/
def loopM (pvV : Val) (pev : List Ev) : List Ev × Ctx × Outcome :=
  match attempts kind (fun k => .exec n v k (execArg cfg.execS pvV)) (fun k f => .wait n v k cfg.effWait f)
      scr.exec scr.waitCancel cfg.execS cfg.effWait 0 cfg.effBudget none .live with
  | (aev, ctx2, ares) => tailM kind n v sid cfg scr pvV (pev ++ aev) ctx2 ares

theorem tail_spec (pv : GV) (pev : List Ev) :
    FinalRes (execBlock W (cfg.effBudget + 32) tailBlock
        ⟨envL .nil (.val Val.nil) cfg.effWait cfg.effBudget pv sid n, [], ⟨pev, .live, 0⟩⟩)
      (loopM kind n v sid cfg scr pv.toVal pev) := by
  have hl := loop_spec kind n v sid cfg scr cfg.effWait pv cfg.effBudget 0 cfg.effBudget (by simp) none (.val Val.nil) rfl pev .live
  rw [tailBlock, block_cons, for_spec, loopM]
  generalize attempts _ _ _ _ _ _ _ _ _ _ _ = A at hl ⊢
  obtain ⟨aev, ctx2, ares⟩ := A
  cases ares with
  | ok r =>
    obtain ⟨gv, c, hres, hgv⟩ := hl
    erw [hres]
    exact suffix_ok kind n v sid cfg scr _ gv r hgv _ _ pv (pev ++ aev) ctx2 c
  | failed e =>
    obtain ⟨gv, c, hres⟩ := hl
    erw [hres]
    exact suffix_failed kind n v sid cfg scr _ gv e _ _ pv (pev ++ aev) ctx2 c
  | cancelled kd =>
    obtain ⟨env, c, hres⟩ := hl
    erw [hres]
    refine ⟨[.str "", .err (.ctx kd)], env, c, ?_, rfl⟩
    simp [tailM, fallbackPhase]

theorem runLeafIR_of_final (F : Nat) (ctx : Ctx) (out : List Ev × Ctx × Outcome)
    (h : FinalRes (execBlock W F Flyt.Expected.IR.Run.body ⟨env0 sid n, [], ⟨[], ctx, 0⟩⟩) out) :
    runLeafIR F Flyt.Expected.IR.Run kind n v sid cfg scr ctx = some out := by
  obtain ⟨rs, env, c, h, ho⟩ := h
  unfold runLeafIR callFunc
  have hn : Env.pushAll [] ((if Flyt.Expected.IR.Run.recv == "" then [] else [Flyt.Expected.IR.Run.recv]) ++ Flyt.Expected.IR.Run.params)
      [ctxH, .node n, storeH sid] = some (env0 sid n) := rfl
  simp only [hn, h, ho, Option.map]

theorem after_live_false : Ctx.live.after kind false = .live := rfl
theorem after_live_true : Ctx.live.after kind true = .done kind := rfl

/-- the model's prep phase -/
def prepM (ctx : Ctx) : List Ev × Ctx × Except Nat Val :=
  match cfg.prepS with
  | .absent => ([], ctx, .ok Val.nil)
  | s => ([.prep n v sid], ctx.after kind scr.prep.cancels, scr.prep.res.map (prepRet s))

theorem runLeaf_live :
    runLeaf kind n v sid cfg scr .live =
      match prepM kind n v sid cfg scr .live with
      | (pev, ctx1, .error e) => (pev, ctx1, .err (.user e))
      | (pev, .done k, .ok _) => (pev, .done k, .err (.ctx k))
      | (pev, .live, .ok pv) => loopM kind n v sid cfg scr pv pev := by
  cases hs : cfg.prepS
  all_goals
    cases hx : scr.prep.res
    all_goals
      cases hc : scr.prep.cancels
      all_goals simp only [runLeaf, prepM, loopM, tailM, hs, hx, hc, Except.map, after_live_false, after_live_true]
  all_goals
    generalize attempts _ _ _ _ _ _ _ _ _ _ _ = A
    obtain ⟨aev, ctx2, ares⟩ := A
    generalize fallbackPhase _ _ _ _ _ _ = Fb
    obtain ⟨fev, ctx3, eres⟩ := Fb
    cases eres with
    | error e => simp
    | ok ev => cases hp : cfg.postS <;> simp [postM, hp] <;> cases hy : scr.post.res <;> simp

theorem w_prep_spec (ctx : Ctx) :
    ∃ pv e, (W).mcall (.node n) "Prep" [.ref "ctx" 0, .ref "store" sid] [] ⟨[], ctx, 0⟩
        = some ([pv, e.elim .nil .err], [], ⟨(prepM kind n v sid cfg scr ctx).1, (prepM kind n v sid cfg scr ctx).2.1, 0⟩) ∧
      match (prepM kind n v sid cfg scr ctx).2.2 with
      | .ok x => pv.toVal = x ∧ e = none
      | .error u => e = some (.user u) := by
  rw [w_prep, prepM]
  cases hs : cfg.prepS
  · exact ⟨.nil, none, rfl, rfl, rfl⟩
  all_goals
    rw [if_neg (by simp)]
    cases hx : scr.prep.res
    · exact ⟨_, some _, rfl, rfl⟩
    · exact ⟨_, none, rfl, toVal_ofVal _, rfl⟩

def runFuel (cfg : LeafCfg) : Nat := cfg.effBudget + 43

theorem Run_refines_runLeaf (ctx : Ctx) :
    GoIR.runLeafIR (runFuel cfg) Flyt.Expected.IR.Run kind n v sid cfg scr ctx
      = some (runLeaf kind n v sid cfg scr ctx) := by
  apply runLeafIR_of_final
  obtain ⟨pv, e, hcall, hpe⟩ := w_prep_spec kind n v sid cfg scr ctx
  obtain ⟨env, hE⟩ := prefix_spec (W) sid n cfg.effBudget [] [] _ _ ctx _ pv e cfg.retryable cfg.budget cfg.wait
    (w_as_bn kind n v cfg scr n _) (w_as_bnb kind n v cfg scr n _) (w_err kind n v cfg scr 0 [] _) hcall
    (w_err kind n v cfg scr 0 [] _) (w_as_retry kind n v cfg scr n _) (w_maxr kind n v cfg scr n [] _) (w_wait kind n v cfg scr n [] _)
  rw [runFuel, hE]
  cases ctx with
  | done k => exact ⟨_, env, 0, rfl, rfl⟩
  | live =>
    rw [runLeaf_live]
    generalize prepM kind n v sid cfg scr .live = P at hpe ⊢
    obtain ⟨pev, ctx1, pres⟩ := P
    cases pres with
    | error u => subst hpe; exact ⟨_, env, 0, rfl, rfl⟩
    | ok x =>
      obtain ⟨rfl, rfl⟩ := hpe
      cases ctx1 with
      | done k => exact ⟨_, env, 0, rfl, rfl⟩
      | live => exact tail_spec kind n v sid cfg scr pv pev
end leaf

/-- the refinement holds with any larger recursion depth as well (fuel monotonicity, `Refine/Mono.lean`) -/
theorem Run_refines_runLeaf_of_le (kind : CtxKind) (n : NodeId) (v : Nat) (sid : StoreId) (cfg : LeafCfg)
    (scr : LeafScript) (ctx : Ctx) (fuel : Nat) (h : runFuel cfg ≤ fuel) :
    GoIR.runLeafIR fuel Flyt.Expected.IR.Run kind n v sid cfg scr ctx
      = some (runLeaf kind n v sid cfg scr ctx) :=
  mono_runLeafIR h (Run_refines_runLeaf kind n v sid cfg scr ctx)

end Flyt.Refine
