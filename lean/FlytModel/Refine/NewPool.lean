import FlytModel.GoIR.NewPoolWorld
import FlytModel.Refine.Pool
/-!
# Refinement: the translated `NewWorkerPool` (`Flyt.Expected.IR.NewWorkerPool`, flyt.go:951-968), run by the definitional interpreter
in `newPoolWorld` (`GoIR/NewPoolWorld.lean`), constructs exactly the initial state of the pool model (`Flyt.Pool.init`, `Model/Pool.lean`)

With `w = clamp n = if n ≤ 0 then 1 else n`: for EVERY `n : Int`, every initial ghost state `s` (and heap), every recursion depth
`≥ max 11 (w + 7)` — the least depth at which the run is not stuck, see `GoIR/NewPoolTest.lean` — the run returns the fresh pool handle,
and the events it appends to the ghost trace are EXACTLY `ctorEvents n s.chans s.pools`:

    makeChan "func()" (2 * w)          -- tasks, buffered, capacity 2w    (evaluated first: the literal's fields go left to right)
    makeChan "struct{}" 0              -- done, unbuffered
    newPool w tasks done               -- the pool object, `workers = w`
    spawn p  … (w times)               -- `go p.worker()`, once per worker

and nothing else (the world defines nothing else; the heap is untouched).
-/
namespace Flyt.Refine.NewPool
open Flyt Flyt.GoIR Flyt.GoIR.NewPoolW Flyt.Expected.IR Flyt.Refine Flyt.Refine.Pool
set_option linter.unusedSimpArgs false

section steps
variable {Ω : Type} (W : World Ω)

/-- `go recv.m()`: the receiver is evaluated, the world is told `go:m` -/
theorem stmt_go (f : Nat) (r : Expr) (m : String) (st : St Ω) :
    execStmt W (f + 1) (.goS (.mcall r m .nil)) st =
      (match evalExpr W f r st with
       | some ([x], st1) =>
         (match W.mcall x ("go:" ++ m) [] st1.heap st1.w with
          | some (_, h, w) => some (.next, { st1 with heap := h, w := w })
          | none => none)
       | _ => none) := rfl

/-- `&T{…}` is `T{…}` (objects of the world are references already) -/
theorem expr_addr_lit (f : Nat) (ty : String) (elts : Exprs) (st : St Ω) :
    evalExpr W (f + 1) (.un "&" (.lit ty elts)) st = evalExpr W f (.lit ty elts) st := rfl

theorem expr_lit_world (f : Nat) (ty : String) (elts : Exprs) (st : St Ω) (h1 : ty ≠ "[]Result") (h2 : ty ≠ "Result") :
    evalExpr W (f + 1) (.lit ty elts) st =
      (match evalArgs W f (litValues elts) st with
       | some (vs, st1) =>
         (match W.call ("lit:" ++ ty ++ ":" ++ litKeys elts) vs st1.heap st1.w with
          | some (rs, h, w) => some (rs, { st1 with heap := h, w := w })
          | none => none)
       | none => none) := by
  rw [evalExpr.eq_def]; simp only [beq_eq_false_iff_ne.mpr h1, beq_eq_false_iff_ne.mpr h2, Bool.false_eq_true, if_false]; rfl

theorem expr_make_world (f : Nat) (ty : String) (rest : Exprs) (st : St Ω) (h1 : ty ≠ "[]Result") :
    evalExpr W (f + 1) (.call "make" (.cons (.var ty) rest)) st =
      (match evalArgs W f rest st with
       | some (vs, st1) =>
         (match W.call ("make:" ++ ty) vs st1.heap st1.w with
          | some (rs, h, w) => some (rs, { st1 with heap := h, w := w })
          | none => none)
       | none => none) := by
  rw [evalExpr.eq_def]; simp only [beq_eq_false_iff_ne.mpr h1, Bool.false_eq_true, if_false, show ("make" == "make") = true from by decide, if_true]; rfl
end steps

theorem W_make_tasks (c : Int) (h : Heap) (s : NW) (hc : 0 ≤ c) :
    newPoolWorld.call "make:chan func()" [.int c] h s =
      some ([.ref "chan" s.chans], h, { s with trace := s.trace ++ [.makeChan "func()" c], chans := s.chans + 1 }) := by
  show mkChan "func()" c h s = _
  simp [mkChan, hc, chanH]
theorem W_make_done (h : Heap) (s : NW) :
    newPoolWorld.call "make:chan struct{}" [] h s =
      some ([.ref "chan" s.chans], h, { s with trace := s.trace ++ [.makeChan "struct{}" 0], chans := s.chans + 1 }) := by rfl
theorem W_lit (n : Int) (t d : Nat) (h : Heap) (s : NW) :
    newPoolWorld.call "lit:WorkerPool:workers,tasks,done," [.int n, .ref "chan" t, .ref "chan" d] h s =
      some ([.ref "pool" s.pools], h, { s with trace := s.trace ++ [.newPool n t d], pools := s.pools + 1 }) := by rfl
theorem W_go (p : Nat) (h : Heap) (s : NW) (hp : p < s.pools) :
    newPoolWorld.mcall (.ref "pool" p) "go:worker" [] h s = some ([], h, { s with trace := s.trace ++ [.spawn p] }) := by
  show (if ("go:worker" == "go:worker") = true ∧ p < s.pools then _ else _) = _
  simp [hp]

theorem lit_name : "lit:" ++ "WorkerPool" ++ ":" ++ litKeys poolFields = "lit:WorkerPool:workers,tasks,done," := by decide

macro "npsimp" " [" ts:Lean.Parser.Tactic.simpLemma,* "]" : tactic =>
  `(tactic| gosimp [stmt_go, expr_addr_lit, expr_lit_world, expr_make_world, litValues, litKeys, W_make_done, W_lit, $ts,*])

def loopCond : Expr := .bin "<" (.var "i") (.var "workers")
def loopPost : Block := B[(.incr "i")]
def loopBody : Block := B[(.goS (.mcall (.var "p") "worker" E[]))]

theorem spawnLoop_eq : spawnLoop = .forS B[(.define ["i"] E[(.int 0)])] loopCond loopPost loopBody := rfl

/-- the environment inside the loop -/
def envL (i : Int) (p : Nat) (w : Int) : GoIR.Env := [("i", .int i), ("p", .ref "pool" p), ("workers", .int w)]

/-- loop invariant of `for …; i < workers; i++ { go p.worker() }`: with `k = workers - i` iterations to go, at every depth `≥ k + 3`
    the loop ends normally with `i = workers`, having appended exactly `k` spawns of `p`; heap, handle counters and the rest of the
    environment are unchanged -/
theorem spawn_loop (w : Int) (p : Nat) (h : Heap) (k : Nat) :
    ∀ (g : Nat) (i : Int) (s : NW), i + k = w → k + 3 ≤ g → p < s.pools →
      loopFor newPoolWorld g loopCond loopPost loopBody ⟨envL i p w, h, s⟩ =
        some (.next, ⟨envL w p w, h, { s with trace := s.trace ++ List.replicate k (.spawn p) }⟩) := by
  induction k with
  | zero =>
    intro g i s hik hg hp
    obtain ⟨g, rfl⟩ : ∃ g', g = g' + 3 := ⟨g - 3, by omega⟩
    have hi : i = w := by omega
    subst hi
    rw [loopFor_succ]
    npsimp [loopCond, envL]
  | succ k ih =>
    intro g i s hik hg hp
    obtain ⟨g, rfl⟩ : ∃ g', g = g' + 4 := ⟨g - 4, by omega⟩
    have hlt : i < w := by omega
    rw [loopFor_succ]
    npsimp [loopCond, loopPost, loopBody, envL, hlt, W_go _ _ _ hp]
    have := ih (g + 3) (i + 1) { s with trace := s.trace ++ [.spawn p] } (by omega) (by omega) hp
    simpa [envL, loopCond, loopPost, loopBody, List.replicate_succ, List.append_assoc] using this

/-- everything after the clamp, for a worker count `w ≥ 0` -/
theorem ctor_tail (w : Int) (hw : 0 ≤ w) (f : Nat) (hf : w.toNat ≤ f + 4) (h : Heap) (s : NW) :
    execBlock newPoolWorld (f + 10)
        B[(.define ["p"] E[(.un "&" (.lit "WorkerPool" poolFields))]), spawnLoop, (.ret E[(.var "p")])] ⟨[("workers", .int w)], h, s⟩ =
      some (.ret [poolH s.pools], ⟨[("p", poolH s.pools), ("workers", .int w)], h,
        { trace := s.trace ++ ([.makeChan "func()" (2 * w), .makeChan "struct{}" 0, .newPool w s.chans (s.chans + 1)]
                    ++ List.replicate w.toNat (.spawn s.pools)),
          chans := s.chans + 2, pools := s.pools + 1 }⟩) := by
  have h2 : 0 ≤ w * 2 := by omega
  have hl : ∀ s' : NW, s.pools < s'.pools →
      loopFor newPoolWorld (f + 7) loopCond loopPost loopBody ⟨[("i", .int 0), ("p", .ref "pool" s.pools), ("workers", .int w)], h, s'⟩ =
        some (.next, ⟨[("i", .int w), ("p", .ref "pool" s.pools), ("workers", .int w)], h,
          { s' with trace := s'.trace ++ List.replicate w.toNat (.spawn s.pools) }⟩) :=
    fun s' hp => spawn_loop w s.pools h w.toNat (f + 7) 0 s' (by omega) (by omega) hp
  npsimp [spawnLoop_eq, poolFields, W_make_tasks _ _ _ h2, hl, poolH, Int.mul_comm, Nat.add_assoc]

/-- `NewWorkerPool(n)` from any ghost state and heap, at every depth `≥ max 11 (w + 7)`: returns the fresh pool handle, appends exactly
    `ctorEvents n s.chans s.pools` -/
theorem NewWorkerPool_refines_of_le (n : Int) {fuel : Nat} (h11 : 11 ≤ fuel) (hf : (clamp n).toNat + 7 ≤ fuel) (h : Heap) (s : NW) :
    callFunc newPoolWorld fuel NewWorkerPool [.int n] h s =
      some ([poolH s.pools], h, { trace := s.trace ++ ctorEvents n s.chans s.pools, chans := s.chans + 2, pools := s.pools + 1 }) := by
  obtain ⟨f, rfl⟩ := Nat.exists_eq_add_of_le' h11
  have hw : 0 ≤ clamp n := by unfold clamp; split <;> omega
  have hc := clamp_exec newPoolWorld (f + 5) n [] h s
  have ht := ctor_tail (clamp n) hw f (by omega) h s
  simp only [clamp] at hc ht
  simp [callFunc, NewWorkerPool_params, NewWorkerPool_body, Env.pushAll, Env.push, block_cons, hc, ht, ctorEvents, clamp]

/-- `NewWorkerPool_refines` is stated at depth `w + F`, above the least depth `max 11 (w + 7)` that `GoIR/NewPoolTest.lean` checks -/
def F : Nat := 40

theorem NewWorkerPool_run_of_le (n : Int) {fuel : Nat} (h11 : 11 ≤ fuel) (hf : (clamp n).toNat + 7 ≤ fuel) :
    run fuel NewWorkerPool [.int n] {} = some ([poolH 0], { trace := ctorEvents n 0 0, chans := 2, pools := 1 }) := by
  have := NewWorkerPool_refines_of_le n h11 hf [] {}
  simp [run, this]

theorem NewWorkerPool_refines (n : Int) :
    run ((clamp n).toNat + F) NewWorkerPool [.int n] {} = some ([poolH 0], { trace := ctorEvents n 0 0, chans := 2, pools := 1 }) :=
  NewWorkerPool_run_of_le n (by unfold F; omega) (by unfold F; omega)

def spawnsOf (tr : List CtorEv) (p : Nat) : Nat := tr.count (.spawn p)

/-- capacity of channel number `c`: the `c`-th `makeChan` of the trace -/
def capOf (tr : List CtorEv) (c : Nat) : Option Int :=
  (tr.filterMap fun e => match e with | .makeChan _ cap => some cap | _ => none)[c]?

/-- the pool objects of the trace -/
def poolsOf (tr : List CtorEv) : List (Int × Nat × Nat) :=
  tr.filterMap fun e => match e with | .newPool w t d => some (w, t, d) | _ => none

theorem clamp_pos (n : Int) : 1 ≤ clamp n := by unfold clamp; split <;> omega

/-- **`NewWorkerPool(n)` constructs `Pool.init (2w) n`** (the initial state of C12 / C08): the trace of the run from the empty ghost
    state holds one pool object (number 0, the value returned) with `tasks` channel 0, `done` channel 1 and `workers = w`; the number
    of `go p.worker()` on it is the model's `w` (all idle, none exited); the capacity of `tasks` is the model's `cap`; `done` is
    unbuffered. The remaining components of `Pool.init` are empty / zero: nothing has been submitted. -/
theorem NewWorkerPool_matches_init (n : Int) :
    ∃ tr, run ((clamp n).toNat + F) NewWorkerPool [.int n] {} = some ([poolH 0], { trace := tr, chans := 2, pools := 1 }) ∧
      poolsOf tr = [(((Flyt.Pool.init (2 * clamp n).toNat n).w : Int), 0, 1)] ∧
      spawnsOf tr 0 = (Flyt.Pool.init (2 * clamp n).toNat n).w ∧
      spawnsOf tr 0 = (Flyt.Pool.init (2 * clamp n).toNat n).idle ∧
      (Flyt.Pool.init (2 * clamp n).toNat n).exited = 0 ∧
      capOf tr 0 = some ((Flyt.Pool.init (2 * clamp n).toNat n).cap : Int) ∧
      capOf tr 1 = some 0 ∧
      tr.length = 3 + (Flyt.Pool.init (2 * clamp n).toNat n).w := by
  refine ⟨_, NewWorkerPool_refines n, ?_⟩
  have hpos := clamp_pos n
  have hw : ((Flyt.Pool.init (2 * clamp n).toNat n).w : Int) = clamp n := clamp_matches_init _ n
  have hwN : (Flyt.Pool.init (2 * clamp n).toNat n).w = (clamp n).toNat := by omega
  have hidle : (Flyt.Pool.init (2 * clamp n).toNat n).idle = (Flyt.Pool.init (2 * clamp n).toNat n).w := rfl
  have hcap : (Flyt.Pool.init (2 * clamp n).toNat n).cap = (2 * clamp n).toNat := rfl
  have hex : (Flyt.Pool.init (2 * clamp n).toNat n).exited = 0 := rfl
  rw [hidle, hcap, hex, hwN]
  have hcast : (((clamp n).toNat : Nat) : Int) = clamp n := by omega
  have hcast2 : (((2 * clamp n).toNat : Nat) : Int) = 2 * clamp n := by omega
  simp [ctorEvents, poolsOf, spawnsOf, capOf, List.filterMap_append, List.filterMap_replicate, List.count_replicate, hcast, hcast2]
  omega

end Flyt.Refine.NewPool

#print axioms Flyt.Refine.NewPool.spawn_loop
#print axioms Flyt.Refine.NewPool.NewWorkerPool_refines_of_le
#print axioms Flyt.Refine.NewPool.NewWorkerPool_refines
#print axioms Flyt.Refine.NewPool.NewWorkerPool_matches_init
