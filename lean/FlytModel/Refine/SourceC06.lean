import FlytModel.Refine.SourceBase
import FlytModel.Props.C06
/-!
# C06 (batch results correspond positionally to items; post sees all, once) stated about the interpreted source

* The whole node, `runBatch` (`runBatchIR`, `runBatch_refines_of_le`): `post_once_positional`, `post_exactly_once_and_last`. In
  `batchWorld` the executors `runBatchSequential` / `runBatchConcurrent` are the model's `itemsSeq` / `itemsSerialPool` (with the mode and
  concurrency `runBatch` passes them); derived from the source is `runBatch`'s own part: prep, normalisation of what prep returned into
  `[]Result`, one `results` array of the same length, dispatch, and post called once, last, with those items and that array.
* The executors (`itemsSeqIR`, `runBatchSequential_refines_of_le`; `itemsConcSerialIR`, `runBatchConcurrent_serial_refines_of_le`, the
  pool's serial schedule only): `slots_positional`. In these worlds `runExecWithRetries` is the model's `runItem` (its source:
  `Refine/Item.lean`), and the world finds the script of the item being processed from the item value (`idxOf`). So the executor
  corollaries need `hidx : idxOf items[i] = i`, which can be met iff no item repeats (`hidx_of_nodup`); the model theorems and the
  `runBatchIR` corollaries have no such restriction.
-/
set_option autoImplicit false
namespace Flyt.Refine.Source
open Flyt Flyt.GoIR Flyt.Refine Flyt.BatchSeq

/-- **C06: post once, after every item, with all items and one slot per item, each slot owned by its item.** For a batch node whose prep
    succeeded and which has a post function, for every concurrency setting: the trace of the interpreted `runBatch` is `bprep`, then only
    per-item events, then exactly one `bpost` carrying the items in prep order and a slot list of the same length; for every position
    `j` the item at `j` satisfies `Own`. Mirrors `Props.C06.post_once_positional`. -/
theorem C06_post_once_positional_for_interpreted_source (kind : CtxKind) (n : NodeId) (v : Nat) (sid : StoreId) (cfg : BatchCfg)
    (scr : BatchScript) (ctx : Ctx) (l : List Val) (hp : scr.prep.res = .ok l) (hpost : cfg.hasPost = true)
    (fuel : Nat) (hf : batchFuel scr ≤ fuel) :
    ∃ evs ctx' out, runBatchIR fuel Flyt.Expected.IR.runBatch kind n v sid cfg scr ctx = some (evs, ctx', out) ∧
      ∃ iev slots,
        evs = .bprep n v sid :: iev ++ [.bpost n v sid ((normItems cfg.shape l).map Result.box) (slots.map Result.box)] ∧
        slots.length = (normItems cfg.shape l).length ∧
        (∀ e ∈ iev, ∃ j, evItem e = some j ∧ j < (normItems cfg.shape l).length) ∧
        ∀ j (hj : j < (normItems cfg.shape l).length), Own kind n v cfg scr iev slots j j (normItems cfg.shape l)[j] :=
  transfer (runBatch_refines_of_le kind n v sid cfg scr ctx fuel hf)
    (Props.C06.post_once_positional kind n v sid cfg scr ctx l hp hpost)

/-- `Own` read with the interpreted `runExecWithRetries` (any sufficient depth `ifuel`) in place of the model's `runItem`: the events of
    item `idx` in the trace are exactly those the interpreted `runExecWithRetries` records on that item with its own script from a live
    context, and the slot is what the caller makes of its return values — or the item has no event and its slot is an error marker. -/
theorem own_interpreted {kind : CtxKind} {n : NodeId} {v : Nat} {cfg : BatchCfg} {scr : BatchScript} {iev : List Ev}
    {slots : List Result} {pos idx : Nat} {it : Result} (h : Own kind n v cfg scr iev slots pos idx it)
    (ifuel : Nat) (hif : itemFuel cfg ≤ ifuel) :
    (∃ ievs ictx ires,
        runItemIR ifuel Flyt.Expected.IR.runExecWithRetries kind n v cfg idx it (scr.item idx) .live = some (ievs, ictx, ires) ∧
        itemEvents idx iev = ievs ∧ slots[pos]? = some (slotOfRes ires)) ∨
    (itemEvents idx iev = [] ∧ ∃ r, slots[pos]? = some r ∧ isMarker cfg.stop r) := by
  rcases h with ⟨h1, h2⟩ | h
  · exact .inl ⟨_, _, _, runExecWithRetries_refines_runItem_of_le kind n v cfg idx it (scr.item idx) .live ifuel hif, h1, h2⟩
  · exact .inr h

/-- **C06.** The trace of the interpreted `runBatch` (prep succeeded, post present) contains exactly one post event and it is the last
    event. Mirrors `Props.C06.post_exactly_once_and_last`. -/
theorem C06_post_exactly_once_and_last_for_interpreted_source (kind : CtxKind) (n : NodeId) (v : Nat) (sid : StoreId) (cfg : BatchCfg)
    (scr : BatchScript) (ctx : Ctx) (l : List Val) (hp : scr.prep.res = .ok l) (hpost : cfg.hasPost = true)
    (fuel : Nat) (hf : batchFuel scr ≤ fuel) :
    ∃ evs ctx' out, runBatchIR fuel Flyt.Expected.IR.runBatch kind n v sid cfg scr ctx = some (evs, ctx', out) ∧
      (evs.filter isBpost).length = 1 ∧
      ∃ sl, evs.getLast? = some (.bpost n v sid ((normItems cfg.shape l).map Result.box) sl) ∧
        sl.length = (normItems cfg.shape l).length :=
  transfer (runBatch_refines_of_le kind n v sid cfg scr ctx fuel hf)
    (Props.C06.post_exactly_once_and_last kind n v sid cfg scr ctx l hp hpost)

/-- **C06.** The same for the interpreted `Run` on the batch node (bare `*BatchNode` or the builder of `NewBatchNode`): `Run` only hands
    over to `runBatch` (in that world the model's). -/
theorem C06_post_exactly_once_and_last_for_interpreted_Run (kind : CtxKind) (n : NodeId) (v : Nat) (sid : StoreId) (cfg : BatchCfg)
    (scr : BatchScript) (viaBuilder : Bool) (ctx : Ctx) (l : List Val) (hp : scr.prep.res = .ok l) (hpost : cfg.hasPost = true)
    (fuel : Nat) (hf : batchNodeFuel ≤ fuel) :
    ∃ evs ctx' out, runBatchNodeIR fuel Flyt.Expected.IR.Run kind n v sid cfg scr viaBuilder ctx = some (evs, ctx', out) ∧
      (evs.filter isBpost).length = 1 ∧
      ∃ sl, evs.getLast? = some (.bpost n v sid ((normItems cfg.shape l).map Result.box) sl) ∧
        sl.length = (normItems cfg.shape l).length :=
  transfer (Run_dispatches_to_runBatch_of_le kind n v sid cfg scr viaBuilder ctx fuel hf)
    (Props.C06.post_exactly_once_and_last kind n v sid cfg scr ctx l hp hpost)

/-- **C06: slot `j` is the outcome of item `j` and of no other item** (continue mode, no cancellation): the item phase of the
    interpreted `runBatchSequential` is the concatenation of each item's own processing, in item order, the context stays live, and the
    slot list is the list of their outcomes, position by position. Mirrors `Props.C06.slots_positional` (extra hypothesis `hidx`). -/
theorem C06_slots_positional_for_interpreted_source (kind : CtxKind) (n : NodeId) (v : Nat) (cfg : BatchCfg) (scr : BatchScript)
    (hs : cfg.stop = false) (hq : ∀ j, Quiet (scr.item j)) (items : List Result)
    (idxOf : Result → Nat) (hidx : ∀ i (h : i < items.length), idxOf items[i] = i) (fuel : Nat) (hf : items.length + 23 ≤ fuel) :
    ∃ evs ctx' slots,
      itemsSeqIR fuel Flyt.Expected.IR.runBatchSequential kind n v cfg scr idxOf items .live = some (evs, ctx', slots) ∧
      evs = (itemRuns kind n v cfg scr items 0).flatMap (·.1) ∧ ctx' = .live ∧
      slots = (itemRuns kind n v cfg scr items 0).map (fun r => slotOfRes r.2.2) ∧
      ∀ j, (itemRuns kind n v cfg scr items 0)[j]? = items[j]?.map fun it => runItem kind n v cfg j it (scr.item j) .live := by
  refine transfer (runBatchSequential_refines_of_le kind n v cfg scr idxOf items .live hidx fuel hf) ?_
  obtain ⟨h1, h2⟩ := Props.C06.slots_positional kind n v cfg scr hs hq items
  rw [h1]
  exact ⟨rfl, rfl, rfl, h2⟩

/-- **C06.** The interpreted `runBatchConcurrent`, on the schedule in which every submitted task runs to completion before `Submit`
    returns, yields the same (`Props.C06.slots_positional` through `BatchSeq.itemsSerialPool_eq_seq`). Every other schedule is the
    subject of the LTS theorems of `Props/C06.lean`. -/
theorem C06_slots_positional_for_interpreted_serial_pool (kind : CtxKind) (n : NodeId) (v : Nat) (cfg : BatchCfg) (scr : BatchScript)
    (hs : cfg.stop = false) (hq : ∀ j, Quiet (scr.item j)) (items : List Result)
    (idxOf : Result → Nat) (hidx : ∀ i (h : i < items.length), idxOf items[i] = i) (fuel : Nat) (hf : items.length + 37 ≤ fuel) :
    ∃ evs ctx' slots,
      itemsConcSerialIR fuel Flyt.Expected.IR.runBatchConcurrent kind n v cfg scr idxOf items .live = some (evs, ctx', slots) ∧
      evs = (itemRuns kind n v cfg scr items 0).flatMap (·.1) ∧ ctx' = .live ∧
      slots = (itemRuns kind n v cfg scr items 0).map (fun r => slotOfRes r.2.2) ∧
      ∀ j, (itemRuns kind n v cfg scr items 0)[j]? = items[j]?.map fun it => runItem kind n v cfg j it (scr.item j) .live := by
  refine transfer (runBatchConcurrent_serial_refines_of_le kind n v cfg scr idxOf items .live hidx fuel hf) ?_
  obtain ⟨h1, h2⟩ := Props.C06.slots_positional kind n v cfg scr hs hq items
  rw [itemsSerialPool_eq_seq, h1]
  exact ⟨rfl, rfl, rfl, h2⟩

/-- `itemRuns` read with the interpreted `runExecWithRetries` in place of the model's `runItem`: entry `j` is what the interpreter
    returns for item `j` with its own script from a live context (any sufficient depth). -/
theorem itemRuns_interpreted (kind : CtxKind) (n : NodeId) (v : Nat) (cfg : BatchCfg) (scr : BatchScript) (items : List Result)
    (ifuel : Nat) (hif : itemFuel cfg ≤ ifuel) (j : Nat) :
    ((itemRuns kind n v cfg scr items 0)[j]?).map some =
      items[j]?.map fun it => runItemIR ifuel Flyt.Expected.IR.runExecWithRetries kind n v cfg j it (scr.item j) .live := by
  have h := itemRuns_getElem? kind n v cfg scr items 0 j
  rw [h, Nat.zero_add]
  cases items[j]? with
  | none => rfl
  | some it =>
    simp only [Option.map_some]
    rw [runExecWithRetries_refines_runItem_of_le kind n v cfg j it (scr.item j) .live ifuel hif]

-- non-vacuity: the three-item batch of `Props/C06.lean` (item 1 fails twice, then its fallback succeeds); `24 = 3 + 21`
example : runBatchIR 24 Flyt.Expected.IR.runBatch .canceled 0 0 0 Props.C06.exCfg Props.C06.exScr .live =
    some ([.bprep 0 0 0, .bexec 0 0 0 0 (.tok 1), .bexec 0 0 1 0 (.tok 2), .bexec 0 0 1 1 (.tok 2),
       .bfb 0 0 1 (.res (.tok 2) none) (.user 11), .bexec 0 0 2 0 (.tok 3),
       .bpost 0 0 0 [.res (.tok 1) none, .res (.tok 2) none, .res (.tok 3) none]
         [.res (.tok 100) none, .res (.tok 55) none, .res (.tok 102) none]], .live, .ok "next") := by
  rw [runBatch_refines_of_le _ _ _ _ _ _ _ 24 (by decide)]; decide

-- the three items are pairwise different, so `hidx` can be met (`hidx_of_nodup`)
example : ([newResult (.tok 1), newResult (.tok 2), newResult (.tok 3)] : List Result).Nodup := by decide

/-!
Not carried over:
* `prep_normalisation` — about the pure function `normItems`; that the interpreted `runBatch` applies it is part of
  `runBatch_refines` and visible in `C06_post_once_positional_for_interpreted_source` (the items post receives);
* `slot_is_own_outcome`, `slot_written_by_own_task_once`, `one_task_per_index`, `post_after_all_settled`, `post_at_most_once`,
  `simulate_states_reachable` — subject is the LTS `Flyt.Conc` (every worker count, every schedule): no refinement theorem equates the
  interpreted `runBatchConcurrent` with it for general schedules (only the serial schedule, `Refine/ConcSerial.lean`; per task,
  `Refine/Task.lean`; the pool, `Refine/Pool.lean` and its bridge `Refine/BridgePool.lean`);
* `spec_c06_holds_seq`, `spec_c06_holds` — bridges to the driver's executable predicate `Spec.c06`.
-/

end Flyt.Refine.Source
