import FlytModel.Refine.SourceBase
import FlytModel.Props.C07
/-!
# C07 (batch processes every item exactly once, with per-item retry and fallback) about the interpreted source

Continue mode. Each corollary is about one layer: `runBatch` (its world takes the two executors to be the model's),
`runBatchSequential` (its world takes `runExecWithRetries` to be the model's `runItem`; needs `hidx`, i.e. an item list without
repeated items, see `Refine/SourceC06.lean`), `runExecWithRetries`, and `Run` on a single node.
Not carried over: the theorems of `Props/C07.lean` about the LTS `Flyt.Conc` (every schedule of the worker pool), and
`spec_c07_holds_seq` (bridge to the driver's predicate `Spec.c07`).
-/
set_option autoImplicit false
namespace Flyt.Refine.Source
open Flyt Flyt.GoIR Flyt.Refine Flyt.BatchSeq

/-- **C07, every item exactly once, in order.** In continue mode, when no callback cancels the context, the trace of the interpreted
    `runBatch` is: prep, then for item 0, 1, 2, … exactly the events of that item's own processing from a live context, then one post
    carrying each item's own outcome in its slot. Mirrors `Props.C07.every_item_once`. -/
theorem C07_every_item_once_for_interpreted_source (kind : CtxKind) (n : NodeId) (v : Nat) (sid : StoreId) (cfg : BatchCfg)
    (scr : BatchScript) (l : List Val) (hs : cfg.stop = false) (hq : ∀ j, Quiet (scr.item j)) (hp : scr.prep.res = .ok l)
    (hpc : scr.prep.cancels = false) (hpost : cfg.hasPost = true) (fuel : Nat) (hf : batchFuel scr ≤ fuel) :
    ∃ evs ctx' out, runBatchIR fuel Flyt.Expected.IR.runBatch kind n v sid cfg scr .live = some (evs, ctx', out) ∧
      evs = .bprep n v sid :: (itemRuns kind n v cfg scr (normItems cfg.shape l) 0).flatMap (·.1) ++
        [.bpost n v sid ((normItems cfg.shape l).map Result.box)
          (((itemRuns kind n v cfg scr (normItems cfg.shape l) 0).map (fun r => slotOfRes r.2.2)).map Result.box)] ∧
      ∀ j, (itemRuns kind n v cfg scr (normItems cfg.shape l) 0)[j]? =
        (normItems cfg.shape l)[j]?.map fun it => runItem kind n v cfg j it (scr.item j) .live :=
  transfer (runBatch_refines_of_le kind n v sid cfg scr .live fuel hf)
    (Props.C07.every_item_once kind n v sid cfg scr l hs hq hp hpc hpost)

/-- **C07, a failing item does not alter another item's processing.** Two scripts that agree on item `j` give item `j` the same events
    and the same slot in the interpreted `runBatchSequential`. Mirrors `Props.C07.item_independent_of_others`. -/
theorem C07_item_independent_of_others_for_interpreted_source (kind : CtxKind) (n : NodeId) (v : Nat) (cfg : BatchCfg)
    (scr scr' : BatchScript) (hs : cfg.stop = false) (hq : ∀ j, Quiet (scr.item j)) (hq' : ∀ j, Quiet (scr'.item j))
    (items : List Result) (j : Nat) (hj : scr.item j = scr'.item j)
    (idxOf : Result → Nat) (hidx : ∀ i (h : i < items.length), idxOf items[i] = i) (fuel : Nat) (hf : items.length + 23 ≤ fuel) :
    ∃ evs ctx₁ slots evs' ctx₂ slots',
      itemsSeqIR fuel Flyt.Expected.IR.runBatchSequential kind n v cfg scr idxOf items .live = some (evs, ctx₁, slots) ∧
      itemsSeqIR fuel Flyt.Expected.IR.runBatchSequential kind n v cfg scr' idxOf items .live = some (evs', ctx₂, slots') ∧
      itemEvents j evs = itemEvents j evs' ∧ slots[j]? = slots'[j]? :=
  ⟨_, _, _, _, _, _, runBatchSequential_refines_of_le kind n v cfg scr idxOf items .live hidx fuel hf,
    runBatchSequential_refines_of_le kind n v cfg scr' idxOf items .live hidx fuel hf,
    Props.C07.item_independent_of_others kind n v cfg scr scr' hs hq hq' items j hj⟩

/-- **C07.** The events of item `j` in the interpreted `runBatchSequential` are exactly one run of the interpreted
    `runExecWithRetries` on item `j` with its own script, and slot `j` is its outcome.
    Mirrors `Props.C07.item_processed_exactly_once`. -/
theorem C07_item_processed_exactly_once_for_interpreted_source (kind : CtxKind) (n : NodeId) (v : Nat) (cfg : BatchCfg)
    (scr : BatchScript) (hs : cfg.stop = false) (hq : ∀ j, Quiet (scr.item j)) (items : List Result) (j : Nat) (hj : j < items.length)
    (idxOf : Result → Nat) (hidx : ∀ i (h : i < items.length), idxOf items[i] = i) (fuel : Nat) (hf : items.length + 23 ≤ fuel)
    (ifuel : Nat) (hif : itemFuel cfg ≤ ifuel) :
    ∃ evs ctx' slots ievs ictx ires,
      itemsSeqIR fuel Flyt.Expected.IR.runBatchSequential kind n v cfg scr idxOf items .live = some (evs, ctx', slots) ∧
      runItemIR ifuel Flyt.Expected.IR.runExecWithRetries kind n v cfg j items[j] (scr.item j) .live = some (ievs, ictx, ires) ∧
      itemEvents j evs = ievs ∧ slots[j]? = some (slotOfRes ires) := by
  obtain ⟨h1, h2⟩ := Props.C07.item_processed_exactly_once kind n v cfg scr hs hq items j hj
  exact ⟨_, _, _, _, _, _, runBatchSequential_refines_of_le kind n v cfg scr idxOf items .live hidx fuel hf,
    runExecWithRetries_refines_runItem_of_le kind n v cfg j items[j] (scr.item j) .live ifuel hif, h1, h2⟩

/-- **C07, an item gets the retry and fallback treatment of a single node run.** The interpreted `Run` (flyt.go) on a node with the same
    budget, wait, fallback and exec function (`leafOf cfg`, `leafScriptOf s`) and the interpreted `runExecWithRetries` (batch.go) on
    the item end with the same context, record the same number of events, and the node run fails with the same error / succeeds
    exactly when the item's processing does. Mirrors `Props.C07.item_gets_single_node_treatment`. -/
theorem C07_item_gets_single_node_treatment_for_interpreted_source (kind : CtxKind) (n : NodeId) (v : Nat) (cfg : BatchCfg) (i : Nat)
    (item : Result) (s : ItemScript) (sid : StoreId) (fuel : Nat) (hf : runFuel (leafOf cfg) ≤ fuel)
    (ifuel : Nat) (hif : itemFuel cfg ≤ ifuel) :
    ∃ evs ctx' out ievs ictx ires,
      runLeafIR fuel Flyt.Expected.IR.Run kind n v sid (leafOf cfg) (leafScriptOf s) .live = some (evs, ctx', out) ∧
      runItemIR ifuel Flyt.Expected.IR.runExecWithRetries kind n v cfg i item s .live = some (ievs, ictx, ires) ∧
      ctx' = ictx ∧ evs.length = ievs.length ∧
      out = (match ires with | .slot _ => .ok defaultAction | .error e => .err e) := by
  obtain ⟨h1, h2, h3⟩ := Props.C07.item_gets_single_node_treatment kind n v cfg i item s sid
  exact ⟨_, _, _, _, _, _, Run_refines_runLeaf_of_le kind n v sid (leafOf cfg) (leafScriptOf s) .live fuel hf,
    runExecWithRetries_refines_runItem_of_le kind n v cfg i item s .live ifuel hif, h1, h2, h3⟩

/-- **C07, per-item retry budget and fallback are exact.** The interpreted `runExecWithRetries` on item `i` (no cancellation) makes
    exactly the attempts `0 .. lastAttempt` (up to the first success, or the whole budget), each once, calls the fallback exactly when
    the last attempt failed and a custom fallback exists, and yields `Conc.finalSlot` (`Bridge.obsOf` turns `bexec i k` into `start i k, done i k`
    and `bfb i` into `fb i`). Mirrors `Props.C07.item_retry_budget_and_fallback_exact`. -/
theorem C07_item_retry_budget_and_fallback_exact_for_interpreted_source (kind : CtxKind) (n : NodeId) (v : Nat) (cfg : BatchCfg)
    (scr : BatchScript) (i nn : Nat) (item : Result) (hq : Quiet (scr.item i)) (hex : cfg.execS ≠ .absent) (hb : 0 < cfg.budget)
    (fuel : Nat) (hf : itemFuel cfg ≤ fuel) :
    ∃ evs ctx' res, runItemIR fuel Flyt.Expected.IR.runExecWithRetries kind n v cfg i item (scr.item i) .live = some (evs, ctx', res) ∧
      Spec.itemStarts (evs.flatMap Bridge.obsOf) i = List.range (Spec.lastAttempt (Bridge.concCfgOf kind cfg scr nn) i + 1) ∧
      Spec.itemDones (evs.flatMap Bridge.obsOf) i = List.range (Spec.lastAttempt (Bridge.concCfgOf kind cfg scr nn) i + 1) ∧
      Spec.itemFbs (evs.flatMap Bridge.obsOf) i = Conc.finalFbs (Bridge.concCfgOf kind cfg scr nn) i ∧
      slotOfRes res = Conc.finalSlot (Bridge.concCfgOf kind cfg scr nn) i :=
  transfer (runExecWithRetries_refines_runItem_of_le kind n v cfg i item (scr.item i) .live fuel hf)
    (Props.C07.item_retry_budget_and_fallback_exact kind n v cfg scr i nn item hq hex hb)

end Flyt.Refine.Source
