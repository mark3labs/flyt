import FlytModel.Refine.SourceBase
import FlytModel.Props.C01
/-!
# C01 (node lifecycle) stated about the interpreted source of `flyt.Run`

Each headline theorem of `Props/C01.lean` (about the model's `runLeaf`) with `runLeafIR fuel Expected.IR.Run …` as its subject, by
`Run_refines_runLeaf_of_le` (`Refine/Run.lean`), for every `fuel ≥ runFuel cfg = effBudget + 43`. The hypotheses are the model theorem's
plus the fuel bound; `(evs, ctx', out)` are the events the world recorded, the context afterwards, and the outcome read off `Run`'s two
return values.

Assumed (`leafWorld`, `GoIR/Worlds.lean`): the user's callbacks follow the script and record what they are handed, the node's dynamic
type answers the `RetryableNode` / `FallbackNode` assertions according to `cfg`, `ctx.Err()` reports the world's context, the `select`
on `time.After` / `ctx.Done()` follows `scr.waitCancel`.
-/
set_option autoImplicit false
namespace Flyt.Refine.Source
open Flyt Flyt.Spec Flyt.GoIR Flyt.Refine Flyt.Proofs.Attempts Flyt.Proofs.Leaf Flyt.Proofs.LeafSpec

/-- **C01, closed form of every run.** On a live context the interpreted `Run` terminates and its events / outcome are one of the runs
    `LeafRun` describes: prep fails · prep cancels · prep hands over `pv`, the retry loop makes `m ≤ effBudget` exec calls numbered
    `0..m-1` each with `execArg execS pv`, the exec phase ends in one of the six `PhaseEnd` ways, post runs (once, last, same store, `pv`,
    the result) iff that end is `ok`. Mirrors `Props.C01.lifecycle`. -/
theorem C01_lifecycle_for_interpreted_source (kind : CtxKind) (n v sid : Nat) (cfg : LeafCfg) (scr : LeafScript)
    (fuel : Nat) (hf : runFuel cfg ≤ fuel) :
    ∃ evs ctx' out, runLeafIR fuel Flyt.Expected.IR.Run kind n v sid cfg scr .live = some (evs, ctx', out) ∧
      LeafRun kind n v sid cfg scr evs out :=
  transfer (Run_refines_runLeaf_of_le kind n v sid cfg scr .live fuel hf)
    (Props.C01.lifecycle kind n v sid cfg scr)

/-- **C01.** On a context that is already done the interpreted `Run` invokes no callback and returns the context's error.
    Mirrors `Props.C01.done_context_runs_nothing`. -/
theorem C01_done_context_runs_nothing_for_interpreted_source (kind : CtxKind) (n v sid : Nat) (cfg : LeafCfg) (scr : LeafScript)
    (k : CtxKind) (fuel : Nat) (hf : runFuel cfg ≤ fuel) :
    runLeafIR fuel Flyt.Expected.IR.Run kind n v sid cfg scr (.done k) = some ([], .done k, .err (.ctx k)) :=
  Run_refines_runLeaf_of_le kind n v sid cfg scr (.done k) fuel hf

/-- **C01.** A prep callback runs exactly once, first, with the store given to the run. Mirrors `Props.C01.prep_exactly_once`. -/
theorem C01_prep_exactly_once_for_interpreted_source (kind : CtxKind) (n v sid : Nat) (cfg : LeafCfg) (scr : LeafScript)
    (hp : cfg.prepS ≠ .absent) (fuel : Nat) (hf : runFuel cfg ≤ fuel) :
    ∃ evs ctx' out, runLeafIR fuel Flyt.Expected.IR.Run kind n v sid cfg scr .live = some (evs, ctx', out) ∧
      ∃ rest, evs = .prep n v sid :: rest ∧ ∀ e ∈ rest, isPrepEv e = false :=
  transfer (Run_refines_runLeaf_of_le kind n v sid cfg scr .live fuel hf)
    (Props.C01.prep_exactly_once kind n v sid cfg scr hp)

/-- **C01.** Prep event, then only retry-loop events of this visit, then at most one fallback call, then at most one post call, which
    gets the store of the run. Mirrors `Props.C01.phases_in_order`. -/
theorem C01_phases_in_order_for_interpreted_source (kind : CtxKind) (n v sid : Nat) (cfg : LeafCfg) (scr : LeafScript)
    (fuel : Nat) (hf : runFuel cfg ≤ fuel) :
    ∃ evs ctx' out, runLeafIR fuel Flyt.Expected.IR.Run kind n v sid cfg scr .live = some (evs, ctx', out) ∧
      ∃ loop fbs posts, evs = preEvs n v sid cfg ++ loop ++ fbs ++ posts ∧
        (∀ e ∈ loop, (∃ k f, e = .wait n v k cfg.effWait f) ∨ (∃ k arg, e = .exec n v k arg)) ∧
        (fbs = [] ∨ ∃ arg er, fbs = [.fb n v arg er]) ∧
        (posts = [] ∨ ∃ a b, posts = [.post n v sid a b]) :=
  transfer (Run_refines_runLeaf_of_le kind n v sid cfg scr .live fuel hf)
    (Props.C01.phases_in_order kind n v sid cfg scr)

/-- **C01.** Each exec attempt receives the value prep returned; the attempts are numbered `0, 1, 2, …` and there are at most
    `effBudget` of them. Mirrors `Props.C01.exec_receives_prep_value`. -/
theorem C01_exec_receives_prep_value_for_interpreted_source (kind : CtxKind) (n v sid : Nat) (cfg : LeafCfg) (scr : LeafScript)
    (fuel : Nat) (hf : runFuel cfg ≤ fuel) :
    ∃ evs ctx' out, runLeafIR fuel Flyt.Expected.IR.Run kind n v sid cfg scr .live = some (evs, ctx', out) ∧
      (∀ pv, prepValue cfg scr = some pv → ∃ m, m ≤ cfg.effBudget ∧
        evs.filter isExecEv = (List.range m).map (fun k => Ev.exec n v k (execArg cfg.execS pv))) ∧
      (prepValue cfg scr = none → evs.filter isExecEv = []) :=
  transfer (Run_refines_runLeaf_of_le kind n v sid cfg scr .live fuel hf)
    (Props.C01.exec_receives_prep_value kind n v sid cfg scr)

/-- **C01.** Post runs iff the exec phase (an attempt or the fallback) produced a result without error; it runs at most once, last, and
    receives the same store, the prep value and that result. Mirrors `Props.C01.post_iff_exec_produced`. -/
theorem C01_post_iff_exec_produced_for_interpreted_source (kind : CtxKind) (n v sid : Nat) (cfg : LeafCfg) (scr : LeafScript)
    (hb : 1 ≤ cfg.effBudget) (fuel : Nat) (hf : runFuel cfg ≤ fuel) :
    ∃ evs ctx' out, runLeafIR fuel Flyt.Expected.IR.Run kind n v sid cfg scr .live = some (evs, ctx', out) ∧
      ((∃ s a b, Ev.post n v s a b ∈ evs) ↔ cfg.postS ≠ .absent ∧ ∃ r, Produced n v cfg scr evs r) ∧
      (∀ s a b, Ev.post n v s a b ∈ evs →
        s = sid ∧ evs.filter isPostEv = [Ev.post n v s a b] ∧ evs.getLast? = some (Ev.post n v s a b) ∧
        ∃ pv r, PrepDone cfg scr pv ∧ Produced n v cfg scr evs r ∧
          a = (postArgs cfg.postS pv r).1 ∧ b = (postArgs cfg.postS pv r).2) :=
  transfer (Run_refines_runLeaf_of_le kind n v sid cfg scr .live fuel hf)
    (Props.C01.post_iff_exec_produced kind n v sid cfg scr hb)

/-- **C01.** The run returns post's action (the default action when post returns the empty action or there is no post callback) with a
    nil error — exactly when the exec phase produced a result and post did not fail — or an empty action with a non-nil error.
    Mirrors `Props.C01.outcome_action_xor_error`. (`outcomeOf` maps `Run`'s return values `(a, nil)` to `.ok a`, `("", err)` to `.err`,
    `(a ≠ "", err)` to `.both`.) -/
theorem C01_outcome_action_xor_error_for_interpreted_source (kind : CtxKind) (n v sid : Nat) (cfg : LeafCfg) (scr : LeafScript)
    (hb : 1 ≤ cfg.effBudget) (fuel : Nat) (hf : runFuel cfg ≤ fuel) :
    ∃ evs ctx' out, runLeafIR fuel Flyt.Expected.IR.Run kind n v sid cfg scr .live = some (evs, ctx', out) ∧
      ((∃ a, out = .ok a ∧ a ≠ "" ∧ (∃ r, Produced n v cfg scr evs r) ∧
          ((cfg.postS = .absent ∧ a = defaultAction) ∨ (cfg.postS ≠ .absent ∧ ∃ a', scr.post.res = .ok a' ∧ a = norm a'))) ∨
       (∃ e, out = .err e ∧
          ¬ ((∃ r, Produced n v cfg scr evs r) ∧ (cfg.postS = .absent ∨ ∃ a', scr.post.res = .ok a')))) :=
  transfer (Run_refines_runLeaf_of_le kind n v sid cfg scr .live fuel hf)
    (Props.C01.outcome_action_xor_error kind n v sid cfg scr hb)

/-- **C01.** On every context the interpreted `Run` never returns `(action ≠ "", error)` and never `("", nil)`. Mirrors
    `Props.C01.outcome_never_both` (`.fuel` is the model's own marker, which `outcomeOf` cannot produce). -/
theorem C01_outcome_never_both_for_interpreted_source (kind : CtxKind) (n v sid : Nat) (cfg : LeafCfg) (scr : LeafScript) (ctx : Ctx)
    (fuel : Nat) (hf : runFuel cfg ≤ fuel) :
    ∃ evs ctx' out, runLeafIR fuel Flyt.Expected.IR.Run kind n v sid cfg scr ctx = some (evs, ctx', out) ∧
      (∀ a e, out ≠ .both a e) ∧ out ≠ .fuel ∧ out ≠ .ok "" :=
  transfer (Run_refines_runLeaf_of_le kind n v sid cfg scr ctx fuel hf)
    (Props.C01.outcome_never_both kind n v sid cfg scr ctx)

/-- **C01 inside a flow.** What the model's `runNode` does on a leaf `id` of the arena (events, outcome, context afterwards) is what the
    interpreted `Run` returns for that node's configuration, visit number, script, the flow's store and the current context. Mirrors
    `Props.C01.inside_flow`; the world of `Refine/FlowExec.lean` takes the nested `Run` to be `runNode`, and this is its leaf case. -/
theorem C01_inside_flow_for_interpreted_source (env : Env) (mfuel : Nat) (id : NodeId) (sid : StoreId) (st : RunSt) (cfg : LeafCfg)
    (h : env.arena id = .leaf cfg) (fuel : Nat) (hf : runFuel cfg ≤ fuel) :
    ∃ evs ctx' out,
      runLeafIR fuel Flyt.Expected.IR.Run env.kind id (st.visits id) sid cfg (env.leafBeh id (st.visits id)) st.ctx
        = some (evs, ctx', out) ∧
      (runNode env (mfuel + 1) id sid st).1 = evs ∧ (runNode env (mfuel + 1) id sid st).2.2 = out ∧
      (runNode env (mfuel + 1) id sid st).2.1.ctx = ctx' :=
  transfer (Run_refines_runLeaf_of_le env.kind id (st.visits id) sid cfg (env.leafBeh id (st.visits id)) st.ctx fuel hf)
    (Props.C01.inside_flow env mfuel id sid st cfg h)

/-- non-vacuity: the scenario of `Props/C01.lean` (budget 3, attempts 0 and 1 fail, attempt 2 succeeds); `46 = 3 + 43` -/
example : runLeafIR 46 Flyt.Expected.IR.Run .canceled 4 0 1 Props.C01.exCfg Props.C01.exScr .live =
    some ([.prep 4 0 1, .exec 4 0 0 (.tok 7), .exec 4 0 1 (.tok 7), .exec 4 0 2 (.tok 7), .post 4 0 1 (.tok 7) (.tok 9)],
     .live, .ok "default") := by
  rw [Run_refines_runLeaf_of_le _ _ _ _ _ _ _ 46 (by decide)]; decide

/-!
Not carried over from `Props/C01.lean`:
* `budget_hypothesis` — a fact about `LeafCfg.effBudget`, no run involved;
* `lifecycle_inside_flow` — `inside_flow` + `lifecycle`, i.e. the two corollaries above composed;
* `flow_trace_is_visits` — subject is `runNode` on an arbitrary node (leaf, batch or flow, nested to any depth), while the corollaries
  here are per layer. The interpreted counterparts of a whole nested run are the composed runs: `Stack.deepRun_eq_runNode`,
  `FullStack.fullRun_eq_runNode`, `FullConc.fullRun2_eq_runNode`;
* `c01Visit_bridge`, `c01Outcome_bridge`, `c01Visit_flow_bridge`, `root_leaf_single_segment` — bridges to the driver's executable
  predicates, not the property.
-/

end Flyt.Refine.Source
