import FlytModel.Refine.SourceBase
import FlytModel.Props.C11
/-!
# C11 (cancellation inside a batch: no new item, no new attempt; post once; unexecuted items are errors) about the interpreted source

Each corollary is about one layer: `runBatch` (`runBatchIR`; its world takes the executors to be the model's `itemsSeq` /
`itemsSerialPool`, so what `runBatch`'s source contributes is that the item loop starts with the context prep left and that post is
called once whatever happened), the two executors on a context cancelled before the run (`itemsSeqIR` / `itemsConcSerialIR`; `hidx`),
and `Run` on a flow holding a batch node (`runFlowNodeIR`). The runs composed over all layers are `Stack.deepRun_eq_runNode`,
`FullStack.fullRun_eq_runNode`, `FullConc.fullRun2_eq_runNode`.
Not carried over: the theorems of `Props/C11.lean` about the LTS `Flyt.Conc` (every schedule of the worker pool), and the bridges
`spec_c11_holds_seq`, `c11Flow_bridge` to the driver's predicates.
-/
set_option autoImplicit false
namespace Flyt.Refine.Source
open Flyt Flyt.GoIR Flyt.Refine Flyt.BatchSeq

/-- **C11, after the context is cancelled no new item and no new retry attempt starts.** In the trace of the interpreted `runBatch` (any
    configuration, script, context), after every event that cancels the context (prep, an exec attempt, a fallback, an interrupted
    retry wait) no exec attempt and no retry wait occurs. Mirrors `Props.C11.no_attempt_after_cancel`. -/
theorem C11_no_attempt_after_cancel_for_interpreted_source (kind : CtxKind) (n : NodeId) (v : Nat) (sid : StoreId) (cfg : BatchCfg)
    (scr : BatchScript) (ctx : Ctx) (fuel : Nat) (hf : batchFuel scr ≤ fuel) :
    ∃ evs ctx' out, runBatchIR fuel Flyt.Expected.IR.runBatch kind n v sid cfg scr ctx = some (evs, ctx', out) ∧
      ∀ (pre post : List Ev) (e : Ev), evs = pre ++ e :: post → evCancels scr e = true →
        ∀ x ∈ post, isBexec x = false ∧ isBwait x = false :=
  transfer (runBatch_refines_of_le kind n v sid cfg scr ctx fuel hf)
    (fun pre post e hsplit hc => Props.C11.no_attempt_after_cancel kind n v sid cfg scr ctx pre post e hsplit hc)

/-- **C11, cancelled before the run: no item is executed at all**, the context stays cancelled.
    Mirrors `Props.C11.cancelled_before_run`. -/
theorem C11_cancelled_before_run_for_interpreted_source (kind : CtxKind) (n : NodeId) (v : Nat) (sid : StoreId) (cfg : BatchCfg)
    (scr : BatchScript) (kd : CtxKind) (fuel : Nat) (hf : batchFuel scr ≤ fuel) :
    ∃ evs ctx' out, runBatchIR fuel Flyt.Expected.IR.runBatch kind n v sid cfg scr (.done kd) = some (evs, ctx', out) ∧
      (∀ x ∈ evs, isBexec x = false ∧ isBwait x = false) ∧ ctx'.isDone = true :=
  transfer (runBatch_refines_of_le kind n v sid cfg scr (.done kd) fuel hf)
    (Props.C11.cancelled_before_run kind n v sid cfg scr kd)

/-- … and then every slot carries the "context cancelled" error, in both error-handling modes: the interpreted `runBatchSequential` and
    the interpreted `runBatchConcurrent` (serial schedule) on a context that is already done record no event and fill every slot with
    that error. Mirrors `Props.C11.cancelled_before_run_slots` (at offset 0). -/
theorem C11_cancelled_before_run_slots_for_interpreted_source (kind : CtxKind) (n : NodeId) (v : Nat) (cfg : BatchCfg)
    (scr : BatchScript) (items : List Result) (kd : CtxKind)
    (idxOf : Result → Nat) (hidx : ∀ i (h : i < items.length), idxOf items[i] = i)
    (fuel : Nat) (hf : items.length + 23 ≤ fuel) (cfuel : Nat) (hcf : items.length + 37 ≤ cfuel) :
    itemsSeqIR fuel Flyt.Expected.IR.runBatchSequential kind n v cfg scr idxOf items (.done kd)
      = some ([], .done kd, items.map (fun _ => cancelledSlot)) ∧
    itemsConcSerialIR cfuel Flyt.Expected.IR.runBatchConcurrent kind n v cfg scr idxOf items (.done kd)
      = some ([], .done kd, items.map (fun _ => cancelledSlot)) := by
  obtain ⟨h1, h2⟩ := Props.C11.cancelled_before_run_slots kind n v cfg scr items 0 kd
  exact ⟨by rw [runBatchSequential_refines_of_le kind n v cfg scr idxOf items (.done kd) hidx fuel hf, h1],
    by rw [runBatchConcurrent_serial_refines_of_le kind n v cfg scr idxOf items (.done kd) hidx cfuel hcf, h2]⟩

/-- **C11, a cancelling callback leaves the context cancelled for the rest of the run.** Mirrors `Props.C11.cancel_sticks`. -/
theorem C11_cancel_sticks_for_interpreted_source (kind : CtxKind) (n : NodeId) (v : Nat) (sid : StoreId) (cfg : BatchCfg)
    (scr : BatchScript) (ctx : Ctx) (fuel : Nat) (hf : batchFuel scr ≤ fuel) :
    ∃ evs ctx' out, runBatchIR fuel Flyt.Expected.IR.runBatch kind n v sid cfg scr ctx = some (evs, ctx', out) ∧
      ∀ e ∈ evs, evCancels scr e = true → ctx'.isDone = true :=
  transfer (runBatch_refines_of_le kind n v sid cfg scr ctx fuel hf)
    (fun e he hc => Props.C11.cancel_sticks kind n v sid cfg scr ctx e he hc)

/-- **C11, the run terminates with post called exactly once, and every item that was not executed carries an error.** For every context
    (live, cancelled before the run, cancelled from inside any callback), when prep succeeds and a post function exists, the
    interpreted `runBatch` terminates, its trace is prep, per-item events, one post, and a slot whose item has no event is an error.
    Mirrors `Props.C11.post_once_and_unexecuted_are_errors`. -/
theorem C11_post_once_and_unexecuted_are_errors_for_interpreted_source (kind : CtxKind) (n : NodeId) (v : Nat) (sid : StoreId)
    (cfg : BatchCfg) (scr : BatchScript) (ctx : Ctx) (l : List Val) (hp : scr.prep.res = .ok l) (hpost : cfg.hasPost = true)
    (hb : 0 < cfg.budget) (hex : cfg.execS ≠ .absent) (fuel : Nat) (hf : batchFuel scr ≤ fuel) :
    ∃ evs ctx' out, runBatchIR fuel Flyt.Expected.IR.runBatch kind n v sid cfg scr ctx = some (evs, ctx', out) ∧
      ∃ (iev : List Ev) (slots : List Result),
        evs = .bprep n v sid :: iev ++ [.bpost n v sid ((normItems cfg.shape l).map Result.box) (slots.map Result.box)] ∧
        (∀ x ∈ iev, isBpost x = false) ∧ slots.length = (normItems cfg.shape l).length ∧
        ∀ j, j < (normItems cfg.shape l).length → itemEvents j iev = [] → ∃ r, slots[j]? = some r ∧ r.isError = true :=
  transfer (runBatch_refines_of_le kind n v sid cfg scr ctx fuel hf)
    (Props.C11.post_once_and_unexecuted_are_errors kind n v sid cfg scr ctx l hp hpost hb hex)

/-- **C11, once a callback of a batch node's visit has cancelled the context, no event of any other visit follows** (the batch
    finishes, then the flow stops): in the trace of the interpreted `Run` on a flow, whatever follows a cancelling event belongs to
    the same visit of the same node. Mirrors `Props.C11.flow_stops_after_batch_cancel` (flow root). -/
theorem C11_flow_stops_after_batch_cancel_for_interpreted_source (env : Env) (fid : NodeId) (start : Option NodeId) (ops : List ConnOp)
    (mfuel : Nat) (sid : StoreId) (st : RunSt) (harena : env.arena fid = .flow start ops)
    (hne : (runNode env (mfuel + 1) fid sid st).2.2 ≠ .fuel) (fuel : Nat) (hf : flowNodeFuel ≤ fuel) :
    ∃ evs st' out, runFlowNodeIR fuel Flyt.Expected.IR.Run env fid start ops mfuel sid st = some (evs, st', out) ∧
      ∀ (pre post : List Ev) (c : Ev), evs = pre ++ c :: post → Flyt.Proofs.cancelsAt env c = true →
        ∀ e ∈ post, Spec.evKey e = Spec.evKey c :=
  transfer (Run_refines_runNode_flow_of_le env fid start ops mfuel sid st harena hne fuel hf)
    (fun _ _ _ hsplit hc => Props.C11.flow_stops_after_batch_cancel env (mfuel + 1) fid sid st hne hsplit hc)

end Flyt.Refine.Source
