import FlytModel.Refine.Seq
/-!
# Refinement: the translated `runBatchConcurrent` (Expected/IR.lean) on the serial schedule against `itemsSerialPool`

* `runBatchConcurrent_serial_refines` — in `concSerialWorld` (every submitted task runs to completion before `Submit` returns;
  `Wait` / deferred `Close` / the mutex are no-ops; `runExecWithRetries` is the model's `runItemRaw`), the IR of
  `runBatchConcurrent` on fresh `items` / `results` arrays yields the events, the context and the slots of the model's
  `itemsSerialPool … items 0 false ctx`, provided the world can tell which item it is handed (`idxOf items[i] = i`).
* `…_of_le`: the same for every fuel at or above `items.length + 37`.

As in `Seq.lean`, the lemmas hold in every world that runs the pool on the serial schedule (`SerialPool`) with item calls
`ItemCalls`. The loop body `concBody` and the closure body `closBody` are named (equal to the sub-terms of the IR by `rfl`), and so
are the closure's statements (`lockS`, `guardS`, …: projections of `closBody`); each statement is run once, in an environment with
any error-handling mode and any rest of the block; from these one lemma per path through the closure (`cbody_*`). `conc_loop`:
induction on the number of remaining iterations of `loopRange` from index `i` with `shouldStop = b` in the environment, against
`itemsSerialPool … (items.drop i) i b ctx` (the final value of `shouldStop` is existentially quantified: nothing after the loop
reads it); then the prologue (`NewWorkerPool`, `defer pool.Close()`, `var mu`, `shouldStop := false`) and `pool.Wait()`.

The closure's `shouldStop = true` assigns the OUTER binding (the closure body runs in the call-site environment; only the
bindings it made itself — `execResult`, `err`, `r`, `ok` — are popped), which is how `b || cfg.stop` reaches the next iteration.
-/
namespace Flyt.Refine
open Flyt Flyt.GoIR
set_option linter.unusedSimpArgs false

/-- the body of the closure handed to `pool.Submit` -/
def closBody : Block := B[
        (.expr (.mcall (.var "mu") "Lock" E[])),
        (.ifS B[] (.bin "&&" (.var "shouldStop") (.bin "==" (.var "errorHandling") (.str "stop"))) B[
          (.assign E[(.index (.var "results") (.var "idx"))] E[(.call "NewErrorResult" E[(.call "fmt.Errorf" E[(.str "batch stopped due to error")])])]),
          (.expr (.mcall (.var "mu") "Unlock" E[])),
          (.ret E[])] B[]),
        (.expr (.mcall (.var "mu") "Unlock" E[])),
        (.ifS B[] (.bin "!=" (.mcall (.var "ctx") "Err" E[]) (.var "nil")) B[
          (.assign E[(.index (.var "results") (.var "idx"))] E[(.call "NewErrorResult" E[(.call "fmt.Errorf" E[(.str "context cancelled")])])]),
          (.ret E[])] B[]),
        (.define ["execResult", "err"] E[(.call "runExecWithRetries" E[(.var "ctx"), (.var "node"), (.var "itm")])]),
        (.expr (.mcall (.var "mu") "Lock" E[])),
        (.ifS B[] (.bin "!=" (.var "err") (.var "nil")) B[
          (.assign E[(.index (.var "results") (.var "idx"))] E[(.call "NewErrorResult" E[(.var "err")])]),
          (.ifS B[] (.bin "==" (.var "errorHandling") (.str "stop")) B[
            (.assign E[(.var "shouldStop")] E[(.var "true")])] B[])] B[
          (.ifS B[(.define ["r", "ok"] E[(.assert (.var "execResult") "Result")])] (.var "ok") B[
            (.assign E[(.index (.var "results") (.var "idx"))] E[(.var "r")])] B[
            (.assign E[(.index (.var "results") (.var "idx"))] E[(.call "NewResult" E[(.var "execResult")])])])]),
        (.expr (.mcall (.var "mu") "Unlock" E[]))]

/-- the body of the `range` loop -/
def concBody : Block := B[
    (.define ["idx"] E[(.var "i")]),
    (.define ["itm"] E[(.var "item")]),
    (.expr (.mcall (.var "pool") "Submit" E[(.funcLit [] closBody)]))]

theorem runBatchConcurrent_body :
    Flyt.Expected.IR.runBatchConcurrent.body = B[
      (.define ["pool"] E[(.call "NewWorkerPool" E[(.var "concurrency")])]),
      (.deferS (.mcall (.var "pool") "Close" E[])),
      (.declare "mu" "sync.Mutex"),
      (.define ["shouldStop"] E[(.var "false")]),
      (.rangeS "i" "item" (.var "items") concBody),
      (.expr (.mcall (.var "pool") "Wait" E[]))] := rfl

def lockS : Stmt := closBody.stmtAt 0
/-- `if shouldStop && errorHandling == "stop" { results[idx] = …; mu.Unlock(); return }` -/
def guardS : Stmt := closBody.stmtAt 1
def unlockS : Stmt := closBody.stmtAt 2
/-- `if ctx.Err() != nil { results[idx] = …; return }` -/
def ctxS : Stmt := closBody.stmtAt 3
/-- `execResult, err := runExecWithRetries(ctx, node, itm)` -/
def callS : Stmt := closBody.stmtAt 4
/-- the result goes into the task's slot; an error under `stop` raises the shared flag -/
def storeS : Stmt := closBody.stmtAt 6

theorem closBody_eq : closBody =
    .cons lockS (.cons guardS (.cons unlockS (.cons ctxS (.cons callS (.cons lockS (.cons storeS (.cons unlockS .nil))))))) := rfl

section
variable {Ω : Type} (W : World Ω)

theorem stmt_expr_mcall (f : Nat) (recv : Expr) (m : String) (st : St Ω) :
    execStmt W (f + 1) (.expr (.mcall recv m .nil)) st
      = (evalExpr W f (.mcall recv m .nil) st).map fun (_, st1) => (.next, st1) := rfl

/-- a closure handed to a method that runs it at once is executed in the environment of the call site -/
theorem stmt_expr_closure (f : Nat) (recv : Expr) (m : String) (ps : List String) (body : Block) (st : St Ω) :
    execStmt W (f + 1) (.expr (.mcall recv m (.cons (.funcLit ps body) .nil))) st =
      match evalExpr W f recv st with
      | some ([r], st1) =>
        if W.invokes r m then
          match execBlock W f body st1 with
          | some (.next, st2) => some (.next, popSt st2 st1.env.length)
          | some (.ret _, st2) => some (.next, popSt st2 st1.env.length)
          | _ => none
        else
          match W.mcall r m [.ref "closure" 0] st1.heap st1.w with
          | some (_, h, w) => some (.next, { st1 with heap := h, w := w })
          | none => none
      | _ => none := rfl

end

/-- environment of the loop: the three locals on top of the six parameters -/
def cEnv (nid N p : Nat) (conc : Int) (eh : String) (b : Bool) : List (String × GV) :=
  [("shouldStop", GV.bool b), ("mu", GV.ref "mutex" 0), ("pool", GV.ref "pool" p),
   ("errorHandling", GV.str eh), ("concurrency", GV.int conc), ("results", GV.slice 1 0 N), ("items", GV.slice 0 0 N),
   ("node", GV.node nid), ("ctx", ctxH)]

/-- environment of the closure for item `i`: the loop variables and their copies `idx`, `itm` on top of `cEnv` -/
def tEnv (nid N p : Nat) (conc : Int) (i : Nat) (item : Result) (eh : String) (b : Bool) : List (String × GV) :=
  ("itm", .result item) :: ("idx", .int i) :: ("item", .result item) :: ("i", .int i) :: cEnv nid N p conc eh b

def ehB (s : Bool) : String := if s then "stop" else "continue"

theorem ehB_stop (s : Bool) : (ehB s == "stop") = s := by cases s <;> decide

/-- what `runBatchConcurrent` asks of a world that runs the pool on the serial schedule: a submitted closure is invoked at
    once, `Wait` / deferred `Close` / the mutex do nothing -/
structure SerialPool (W : World SeqW) : Prop extends ItemCaller W where
  invokes : ∀ p, W.invokes (.ref "pool" p) "Submit" = true
  lock : ∀ h w, W.mcall (.ref "mutex" 0) "Lock" [] h w = some ([], h, w)
  unlock : ∀ h w, W.mcall (.ref "mutex" 0) "Unlock" [] h w = some ([], h, w)
  newPool : ∀ (c : Int) h w, W.call "NewWorkerPool" [.int c] h w = some ([.ref "pool" c.toNat], h, w)
  close : ∀ p h w, W.mcall (.ref "pool" p) "defer:Close" [] h w = some ([], h, w)
  wait : ∀ p h w, W.mcall (.ref "pool" p) "Wait" [] h w = some ([], h, w)

section
variable {W : World SeqW} (H : SerialPool W) (nid N p : Nat) (conc : Int) (i : Nat) (item : Result) (eh : String)
include H

local macro "conc_exec" "[" ts:Lean.Parser.Tactic.simpLemma,* "]" : tactic =>
  `(tactic| gosimp [closBody, Block.stmtAt, stmt_expr_mcall, tEnv, cEnv, ctxH, heapSet, H.lock, H.unlock, $ts,*])

/-- the loop body hands the closure to `pool.Submit`, which runs it: whether it returns early or falls off its end -/
theorem submit_spec (c : Ctl) (hc : c = .next ∨ c = .ret []) (b b' : Bool) (h h' : Heap) (w w' : SeqW) (env' : GoIR.Env) (f : Nat)
    (hclos : execBlock W (f + 1) closBody ⟨tEnv nid N p conc i item eh b, h, w⟩
      = some (c, ⟨env' ++ tEnv nid N p conc i item eh b', h', w'⟩)) :
    execBlock W (f + 5) concBody ⟨("item", .result item) :: ("i", .int i) :: cEnv nid N p conc eh b, h, w⟩
      = some (.next, ⟨tEnv nid N p conc i item eh b', h', w'⟩) := by
  have hpop : GoIR.Env.popTo (env' ++ tEnv nid N p conc i item eh b') 13 = tEnv nid N p conc i item eh b' := by
    simp [GoIR.Env.popTo, tEnv, cEnv]
  simp only [tEnv, cEnv] at hclos hpop
  rcases hc with rfl | rfl <;> gosimp [concBody, tEnv, cEnv, stmt_expr_closure, H.invokes, hclos, hpop]

theorem guard_pass (b : Bool) (hg : (b && eh == "stop") = false) (f : Nat) (rest : Block) (h : Heap) (w : SeqW) :
    execBlock W (f + 6) (.cons lockS (.cons guardS rest)) ⟨tEnv nid N p conc i item eh b, h, w⟩
      = execBlock W (f + 4) rest ⟨tEnv nid N p conc i item eh b, h, w⟩ := by
  cases b
  · conc_exec [lockS, guardS]
  · have he : (eh == "stop") = false := by simpa using hg
    conc_exec [lockS, guardS, he]

/-- a live task up to the second `mu.Lock()`: the item call's two values are bound -/
theorem call_spec (b : Bool) (h h' : Heap) (evs : List Ev) (w1 : SeqW) (g e : GV)
    (hr : W.call "runExecWithRetries" [ctxH, .node nid, .result item] h ⟨evs, .live⟩ = some ([g, e], h', w1))
    (f : Nat) (rest : Block) :
    execBlock W (f + 12) (.cons unlockS (.cons ctxS (.cons callS (.cons lockS rest)))) ⟨tEnv nid N p conc i item eh b, h, ⟨evs, .live⟩⟩
      = execBlock W (f + 8) rest ⟨("err", e) :: ("execResult", g) :: tEnv nid N p conc i item eh b, h', w1⟩ := by
  simp only [ctxH] at hr
  conc_exec [unlockS, ctxS, callS, lockS, H.ctxErr, ctxErrGV, hr]

section
variable (b : Bool) (items res : List Result) (hi : i < N) (hres : res.length = N) (w : SeqW) (f : Nat)
include hi hres

theorem guard_stop (hs : (eh == "stop") = true) (rest : Block) :
    execBlock W (f + 12) (.cons lockS (.cons guardS rest)) ⟨tEnv nid N p conc i item eh true, [items, res], w⟩
      = some (.ret [], ⟨tEnv nid N p conc i item eh true, [items, res.set i (newErrorResult (.fw .batchStopped))], w⟩) := by
  subst hres
  have htag : fwTagOf "batch stopped due to error" = .batchStopped := by decide
  conc_exec [lockS, guardS, unlockS, hs, hi, htag]

theorem ctx_done (evs : List Ev) (kd : CtxKind) (rest : Block) :
    execBlock W (f + 12) (.cons unlockS (.cons ctxS rest)) ⟨tEnv nid N p conc i item eh b, [items, res], ⟨evs, .done kd⟩⟩
      = some (.ret [], ⟨tEnv nid N p conc i item eh b, [items, res.set i (newErrorResult (.fw .batchCancelled))], ⟨evs, .done kd⟩⟩) := by
  subst hres
  have htag : fwTagOf "context cancelled" = .batchCancelled := by decide
  conc_exec [unlockS, ctxS, H.ctxErr, ctxErrGV, hi, htag]

theorem store_err (e : ErrRoot) (g : GV) :
    execBlock W (f + 12) (.cons storeS (.cons unlockS .nil))
        ⟨("err", .err e) :: ("execResult", g) :: tEnv nid N p conc i item eh b, [items, res], w⟩
      = some (.next, ⟨("err", .err e) :: ("execResult", g) :: tEnv nid N p conc i item eh (b || eh == "stop"),
          [items, res.set i (newErrorResult e)], w⟩) := by
  subst hres
  cases he : eh == "stop" <;> conc_exec [storeS, unlockS, hi, he]

theorem store_ok (g : GV) (x : Val) (hg : BatchStack.RawVal g x) :
    execBlock W (f + 12) (.cons storeS (.cons unlockS .nil))
        ⟨("err", .nil) :: ("execResult", g) :: tEnv nid N p conc i item eh b, [items, res], w⟩
      = some (.next, ⟨("err", .nil) :: ("execResult", g) :: tEnv nid N p conc i item eh b, [items, res.set i (slotOfVal x)], w⟩) := by
  subst hres
  rcases hg.store H.toItemCaller with rfl | ⟨hA, hs⟩
  · conc_exec [storeS, unlockS, H.assertRes, hi]
  · rw [← hs]
    conc_exec [storeS, unlockS, hA, hi]

end

end

section
variable {W : World SeqW} (H : SerialPool W) (nid N p i : Nat) (conc : Int) (item : Result) (items res : List Result) (evs : List Ev)
  (hi : i < N) (hres : res.length = N)
include H hi hres

theorem cbody_stopped (ctx : Ctx) (c : Nat) :
    execBlock W (c + 30) concBody
      ⟨("item", .result item) :: ("i", .int i) :: cEnv nid N p conc "stop" true, [items, res], ⟨evs, ctx⟩⟩
      = some (.next, ⟨tEnv nid N p conc i item "stop" true,
          [items, res.set i (newErrorResult (.fw .batchStopped))], ⟨evs, ctx⟩⟩) :=
  submit_spec H nid N p conc i item "stop" _ (.inr rfl) true true _ _ _ _ [] (c + 25)
    (by rw [closBody_eq]; exact guard_stop H nid N p conc i item "stop" items res hi hres _ (c + 14) rfl _)

theorem cbody_done (b s : Bool) (kd : CtxKind) (hbs : (b && s) = false) (c : Nat) :
    execBlock W (c + 30) concBody
      ⟨("item", .result item) :: ("i", .int i) :: cEnv nid N p conc (ehB s) b, [items, res], ⟨evs, .done kd⟩⟩
      = some (.next, ⟨tEnv nid N p conc i item (ehB s) b,
          [items, res.set i (newErrorResult (.fw .batchCancelled))], ⟨evs, .done kd⟩⟩) :=
  submit_spec H nid N p conc i item (ehB s) _ (.inr rfl) b b _ _ _ _ [] (c + 25)
    (by rw [closBody_eq, guard_pass H nid N p conc i item (ehB s) b (by rw [ehB_stop]; exact hbs) (c + 20)]
        exact ctx_done H nid N p conc i item (ehB s) b items res hi hres (c + 12) evs kd _)

theorem cbody_err (b s : Bool) (w1 : SeqW) (e : ErrRoot) (hbs : (b && s) = false)
    (hr : W.call "runExecWithRetries" [ctxH, .node nid, .result item] [items, res] ⟨evs, .live⟩
      = some ([.nil, .err e], [items, res], w1)) (c : Nat) :
    execBlock W (c + 30) concBody
      ⟨("item", .result item) :: ("i", .int i) :: cEnv nid N p conc (ehB s) b, [items, res], ⟨evs, .live⟩⟩
      = some (.next, ⟨tEnv nid N p conc i item (ehB s) (b || s), [items, res.set i (newErrorResult e)], w1⟩) :=
  submit_spec H nid N p conc i item (ehB s) _ (.inl rfl) b (b || s) _ _ _ _ [_, _] (c + 25)
    (by rw [closBody_eq, guard_pass H nid N p conc i item (ehB s) b (by rw [ehB_stop]; exact hbs) (c + 20),
          call_spec H nid N p conc i item (ehB s) b _ _ evs w1 _ _ hr (c + 12),
          store_err H nid N p conc i item (ehB s) b items res hi hres w1 (c + 8) e _, ehB_stop]
        rfl)

theorem cbody_ok (b s : Bool) (w1 : SeqW) (g : GV) (x : Val) (hbs : (b && s) = false) (hg : BatchStack.RawVal g x)
    (hr : W.call "runExecWithRetries" [ctxH, .node nid, .result item] [items, res] ⟨evs, .live⟩
      = some ([g, .nil], [items, res], w1)) (c : Nat) :
    execBlock W (c + 30) concBody
      ⟨("item", .result item) :: ("i", .int i) :: cEnv nid N p conc (ehB s) b, [items, res], ⟨evs, .live⟩⟩
      = some (.next, ⟨tEnv nid N p conc i item (ehB s) b, [items, res.set i (slotOfVal x)], w1⟩) :=
  submit_spec H nid N p conc i item (ehB s) _ (.inl rfl) b b _ _ _ _ [("err", .nil), ("execResult", g)] (c + 25)
    (by rw [closBody_eq, guard_pass H nid N p conc i item (ehB s) b (by rw [ehB_stop]; exact hbs) (c + 20),
          call_spec H nid N p conc i item (ehB s) b _ _ evs w1 _ _ hr (c + 12)]
        exact store_ok H nid N p conc i item (ehB s) b items res hi hres w1 (c + 8) g x hg)

end

section
variable (kind : CtxKind) (n : NodeId) (v : Nat) (cfg : BatchCfg) (scr : BatchScript)

theorem conc_loop {W : World SeqW} (H : SerialPool W) (nid p : Nat) (conc : Int) (items : List Result)
    (hcall : ItemCalls kind n v cfg scr W nid items) (c k : Nat) :
    ∀ (i : Nat) (res : List Result) (evs : List Ev) (ctx : Ctx) (b : Bool), i + k = items.length → res.length = items.length →
    ∃ b' : Bool,
    loopRange W (k + c + 31) "i" "item" 0 0 items.length i concBody
        ⟨cEnv nid items.length p conc (ehB cfg.stop) b, [items, res], ⟨evs, ctx⟩⟩
      = some (.next, ⟨cEnv nid items.length p conc (ehB cfg.stop) b',
          [items, res.take i ++ (itemsSerialPool kind n v cfg scr (items.drop i) i b ctx).2.2],
          ⟨evs ++ (itemsSerialPool kind n v cfg scr (items.drop i) i b ctx).1,
           (itemsSerialPool kind n v cfg scr (items.drop i) i b ctx).2.1⟩⟩) := by
  induction k with
  | zero =>
    intro i res evs ctx b hik hres
    have : ¬ i < items.length := by omega
    have hd : items.drop i = [] := by apply List.drop_eq_nil_of_le; omega
    have ht : res.take i = res := by apply List.take_of_length_le; omega
    exact ⟨b, by simp [loopRange, this, hd, ht, itemsSerialPool]⟩
  | succ k ih =>
    intro i res evs ctx b hik hres
    have hi : i < items.length := by omega
    have hi' : i < res.length := by omega
    have hd : items.drop i = items[i] :: items.drop (i + 1) := List.drop_eq_getElem_cons hi
    have fuelE : k + c + 31 = (k + c + 1) + 30 := by omega
    rw [show k + 1 + c + 31 = (k + c + 1 + 30) + 1 from by omega, loopRange_items W _ _ _ _ _ _ _ hi]
    have pop4 : ∀ eh b b' h w, popSt (Ω := SeqW) ⟨tEnv nid items.length p conc i items[i] eh b, h, w⟩
        (cEnv nid items.length p conc eh b').length = ⟨cEnv nid items.length p conc eh b, h, w⟩ :=
      fun _ _ _ _ _ => rfl
    by_cases hstop : (b && cfg.stop) = true
    · have hb : b = true := by simp at hstop; exact hstop.1
      have hs : cfg.stop = true := by simp at hstop; exact hstop.2
      subst hb
      obtain ⟨b', ih'⟩ := ih (i + 1) (res.set i (newErrorResult (.fw .batchStopped))) evs ctx true (by omega) (by simpa using hres)
      refine ⟨b', ?_⟩
      have he : ehB cfg.stop = "stop" := by simp [ehB, hs]
      rw [he] at ih' ⊢
      rw [cbody_stopped H nid _ p i conc items[i] items res evs hi hres ctx]
      simp only [pop4]
      rw [← fuelE, ih', hd]
      simp [itemsSerialPool, hs, take_set_succ _ _ _ hi', -List.getElem_cons_drop]
    · have hgo : (b && cfg.stop) = false := by simpa using hstop
      have hgo' : ¬ (b = true ∧ cfg.stop = true) := by simpa using hstop
      cases ctx with
      | done kd =>
        obtain ⟨b', ih'⟩ := ih (i + 1) (res.set i (newErrorResult (.fw .batchCancelled))) evs (.done kd) b (by omega) (by simpa using hres)
        refine ⟨b', ?_⟩
        rw [cbody_done H nid _ p i conc items[i] items res evs hi hres b cfg.stop kd hgo]
        simp only [pop4]
        rw [← fuelE, ih', hd]
        simp [itemsSerialPool, hgo', take_set_succ _ _ _ hi', -List.getElem_cons_drop]
      | live =>
        obtain ⟨rs, hrs, hret⟩ := hcall i hi res evs
        rcases hr : runItemRaw kind n v cfg i items[i] (scr.item i) .live with ⟨ev1, ctx1, (e | x)⟩
        · rw [hr] at hrs hret
          simp only [BatchStack.RetOK] at hret
          subst hret
          obtain ⟨b', ih'⟩ := ih (i + 1) (res.set i (newErrorResult e)) (evs ++ ev1) ctx1 (b || cfg.stop) (by omega) (by simpa using hres)
          refine ⟨b', ?_⟩
          rw [cbody_err H nid _ p i conc items[i] items res evs hi hres b cfg.stop _ e hgo hrs]
          simp only [pop4]
          rw [← fuelE, ih', hd]
          simp [itemsSerialPool, runItem_eq_raw, hr, hgo', take_set_succ _ _ _ hi', -List.getElem_cons_drop]
        · rw [hr] at hrs hret
          simp only [BatchStack.RetOK] at hret
          obtain ⟨g, rfl, hg⟩ := hret
          obtain ⟨b', ih'⟩ := ih (i + 1) (res.set i (slotOfVal x)) (evs ++ ev1) ctx1 b (by omega) (by simpa using hres)
          refine ⟨b', ?_⟩
          rw [cbody_ok H nid _ p i conc items[i] items res evs hi hres b cfg.stop _ g x hgo hg hrs]
          simp only [pop4]
          rw [← fuelE, ih', hd]
          simp [itemsSerialPool, runItem_eq_raw, hr, hgo', take_set_succ _ _ _ hi', -List.getElem_cons_drop]

theorem conc_call {W : World SeqW} (H : SerialPool W) (items : List Result) (hcall : ItemCalls kind n v cfg scr W n items)
    (evs : List Ev) (ctx : Ctx) (fuel : Nat) (hf : items.length + 37 ≤ fuel) :
    callFunc W fuel Flyt.Expected.IR.runBatchConcurrent
        [ctxH, .node n, .slice 0 0 items.length, .slice 1 0 items.length, .int cfg.conc, .str (ehOf cfg)]
        [items, List.replicate items.length ⟨Val.nil, none⟩] ⟨evs, ctx⟩
      = some ([], [items, (itemsSerialPool kind n v cfg scr items 0 false ctx).2.2],
          ⟨evs ++ (itemsSerialPool kind n v cfg scr items 0 false ctx).1,
           (itemsSerialPool kind n v cfg scr items 0 false ctx).2.1⟩) := by
  obtain ⟨c, rfl⟩ := Nat.exists_eq_add_of_le hf
  obtain ⟨b', hl⟩ := conc_loop kind n v cfg scr H n cfg.conc cfg.conc items hcall c items.length 0
    (List.replicate items.length ⟨Val.nil, none⟩) evs ctx false (by omega) (by simp)
  simp only [cEnv, ehB] at hl
  have hrecv : Flyt.Expected.IR.runBatchConcurrent.recv = "" := rfl
  have hpar : Flyt.Expected.IR.runBatchConcurrent.params = ["ctx", "node", "items", "results", "concurrency", "errorHandling"] := rfl
  simp [callFunc, runBatchConcurrent_body, hrecv, hpar, Env.pushAll, Env.push, execBlock, execStmt, evalExpr, evalArgs,
    evalRhs, isCommaOk, Env.get, zeroOf, H.newPool, H.close, H.wait, ehOf,
    show items.length + 37 + c = items.length + c + 31 + 1 + 1 + 1 + 1 + 1 + 1 from by omega, hl]

variable (idxOf : Result → Nat)

theorem cw_pool (c : Int) (h : Heap) (w : SeqW) :
    (concSerialWorld kind n v cfg scr idxOf).call "NewWorkerPool" [.int c] h w = some ([.ref "pool" c.toNat], h, w) := rfl

theorem concSerialWorld_serial : SerialPool (concSerialWorld kind n v cfg scr idxOf) where
  toItemCaller := ⟨fun _ _ _ => rfl, fun _ _ => rfl, fun _ _ => rfl, fun _ => rfl, fun _ _ _ _ _ _ => rfl⟩
  invokes _ := rfl
  lock _ _ := rfl
  unlock _ _ := rfl
  newPool _ _ _ := rfl
  close _ _ _ := rfl
  wait _ _ _ := rfl

end

def concFuel (items : List Result) : Nat := items.length + 40

/-- The translated `runBatchConcurrent`, run by the GoIR interpreter on the schedule in which every submitted task runs to
    completion before `Submit` returns, yields the events, the context and the slots of the model's `itemsSerialPool`: for every
    fuel at or above `items.length + 37`. -/
theorem runBatchConcurrent_serial_refines_of_le (kind : CtxKind) (n : NodeId) (v : Nat) (cfg : BatchCfg) (scr : BatchScript)
    (idxOf : Result → Nat) (items : List Result) (ctx : Ctx)
    (hidx : ∀ i (h : i < items.length), idxOf items[i] = i) (fuel : Nat) (hf : items.length + 37 ≤ fuel) :
    GoIR.itemsConcSerialIR fuel Flyt.Expected.IR.runBatchConcurrent kind n v cfg scr idxOf items ctx
      = some (itemsSerialPool kind n v cfg scr items 0 false ctx) := by
  have h := conc_call kind n v cfg scr (concSerialWorld_serial kind n v cfg scr idxOf) items
    (fun i hi res evs => seqWorld_calls kind n v cfg scr idxOf n items hidx i hi res evs) [] ctx fuel hf
  simp only [ehOf] at h
  simp [itemsConcSerialIR, h]

/-- The translated `runBatchConcurrent`, run by the GoIR interpreter on the schedule in which every submitted task runs to
    completion before `Submit` returns, yields the events, the context and the slots of the model's `itemsSerialPool`. -/
theorem runBatchConcurrent_serial_refines (kind : CtxKind) (n : NodeId) (v : Nat) (cfg : BatchCfg) (scr : BatchScript)
    (idxOf : Result → Nat) (items : List Result) (ctx : Ctx)
    (hidx : ∀ i (h : i < items.length), idxOf items[i] = i) :
    GoIR.itemsConcSerialIR (concFuel items) Flyt.Expected.IR.runBatchConcurrent kind n v cfg scr idxOf items ctx
      = some (itemsSerialPool kind n v cfg scr items 0 false ctx) :=
  runBatchConcurrent_serial_refines_of_le kind n v cfg scr idxOf items ctx hidx (concFuel items) (by unfold concFuel; omega)

end Flyt.Refine
