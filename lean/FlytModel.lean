import FlytModel.Core
import FlytModel.Model.Run
import FlytModel.Model.Batch
import FlytModel.Model.Flow
import FlytModel.Model.Flat
import FlytModel.Codec
import FlytModel.Spec.Flow
import FlytModel.Spec.Batch
import FlytModel.Model.Bind
import FlytModel.Spec.Bind
import FlytModel.Props.C16
import FlytModel.Props.C12
import FlytModel.Props.C08
import FlytModel.Model.Value
import FlytModel.Spec.Value
import FlytModel.Props.C15
import FlytModel.Model.Store
import FlytModel.Spec.Store
import FlytModel.Props.C14
import FlytModel.Model.Config
import FlytModel.Spec.Config
import FlytModel.Props.C19
import FlytModel.Model.Wait
import FlytModel.Spec.Wait
import FlytModel.Proofs.Wait
import FlytModel.Props.C20
import FlytModel.Facts
import FlytModel.Generated.Facts
import FlytModel.Model.StoreConc
import FlytModel.Proofs.StoreConc
import FlytModel.Props.C13
import FlytModel.Props.C12Facts
import FlytModel.Props.C04Facts
import FlytModel.Proofs.Table
import FlytModel.Proofs.Big
import FlytModel.Proofs.Attempts
import FlytModel.Proofs.Leaf
import FlytModel.Proofs.Flatten
import FlytModel.Proofs.FailStop
import FlytModel.Proofs.BatchLemmas
import FlytModel.Proofs.Events
import FlytModel.Proofs.Cancel
import FlytModel.Proofs.Path
import FlytModel.Proofs.Cleared
import FlytModel.Proofs.CancelFree
import FlytModel.Proofs.SpecBridge
import FlytModel.Proofs.SpecC03
import FlytModel.Proofs.SpecC18
import FlytModel.Proofs.DriverTie
import FlytModel.Proofs.ExampleEnv
import FlytModel.Props.C03
import FlytModel.Props.C04
import FlytModel.Props.C05
import FlytModel.Props.C10
import FlytModel.Proofs.L.Attempts
import FlytModel.Proofs.L.Leaf
import FlytModel.Proofs.L.LeafFacts
import FlytModel.Proofs.L.LeafSpec
import FlytModel.Proofs.L.Flow
import FlytModel.Proofs.L.Visits
import FlytModel.Proofs.L.Item
import FlytModel.Proofs.L.BatchItems
import FlytModel.Proofs.L.Retry
import FlytModel.Proofs.L.ConcRetry
import FlytModel.Proofs.L.Payload
import FlytModel.Proofs.L.Styles
import FlytModel.Props.C01
import FlytModel.Props.C02
import FlytModel.Props.C17
import FlytModel.Props.C18
import FlytModel.Proofs.BatchSeq
import FlytModel.Proofs.BatchConc
import FlytModel.Proofs.BatchBridge
import FlytModel.Props.C06
import FlytModel.Props.C07
import FlytModel.Props.C09
import FlytModel.Props.C11
import FlytModel.Proofs.BatchGated
import FlytModel.GoIR.Syntax
import FlytModel.GoIR.Interp
import FlytModel.GoIR.Worlds
import FlytModel.GoIR.Gen
import FlytModel.Generated.IR
import FlytModel.Expected.IR
import FlytModel.Refine.FlowExec
import FlytModel.Refine.Seq
import FlytModel.Refine.Item
import FlytModel.Refine.Run
import FlytModel.Refine.Range
import FlytModel.Refine.RunNode
import FlytModel.Refine.Batch
import FlytModel.Refine.ConcSerial
import FlytModel.Refine.Accessors
import FlytModel.Refine.Config
import FlytModel.Refine.Adapters
import FlytModel.GoIR.StoreWorld
import FlytModel.Refine.Store
import FlytModel.GoIR.FlowBuildWorld
import FlytModel.Refine.FlowBuild
import FlytModel.GoIR.PoolWorld
import FlytModel.Refine.Pool
import FlytModel.Model.FlowRetry
import FlytModel.Spec.FlowRetry
import FlytModel.Refine.BridgeStore
import FlytModel.Refine.BridgeFlow
import FlytModel.Refine.BridgePool
import FlytModel.Refine.Bridges
import FlytModel.GoIR.SliceWorld
import FlytModel.Refine.Slices
import FlytModel.GoIR.CtorWorld
import FlytModel.Refine.Ctors
import FlytModel.GoIR.TaskWorld
import FlytModel.Refine.Task
import FlytModel.GoIR.BindWorld
import FlytModel.Refine.BindR
import FlytModel.Proofs.FlowRetry
import FlytModel.Props.C02Flow
import FlytModel.Refine.SourceProps
import FlytModel.GoIR.SubmitWorld
import FlytModel.Refine.Submit
import FlytModel.Refine.ConcAssembly
import FlytModel.GoIR.SmallWorld
import FlytModel.Refine.Small
import FlytModel.GoIR.GenericWorld
import FlytModel.Refine.Generic
import FlytModel.GoIR.NewPoolWorld
import FlytModel.Refine.NewPool
import FlytModel.GoIR.BatchStackWorld
import FlytModel.Refine.BatchStack
import FlytModel.Refine.WorldLe
import FlytModel.GoIR.StackWorld
import FlytModel.Refine.Stack
import FlytModel.GoIR.FullStackWorld
import FlytModel.Refine.FullStack
import FlytModel.GoIR.FullConcWorld
import FlytModel.Refine.FullConc
